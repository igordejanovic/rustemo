import Rustemo.Model.Basic
import Rustemo.Model.Dump
import Rustemo.Model.LR
import Rustemo.Model.Print
import Rustemo.Model.Cert
import Rustemo.Model.Core
import Rustemo.Props.C01
import Rustemo.Props.C02
import Rustemo.Props.C13
import Rustemo.Props.C14
import Rustemo.Proofs.LayoutScan
import Rustemo.Props.C12
import Rustemo.Props.C15
import Rustemo.Props.C18
import Rustemo.Driver.Regen
import Rustemo.Props.C04
import Rustemo.Props.C17
import Rustemo.Driver.Cli
import Rustemo.Props.C03
import Rustemo.Props.C05
import Rustemo.Props.C06
import Rustemo.Props.C07
import Rustemo.Props.C12Glr
import Rustemo.Props.C03Bytes
import Rustemo.Props.C08
import Rustemo.Props.C16
import Rustemo.Driver.Front
import Rustemo.Props.C09
import Rustemo.Driver.Ast
import Rustemo.Props.C10
import Rustemo.Props.C11
import Rustemo.Driver.Glr
import Rustemo.Props.C04Construction
