import Rustemo.Model.Glr
import Rustemo.Model.GlrCert
import Rustemo.Model.GlrNoDupCert
import Rustemo.Model.GlrLexCert
import Rustemo.Model.Dump
import Rustemo.Model.Print
/-!
# Driver handler for the GLR engine model

Request (the text after the command word `glr`):

    <partial 0/1> <input-hex> [<max_trees>] #<match matrix>

Answer: exactly the line `harness/dyn/src/run.rs::run_glr` prints for the real `GlrParser`:

* `ok <solutions> iter_same=<b> iter_count=<n> beyond_none=<b> trees <tree> ; <tree> ; …` (at most
  `max_trees` trees, default 64, each built by index with the model of `Tree::build`),
* `ok <solutions> forest <verif_dump> @trees <idx>=<shape> ; …` for `max_trees = 99999` (the SPPF in the
  record format and numbering of `Forest::verif_dump`, so the sharing structure is compared textually),
* `ok parse-only` for `max_trees = 0`,
* `err expected <pos>-<pos> <kinds>`, `panic <site>`, `timeout`.

The request `cert` (no further fields) runs the certificate `Cert.glr` of `Model/GlrCert.lean` on the loaded
table: `cert glr=<b> nul=<b> structuralRN=<b> symbols=<b> total=<b> layoutsafe=<none|cert|FAIL> completeRN=<b>`.
-/
namespace Rustemo.Glr
open Rustemo

def envOfDump (d : Dump) (input : List Nat) (m : Nat → Nat → Option Nat) : Env :=
  { g := d.grammar, t := d.table, input := input, recog := m,
    skipWs := d.settings.skipWs && d.table.layoutState.isNone, longest := d.settings.longestMatch,
    grammarOrder := d.settings.grammarOrder }

/-! `Forest::verif_dump` (gss.rs:835-912): ids in first-visit order, records in completion order -/

structure DumpSt where
  nodeIds : List (Nat × Nat) := []      -- graph node id ↦ dump id
  parIds : List (Nat × Nat) := []       -- edge id ↦ dump id
  out : Array String := #[]

def lookupId (m : List (Nat × Nat)) (k : Nat) : Option Nat := (m.find? (fun e => e.1 == k)).map (·.2)

mutual
partial def dumpNode (g : Gss) (st : DumpSt) (n : Nat) : DumpSt × Nat :=
  match lookupId st.nodeIds n with
  | some id => (st, id)
  | none =>
    let id := st.nodeIds.length
    let st := { st with nodeIds := (n, id) :: st.nodeIds }
    match g.nodes[n]? with
    | some (.term tk sp) =>
      ({ st with out := st.out.push s!"T {id} {tk.kind} {sp.s.pos} {sp.e.pos}" }, id)
    | some (.nonterm p sp _ ch) =>
      let (st, ps) := ch.foldl (fun (acc : DumpSt × List Nat) e =>
        let r := dumpParent g acc.1 e
        (r.1, acc.2 ++ [r.2])) (st, [])
      let rec_ := s!"N {id} {p} {sp.s.pos} {sp.e.pos}" ++ String.join (ps.map fun x => s!" {x}")
      ({ st with out := st.out.push rec_ }, id)
    | none => ({ st with out := st.out.push s!"E {id}" }, id)
partial def dumpParent (g : Gss) (st : DumpSt) (e : Nat) : DumpSt × Nat :=
  match lookupId st.parIds e with
  | some id => (st, id)
  | none =>
    let id := st.parIds.length
    let st := { st with parIds := (e, id) :: st.parIds }
    let (st, ns) := (possOf g e).foldl (fun (acc : DumpSt × List Nat) n =>
      let r := dumpNode g acc.1 n
      (r.1, acc.2 ++ [r.2])) (st, [])
    ({ st with out := st.out.push (s!"P {id}" ++ String.join (ns.map fun x => s!" {x}")) }, id)
end

def verifDump (r : GlrResult) : String :=
  let (st, roots) := r.roots.foldl (fun (acc : DumpSt × List Nat) n =>
    let x := dumpNode r.gss acc.1 n
    (x.1, acc.2 ++ [x.2])) (({} : DumpSt), [])
  "roots" ++ String.join (roots.map fun x => s!" {x}") ++ String.join (st.out.toList.map fun x => " | " ++ x)

/-! size of the unfolding, computed on the graph with memoisation: forests whose unfolding is small are
    ALSO run through the specification path (`unfoldNode` → erasure → `Model/Forest.lean`
    `solutions`/`getTree`/`iterate`) and the two answers must agree -/

structure SizeSt where
  memo : List (Nat × Nat) := []
  visiting : List Nat := []

partial def nodeSize (g : Gss) (cap : Nat) (st : SizeSt) (n : Nat) : SizeSt × Nat :=
  match lookupId st.memo n with
  | some sz => (st, sz)
  | none =>
    if st.visiting.contains n then (st, cap) else
    match g.nodes[n]? with
    | some (.nonterm _ _ _ ch) =>
      let st := { st with visiting := n :: st.visiting }
      let (st, sz) := ch.foldl (fun (acc : SizeSt × Nat) e =>
        (possOf g e).foldl (fun (acc : SizeSt × Nat) m =>
          if acc.2 ≥ cap then acc else
          let r := nodeSize g cap acc.1 m
          (r.1, acc.2 + r.2)) acc) (st, 1)
      let sz := min sz cap
      ({ memo := (n, sz) :: st.memo, visiting := st.visiting.erase n }, sz)
    | _ => (st, 1)

def unfoldedSize (r : GlrResult) (cap : Nat) : Nat :=
  (r.roots.foldl (fun (acc : SizeSt × Nat) n =>
    if acc.2 ≥ cap then acc else
    let x := nodeSize r.gss cap acc.1 n
    (x.1, acc.2 + x.2)) (({} : SizeSt), 0)).2

def specCap : Nat := 20000

def b01 (b : Bool) : String := if b then "1" else "0"

/-- `Forest::iter().take(k)` on the graph -/
def fastIterate (r : GlrResult) (sol : Array Nat) : Nat → Nat → List Tree
  | 0, _ => []
  | fuel+1, i =>
    match r.fastGet sol i with
    | some t => t :: fastIterate r sol fuel (i + 1)
    | none => []

def renderTrees (ts : List (Option Tree)) : String :=
  String.join (ts.map fun
    | some t => " " ++ t.render ++ " ;"
    | none => " none ;")

def renderStd (r : GlrResult) (sol : Array Nat) (maxTrees : Nat) : String :=
  let n := r.fastSolutions sol
  let k := min n maxTrees
  let byIndex := (List.range k).map (r.fastGet sol)
  let byIter := fastIterate r sol k 0
  let iterSame := byIndex.all Option.isSome && (byIndex.filterMap id).map Tree.render == byIter.map Tree.render
  let iterCount := if n ≤ 5000 then (fastIterate r sol (n + 1) 0).length else n
  let beyond := (r.fastGet sol n).isNone && (r.fastGet sol (n + 1)).isNone
  s!"ok {n} iter_same={b01 iterSame} iter_count={iterCount} beyond_none={b01 beyond} trees" ++ renderTrees byIndex

/-- the same answer through the specification path -/
def renderStdSpec (r : GlrResult) (maxTrees : Nat) : String :=
  let dr := r.droots
  let f : Forest.Forest := ⟨dr.erase⟩
  let n := f.solutions
  let k := min n maxTrees
  let byIndex := (List.range k).map dr.get
  let erasedByIndex := (List.range k).map f.getTree
  let byIter := f.iterate k 0
  let iterSame := erasedByIndex.all Option.isSome &&
    (erasedByIndex.filterMap id).map Forest.FTree.render == byIter.map Forest.FTree.render &&
    (byIndex.filterMap id).map (fun t => (treeToF t).render) == byIter.map Forest.FTree.render
  let iterCount := if n ≤ 5000 then (f.iterate (n + 1) 0).length else n
  let beyond := (f.getTree n).isNone && (f.getTree (n + 1)).isNone
  s!"ok {n} iter_same={b01 iterSame} iter_count={iterCount} beyond_none={b01 beyond} trees" ++ renderTrees byIndex

def forestIdxs (n : Nat) : List Nat := (List.range (min n 40)) ++ [n, n + 1]

def renderForest (r : GlrResult) (sol : Array Nat) : String :=
  let n := r.fastSolutions sol
  let body := String.join ((forestIdxs n).map fun i =>
    match r.fastGet sol i with
    | some t => s!" {i}={(treeToF t).render} ;"
    | none => s!" {i}=none ;")
  s!"ok {n} forest {verifDump r} @trees" ++ body

def renderForestSpec (r : GlrResult) : String :=
  let f := r.forest
  let n := f.solutions
  let body := String.join ((forestIdxs n).map fun i =>
    match f.getTree i with
    | some t => s!" {i}={t.render} ;"
    | none => s!" {i}=none ;")
  s!"ok {n} forest {verifDump r} @trees" ++ body

def renderGlr (o : Outcome GlrResult) (maxTrees : Nat) : String :=
  match o with
  | .ok r =>
    if maxTrees == 0 then "ok parse-only"
    else
      let cut := cutTable r.gss
      if r.fastHasCut cut then "panic cyclic SPPF (stack overflow in Forest::solutions)"
      else
        let sol := solTable r.gss
        let fast := if maxTrees == 99999 then renderForest r sol else renderStd r sol maxTrees
        if unfoldedSize r specCap < specCap then
          let spec := if maxTrees == 99999 then renderForestSpec r else renderStdSpec r maxTrees
          if r.droots.hasCut then "panic model-internal: unfolding cut but cut table clean"
          else if spec == fast then fast else "panic model-internal: fast path != specification path: " ++ spec
        else fast
  | .err (.expected p ks) => s!"err expected {p.render}-{p.render} {renderKinds ks}"
  | .err .noAction => "err noaction -"
  | .panic s => "panic " ++ s
  | .fuel => "timeout"

def glrFuel (input : List Nat) : Nat := 2000 + 200 * input.length

/-- `glr cert`: the certificate the engine theorems assume (Tie B), with its parts -/
def handleCert (d : Dump) : String :=
  let g := d.grammar
  let t := d.table
  let nul := Canon.nullable g
  -- `LayoutSafe` (hypothesis of the no-panic theorem): void without a Layout rule, otherwise from `Cert.glrLayout`
  let layoutSafe := match t.layoutState with
    | none => "none"
    | some _ => if Cert.glrLayout g t then "cert" else "FAIL"
  s!"cert glr={b01 (Cert.glr g t)} nul={b01 (Cert.nulOk g nul)} structuralRN={b01 (Cert.structuralRN g t (autosOf g t) nul)} symbols={b01 (Cert.symbolsOk g t)} total={b01 (Cert.total g t 0)} layoutsafe={layoutSafe} completeRN={b01 (Cert.completeRN g t)}"

def handleGlr (d : Dump) (args : String) : String :=
  if args.trimAscii.toString == "cert" then handleCert d else
  match args.splitOn " #" with
  | [req, mat] =>
    match fields req with
    | ["lexdet", inp] =>
      -- executable hypotheses of `lexDet_of_singleChar(_ws)` (Proofs/GlrLexDet*.lean): with them the GLR theorems of
      -- Props/C03Bytes.lean hold for this table and input without the lexer hypothesis `LexDet` (full parse)
      let env := envOfDump d (unhexBytes inp) (parseMatrix mat)
      s!"lexdet singlechar={b01 (Cert.singleCharLexer env.g env.t)} bytes={b01 (glrCharEnvOk env)} ws={b01 (glrCharEnvWsOk env)}"
    | ["nodup", pp, inp] =>
      -- per-input certificate of `C03_engine_no_duplicates_from_poss_facts`: `PossFacts` of the result graph, no
      -- repeated root, acyclic unfolding (`Proofs/GlrNoDup.lean`), evaluated on the model's result
      let input := unhexBytes inp
      (match parse (envOfDump d input (parseMatrix mat)) (pp == "1") (glrFuel input) with
       | .ok r => s!"nodup possfacts={b01 (possFactsB r.gss)} roots={b01 (decide r.roots.Nodup)} acyclic={b01 (!(r.fastHasCut (cutTable r.gss)))}"
       | _ => "nodup na")
    | [pp, inp] =>
      let input := unhexBytes inp
      renderGlr (parse (envOfDump d input (parseMatrix mat)) (pp == "1") (glrFuel input)) 64
    | [pp, inp, mt] =>
      let input := unhexBytes inp
      renderGlr (parse (envOfDump d input (parseMatrix mat)) (pp == "1") (glrFuel input)) (natOf mt)
    | _ => "bad-request"
  | _ => "bad-request"

end Rustemo.Glr
