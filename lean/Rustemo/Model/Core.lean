import Rustemo.Model.Basic
/-!
# The LR core: the stack machine without lexing and bookkeeping

`cstep` is the shift/reduce/accept logic of `LRParser::parse_with_context` with the lookahead
token kind given from outside (whatever a lexer produced).  The byte-level model `LR.step`
refines it (`step_refines`, `Proofs/LRSound.lean`); the LR theory (soundness, completeness) is proved of it once
(`Proofs/CoreSound.lean`, `Proofs/CoreComplete.lean`).  `tstep` / `trun` / `tparse` are the same machine fed from a token list, lexed the way rustemo's context-aware lexer
lexes when terminals cannot be confused with each other: the next input token is offered only
if the current state has an action for it.
-/
namespace Rustemo

/-- a leaf without decorations -/
def Tree.tok (a : Nat) : Tree := .leaf a default (0, 0) none
/-- a node without decorations -/
def Tree.mk (p : Nat) (cs : List Tree) : Tree := .node p default none (TreeList.ofList cs)

structure CCfg where
  stack : List (Nat × Tree)    -- (state, tree of the symbol that led to it), top first;
                               -- the start state below the bottom entry is implicit
  shifted : List Nat           -- token kinds shifted so far, most recent first

inductive CStep where
  | shift (c : CCfg)
  | reduce (c : CCfg)
  | accept (tr : Tree)
  | panic (site : String)

def topOf (start : Nat) (st : List (Nat × Tree)) : Nat :=
  match st with
  | [] => start
  | (s, _) :: _ => s

/-- one action with lookahead kind `a`; `leafOf`/`nodeOf` build the (decorated) trees -/
def cstepWith (g : Grammar) (t : Table) (start : Nat)
    (leafOf : Nat → Tree) (nodeOf : Nat → List Tree → Tree) (c : CCfg) (a : Nat) : CStep :=
  match t.cell (topOf start c.stack) a with
  | [] => .panic "actions[0]"
  | act :: _ =>
    match act with
    | .shift s' => .shift ⟨(s', leafOf a) :: c.stack, a :: c.shifted⟩
    | .reduce p len =>
      if c.stack.length < len then .panic "split_off"
      else
        match g.prods[p]? with
        | none => .panic "prod.into()"
        | some pr =>
          match t.goto g (topOf start (c.stack.drop len)) pr.lhs with
          | none => .panic "goto"
          | some s' =>
            .reduce ⟨(s', nodeOf p ((c.stack.take len).reverse.map (·.2))) :: c.stack.drop len, c.shifted⟩
    | .accept =>
      match c.stack with
      | [] => .panic "res_stack.pop().unwrap()"
      | (_, tr) :: _ => .accept tr

def cstep (g : Grammar) (t : Table) (start : Nat) (c : CCfg) (a : Nat) : CStep :=
  cstepWith g t start Tree.tok Tree.mk c a

/-! ## Token-level LR parser -/

structure TCfg where
  c : CCfg
  rest : List Nat             -- remaining token kinds (without STOP)

def lookahead (rest : List Nat) : Nat := rest.headD 0

inductive TStep where
  | next (c : TCfg)
  | accept (tr : Tree)
  | error (tokenIndexFromEnd : Nat) (state : Nat)   -- nothing expected matches
  | panic (site : String)

/-- lex-then-act: the token is found only if the state has an action for it (context-aware lexing) -/
def tstep (g : Grammar) (t : Table) (c : TCfg) : TStep :=
  let a := lookahead c.rest
  let s := topOf 0 c.c.stack
  if t.cell s a = [] then .error c.rest.length s
  else
    match cstep g t 0 c.c a with
    | .reduce c' => .next ⟨c', c.rest⟩
    | .shift c' =>
      match c.rest with
      | [] => .panic "shift STOP"
      | _ :: rest' => .next ⟨c', rest'⟩
    | .accept tr => .accept tr
    | .panic s => .panic s

inductive TResult where
  | accept (tr : Tree)
  | error (tokenIndexFromEnd : Nat) (state : Nat)
  | panic (site : String)
  | fuel
deriving Inhabited

def trun (g : Grammar) (t : Table) : Nat → TCfg → TResult
  | 0, _ => .fuel
  | n+1, c =>
    match tstep g t c with
    | .next c' => trun g t n c'
    | .accept tr => .accept tr
    | .error k s => .error k s
    | .panic s => .panic s

def tparse (g : Grammar) (t : Table) (w : List Nat) (fuel : Nat) : TResult :=
  trun g t fuel ⟨⟨[], []⟩, w⟩

end Rustemo
