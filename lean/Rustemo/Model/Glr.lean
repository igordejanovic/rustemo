import Rustemo.Model.LR
import Rustemo.Model.Lex
import Rustemo.Model.Forest
/-!
# The GLR engine (`rustemo/src/glr/parser.rs`, `rustemo/src/glr/gss.rs`)

Executable transcription of `GlrParser::parse` (parser.rs:959-1062): the graph structured stack
(`GssGraph`: petgraph nodes = `GssHead`, edges = `Rc<Parent>` with the SPPF possibilities), the
per-(position, token kind) sub-frontiers (`BTreeMap` order), `find_lookaheads` (lexer, layout parser,
longest-match / grammar-order filters, partial-parse STOP), `initial_process_frontier`, the FIFO queue
of pending reductions, `find_reduction_paths` (breadth first, most recent edge first — the order in
which petgraph's `edges_directed` yields edges), right-nulled reductions `Reduce(prod, len)` with
`len` below the production length, the fold of a solution into an existing one ("extending
right-nulled children"), the LIFO shifter, `create_forest` and `make_error`.

`Rc` identity is modelled by indices: heads, edges (one `Parent` per edge, created with the edge) and
SPPF nodes live in arrays that only grow; a `Parent`'s `possibilities` are node ids, a node's
`children` are edge ids.  The forest handed to the enumeration model (`Model/Forest.lean`) is the
unfolding of that graph from the root possibilities.

Every `unwrap` / `expect` / index of the two Rust files is an explicit `.panic site`; loops that are
not structurally bounded take fuel and end in `.fuel`.  The regex engines are the parameter
`env.recog` (match matrix).
-/
namespace Rustemo.Glr
open Rustemo

/-! ## Outcome plumbing -/

def obind {α β : Type} (o : Outcome α) (f : α → Outcome β) : Outcome β :=
  match o with
  | .ok a => f a
  | .err e => .err e
  | .panic s => .panic s
  | .fuel => .fuel

/-- `for x in l { s = f(s, x)? }` -/
def foldO {α σ : Type} (f : σ → α → Outcome σ) : List α → σ → Outcome σ
  | [], s => .ok s
  | a :: rest, s => obind (f s a) (foldO f rest)

/-! ## The graph structured stack (gss.rs:19-119) -/

/-- `GssHead` (gss.rs:129-153) -/
structure Head where
  state : Nat
  frontier : Nat
  pos : Pos
  span : Span
  lay : Option Slice
  tok : Option Tok
deriving Repr, Inhabited

/-- `SPPFTree` (gss.rs:286-307); `children` are `Rc<Parent>`s = edge ids.  `SPPFTree::Empty` is never
    constructed by the parser. -/
inductive SNode where
  | term (tok : Tok) (span : Span)
  | nonterm (prod : Nat) (span : Span) (lay : Option Slice) (children : List Nat)
deriving Repr, Inhabited

/-- a GSS edge `src → dst` together with its `Parent` (head_node = src, root_node = dst) -/
structure Edge where
  src : Nat
  dst : Nat
  poss : List Nat          -- `Parent::possibilities`: SPPF node ids in push order
deriving Repr, Inhabited

structure Gss where
  heads : Array Head := #[]
  edges : Array Edge := #[]
  nodes : Array SNode := #[]
deriving Inhabited

def Gss.head (g : Gss) (h : Nat) : Outcome Head :=
  match g.heads[h]? with
  | some hd => .ok hd
  | none => .panic "Invalid Gss head index!"

def Gss.edge (g : Gss) (e : Nat) : Outcome Edge :=
  match g.edges[e]? with
  | some ed => .ok ed
  | none => .panic "Invalid Gss edge index!"

def Gss.node (g : Gss) (n : Nat) : Outcome SNode :=
  match g.nodes[n]? with
  | some nd => .ok nd
  | none => .panic "Invalid SPPF node"

def Gss.addHead (g : Gss) (h : Head) : Gss × Nat :=
  ({ g with heads := g.heads.push h }, g.heads.size)

def Gss.addEdge (g : Gss) (src dst : Nat) (poss : List Nat) : Gss × Nat :=
  ({ g with edges := g.edges.push ⟨src, dst, poss⟩ }, g.edges.size)

def Gss.addNode (g : Gss) (n : SNode) : Gss × Nat :=
  ({ g with nodes := g.nodes.push n }, g.nodes.size)

def Gss.setHead (g : Gss) (i : Nat) (h : Head) : Gss :=
  { g with heads := g.heads.setIfInBounds i h }

def edgeSrcIs (g : Gss) (h e : Nat) : Bool :=
  match g.edges[e]? with
  | some ed => ed.src == h
  | none => false

/-- `backedges` (gss.rs:95): `edges_directed(head, Outgoing)` yields the most recently added edge first -/
def Gss.backedges (g : Gss) (h : Nat) : List Nat :=
  ((List.range g.edges.size).filter (edgeSrcIs g h)).reverse

def edgeDstIs (g : Gss) (d e : Nat) : Bool :=
  match g.edges[e]? with
  | some ed => ed.dst == d
  | none => false

/-- `edge_between` = petgraph `find_edge`: the first outgoing edge with that target -/
def Gss.edgeBetween (g : Gss) (src dst : Nat) : Option Nat :=
  (g.backedges src).find? (edgeDstIs g dst)

/-- push a possibility onto the `Parent` of edge `e` -/
def Gss.pushPoss (g : Gss) (e n : Nat) : Gss :=
  match g.edges[e]? with
  | some ed => { g with edges := g.edges.setIfInBounds e { ed with poss := ed.poss ++ [n] } }
  | none => g

/-- `add_solution` (gss.rs:80-92) -/
def Gss.addSolution (g : Gss) (src dst n : Nat) : Gss :=
  match g.edgeBetween src dst with
  | some e => g.pushPoss e n
  | none => (g.addEdge src dst [n]).1

/-! ## Frontiers: `BTreeMap<(Position, TK), BTreeMap<S, NodeIndex>>` as sorted association lists -/

/-- derived `Ord` of `Position` (position.rs:15): byte offset, then line, then column -/
def posLt (a b : Pos) : Bool :=
  decide (a.pos < b.pos) || (a.pos == b.pos &&
    (decide (a.line < b.line) || (a.line == b.line && decide (a.col < b.col))))

abbrev SubFrontier := List (Nat × Nat)                 -- state ↦ head, ascending state
abbrev Frontier := List ((Pos × Nat) × SubFrontier)    -- (position, token kind) ↦ sub-frontier, ascending

/-- `BTreeMap::insert` (an existing entry is replaced) -/
def sfInsert (s h : Nat) : SubFrontier → SubFrontier
  | [] => [(s, h)]
  | (s', h') :: rest =>
    if s < s' then (s, h) :: (s', h') :: rest
    else if s = s' then (s, h) :: rest
    else (s', h') :: sfInsert s h rest

def sfGet (s : Nat) (sf : SubFrontier) : Option Nat := (sf.find? (fun e => e.1 == s)).map (·.2)

def keyLt (a b : Pos × Nat) : Bool := posLt a.1 b.1 || (a.1 == b.1 && decide (a.2 < b.2))

/-- `frontier.entry(key).or_default().insert(state, head)` -/
def frInsert (k : Pos × Nat) (s h : Nat) : Frontier → Frontier
  | [] => [(k, [(s, h)])]
  | (k', sf) :: rest =>
    if keyLt k k' then (k, [(s, h)]) :: (k', sf) :: rest
    else if k == k' then (k', sfInsert s h sf) :: rest
    else (k', sf) :: frInsert k s h rest

/-- the shifter's `frontier_base: BTreeMap<(S, Position), NodeIndex>` -/
abbrev BaseMap := List ((Nat × Pos) × Nat)

def baseKeyLt (a b : Nat × Pos) : Bool := decide (a.1 < b.1) || (a.1 == b.1 && posLt a.2 b.2)

def baseGet (k : Nat × Pos) (m : BaseMap) : Option Nat := (m.find? (fun e => e.1 == k)).map (·.2)

def baseInsert (k : Nat × Pos) (h : Nat) : BaseMap → BaseMap
  | [] => [(k, h)]
  | (k', h') :: rest =>
    if baseKeyLt k k' then (k, h) :: (k', h') :: rest
    else if k == k' then (k, h) :: rest
    else (k', h') :: baseInsert k h rest

/-! ## `find_lookaheads` (parser.rs:324-410) -/

def Head.toCtx (h : Head) : Ctx := { state := h.state, pos := h.pos, span := h.span, lay := h.lay }

def Head.withCtx (h : Head) (c : Ctx) : Head :=
  { h with state := c.state, pos := c.pos, span := c.span, lay := c.lay }

/-- the filters on more than one token: longest match, then grammar order (parser.rs:340-374) -/
def keepToks (longest grammarOrder : Bool) (toks : List Tok) : List Tok :=
  let l1 := if longest then toks.filter (fun t => t.val.2 == maxLen toks) else toks
  if grammarOrder then l1.take 1 else l1

/-- nothing recognised: STOP under partial parse if expected, otherwise no token (parser.rs:398-409) -/
def stopOrNone (partialParse : Bool) (expected : List (Nat × Bool)) (ctx : Ctx) : List Tok :=
  if partialParse && (expected.map (·.1)).contains 0 then [⟨0, (0, 0), ctx.span⟩] else []

def lexKeep (env : Env) (partialParse : Bool) (expected : List (Nat × Bool)) (ctx : Ctx) : Ctx × List Tok :=
  let r := lexNext env ctx expected
  if r.2.isEmpty then (r.1, stopOrNone partialParse expected r.1)
  else (r.1, keepToks env.longest env.grammarOrder r.2)

/-- what happens after the layout parser returned (parser.rs:389-401): a non-empty layout becomes the layout
    ahead and the lexer runs again; otherwise the head gets its position back (`curPos`) -/
def afterLayout (env : Env) (partialParse : Bool) (expected : List (Nat × Bool)) (curPos : Pos) (ctx : Ctx)
    (r : Outcome ParseResult) : Ctx × Outcome (List Tok) :=
  match r with
  | .ok pr =>
    match pr.slice with
    | some (off, len) =>
      if len > 0 then
        let r := lexKeep env partialParse expected { ctx with lay := some (off, len) }
        (r.1, .ok r.2)
      else ({ ctx with pos := curPos }, .ok (stopOrNone partialParse expected { ctx with pos := curPos }))
    | none => ({ ctx with pos := curPos }, .ok (stopOrNone partialParse expected { ctx with pos := curPos }))
  | .err _ => ({ ctx with pos := curPos }, .ok (stopOrNone partialParse expected { ctx with pos := curPos }))
  | .panic s => (ctx, .panic s)
  | .fuel => (ctx, .fuel)

/-- `find_lookaheads` on the context view of a head: lex; if nothing matches run the layout parser once
    (from the layout state; state and span of the head restored afterwards, the position too unless a
    non-empty layout was parsed) and lex again -/
def findLookaheadsCtx (env : Env) (partialParse : Bool) (fuel : Nat) (ctx : Ctx) : Ctx × Outcome (List Tok) :=
  let expected := env.t.sorted ctx.state
  let r := lexNext env ctx expected
  if !r.2.isEmpty then (r.1, .ok (keepToks env.longest env.grammarOrder r.2))
  else
    match env.t.layoutState with
    | none => (r.1, .ok (stopOrNone partialParse expected r.1))
    | some ls =>
      let cur := r.1.state
      let curSpan := r.1.span
      let lp := layoutParse env ls r.1 fuel
      afterLayout env partialParse expected r.1.pos { lp.1 with state := cur, span := curSpan } lp.2

/-! ## `create_frontier` (parser.rs:257-317) and `head_for_lookahead` (parser.rs:414-456) -/

def copyEdges (newHead : Nat) : List Edge → Gss → Gss
  | [], g => g
  | ed :: rest, g => copyEdges newHead rest (g.addEdge newHead ed.dst ed.poss).1

def edgesOf (g : Gss) (es : List Nat) : List Edge := es.filterMap (fun e => g.edges[e]?)

/-- a new head for one more lookahead token: copy of the head with that token, every parent link copied
    (new `Parent`, the same possibilities) in `backedges` order -/
def headForLookahead (g : Gss) (hd : Head) (headIdx : Nat) (tk : Tok) : Gss × Nat :=
  let r := g.addHead { hd with tok := some tk }
  (copyEdges r.2 (edgesOf g (g.backedges headIdx)) r.1, r.2)

def splitHeads (hd : Head) (headIdx : Nat) (position : Pos) : List Tok → Gss × Frontier → Gss × Frontier
  | [], acc => acc
  | tk :: rest, (g, fr) =>
    let r := headForLookahead g hd headIdx tk
    splitHeads hd headIdx position rest (r.1, frInsert (position, tk.kind) hd.state r.2 fr)

/-- the layout slice between the head position and the start of the first token (parser.rs:288-293) -/
def layoutBefore (env : Env) (hd : Head) (tk : Tok) : Outcome (Option Slice) :=
  if posLt hd.pos tk.span.s then
    if hd.pos.pos ≤ tk.span.s.pos && tk.span.s.pos ≤ env.input.length then
      .ok (some (hd.pos.pos, tk.span.s.pos - hd.pos.pos))
    else .panic "input.slice"
  else .ok hd.lay

/-- one head of the frontier base -/
def frontierHead (env : Env) (partialParse : Bool) (fuel : Nat) (acc : Gss × Frontier) (headIdx : Nat) :
    Outcome (Gss × Frontier) :=
  obind (acc.1.head headIdx) fun hd =>
  match hd.tok with
  | some tk => .ok (acc.1, frInsert (hd.pos, tk.kind) hd.state headIdx acc.2)
  | none =>
    let r := findLookaheadsCtx env partialParse fuel hd.toCtx
    let hd := hd.withCtx r.1
    obind r.2 fun toks =>
    match toks with
    | [] => .ok (acc.1.setHead headIdx hd, acc.2)
    | tk :: more =>
      obind (layoutBefore env hd tk) fun lay =>
      let hd' := { hd with lay := lay, tok := some tk }
      .ok (splitHeads hd' headIdx hd.pos more
            (acc.1.setHead headIdx hd', frInsert (hd.pos, tk.kind) hd.state headIdx acc.2))

def createFrontier (env : Env) (partialParse : Bool) (fuel : Nat) (g : Gss) (base : List Nat) :
    Outcome (Gss × Frontier) :=
  foldO (frontierHead env partialParse fuel) base (g, [])

/-! ## Pending reductions, `initial_process_frontier` (parser.rs:165-249) -/

inductive RStart where
  | edge (e : Nat)
  | node (n : Nat)
deriving Repr, Inhabited, DecidableEq

structure Reduction where
  start : RStart
  prod : Nat
  len : Nat
deriving Repr, Inhabited

/-- the engine state threaded through one frontier -/
structure St where
  gss : Gss
  shifts : List (Nat × Nat) := []     -- `pending_shifts`, most recently pushed first
  accepted : List Nat := []           -- `accepted_heads` in push order
deriving Inhabited

def tokKind (hd : Head) : Outcome Nat :=
  match hd.tok with
  | some tk => .ok tk.kind
  | none => .panic "token_ahead().unwrap()"

/-- the actions of one frontier head: reductions into the queue, shift and accept recorded -/
def initialActions (g : Gss) (head : Nat) : List Action → List Reduction × List (Nat × Nat) × List Nat →
    List Reduction × List (Nat × Nat) × List Nat
  | [], acc => acc
  | act :: rest, (q, sh, ac) =>
    match act with
    | .reduce p len =>
      if len = 0 then initialActions g head rest (q ++ [⟨.node head, p, 0⟩], sh, ac)
      else initialActions g head rest (q ++ (g.backedges head).map (fun e => ⟨.edge e, p, len⟩), sh, ac)
    | .shift s => initialActions g head rest (q, (head, s) :: sh, ac)
    | .accept => initialActions g head rest (q, sh, ac ++ [head])

def initialHead (env : Env) (g : Gss) (acc : List Reduction × List (Nat × Nat) × List Nat) (e : Nat × Nat) :
    Outcome (List Reduction × List (Nat × Nat) × List Nat) :=
  obind (g.head e.2) fun hd =>
  obind (tokKind hd) fun k =>
  .ok (initialActions g e.2 (env.t.cell e.1 k) acc)

/-- one sub-frontier: its queue of pending reductions -/
def initialSub (env : Env) (g : Gss) (acc : List (List Reduction) × List (Nat × Nat) × List Nat)
    (sf : (Pos × Nat) × SubFrontier) : Outcome (List (List Reduction) × List (Nat × Nat) × List Nat) :=
  obind (foldO (initialHead env g) sf.2 ([], acc.2.1, acc.2.2)) fun r =>
  .ok (acc.1 ++ [r.1], r.2.1, r.2.2)

def initialProcess (env : Env) (st : St) (fr : Frontier) : Outcome (List (List Reduction) × St) :=
  obind (foldO (initialSub env st.gss) fr ([], st.shifts, st.accepted)) fun r =>
  .ok (r.1, { st with shifts := r.2.1, accepted := r.2.2 })

/-! ## `find_reduction_paths` (parser.rs:798-876) -/

/-- a reduction path: parent links from the root side to the head side, and the root head -/
structure Path where
  parents : List Nat
  root : Nat
deriving Repr, Inhabited

/-- one breadth-first level: every pending path is extended by every back edge of its current root,
    most recent edge first (`push_front` of the parent) -/
def expandOne (g : Gss) (p : Path) : List Path :=
  (g.backedges p.root).filterMap fun e =>
    match g.edges[e]? with
    | some ed => some ⟨e :: p.parents, ed.dst⟩
    | none => none

def expandPaths (g : Gss) : Nat → List Path → List Path
  | 0, ps => ps
  | n+1, ps => expandPaths g n (ps.flatMap (expandOne g))

def findReductionPaths (g : Gss) (r : Reduction) : Outcome (List Path) :=
  match r.start with
  | .node h => .ok [⟨[], h⟩]
  | .edge e =>
    obind (g.edge e) fun ed =>
    .ok (expandPaths g (r.len - 1) [⟨[e], ed.dst⟩])

/-! ## `reducer` (parser.rs:461-723) -/

structure RState where
  gss : Gss
  queue : List Reduction              -- pending reductions of this sub-frontier, front first
  shifts : List (Nat × Nat)
  accepted : List Nat
  sub : SubFrontier
deriving Inhabited

/-- `a.iter().zip(b.iter()).all(|(a, b)| Rc::ptr_eq(a, b))` -/
def zipEq : List Nat → List Nat → Bool
  | a :: as, b :: bs => a == b && zipEq as bs
  | _, _ => true

/-- the closure of `is_new_solution` (parser.rs:577-593) on one possibility -/
def differs (prod : Nat) (parents : List Nat) (n : SNode) : Bool :=
  match n with
  | .term _ _ => false
  | .nonterm p _ _ ch => p != prod || parents.length == ch.length || !zipEq parents ch

/-- the test of the "Replace children" loop (parser.rs:610-616) -/
def extends? (prod : Nat) (parents : List Nat) (n : SNode) : Bool :=
  match n with
  | .term _ _ => false
  | .nonterm p _ _ ch => p == prod && decide (parents.length > ch.length) && zipEq parents ch

def setChildren (n : SNode) (ch : List Nat) : SNode :=
  match n with
  | .term t s => .term t s
  | .nonterm p s l _ => .nonterm p s l ch

/-- replace the children of the first possibility that the path extends -/
def replaceChildren (g : Gss) (prod : Nat) (parents : List Nat) : List Nat → Gss
  | [] => g
  | n :: rest =>
    match g.nodes[n]? with
    | some nd =>
      if extends? prod parents nd then { g with nodes := g.nodes.setIfInBounds n (setChildren nd parents) }
      else replaceChildren g prod parents rest
    | none => replaceChildren g prod parents rest

def nodeSpan : SNode → Span
  | .term _ s => s
  | .nonterm _ s _ _ => s

/-- span of the first possibility of a parent link (`possibilities.borrow()[0]`) -/
def firstSpan (g : Gss) (e : Nat) : Outcome Span :=
  obind (g.edge e) fun ed =>
  match ed.poss with
  | [] => .panic "possibilities[0]"
  | n :: _ => obind (g.node n) fun nd => .ok (nodeSpan nd)

/-- span of a new nonterminal node (parser.rs:635-650) -/
def solutionSpan (g : Gss) (rootHead : Head) (parents : List Nat) : Outcome Span :=
  match parents.head?, parents.getLast? with
  | some first, some last =>
    obind (firstSpan g first) fun s1 =>
    obind (firstSpan g last) fun s2 => .ok ⟨s1.s, s2.e⟩
  | _, _ => .ok ⟨rootHead.span.e, rootHead.span.e⟩

/-- register the actions of a head reached by a new solution (parser.rs:662-718) -/
def registerActions (head edge : Nat) (headCreated edgeCreated : Bool) :
    List Action → List Reduction × List (Nat × Nat) × List Nat → List Reduction × List (Nat × Nat) × List Nat
  | [], acc => acc
  | act :: rest, (q, sh, ac) =>
    match act with
    | .reduce p len =>
      if (edgeCreated && decide (len > 0)) || headCreated then
        registerActions head edge headCreated edgeCreated rest
          (q ++ [⟨if len > 0 then .edge edge else .node head, p, len⟩], sh, ac)
      else registerActions head edge headCreated edgeCreated rest (q, sh, ac)
    | .shift s =>
      registerActions head edge headCreated edgeCreated rest (q, if headCreated then (head, s) :: sh else sh, ac)
    | .accept =>
      registerActions head edge headCreated edgeCreated rest (q, sh, if headCreated then ac ++ [head] else ac)

def allDiffer (g : Gss) (prod : Nat) (parents : List Nat) (poss : List Nat) : Bool :=
  poss.all fun n =>
    match g.nodes[n]? with
    | some nd => differs prod parents nd
    | none => true

/-- head with the goto state in the sub-frontier, created if missing (parser.rs:516-541) -/
def findOrCreateHead (g : Gss) (sub : SubFrontier) (shead : Head) (nextState : Nat) :
    Outcome (Gss × SubFrontier × Nat × Bool) :=
  match sfGet nextState sub with
  | some h => .ok (g, sub, h, false)
  | none =>
    match shead.tok with
    | none => .panic "token_ahead().cloned().unwrap()"
    | some _ =>
      let r := g.addHead { shead with state := nextState }
      .ok (r.1, sfInsert nextState r.2 sub, r.2, true)

/-- edge between the head and the root of the path, created (without possibilities) if missing
    (parser.rs:545-571) -/
def findOrCreateEdge (g : Gss) (head root : Nat) : Gss × Nat × Bool :=
  match g.edgeBetween head root with
  | some e => (g, e, false)
  | none =>
    let r := g.addEdge head root []
    (r.1, r.2, true)

/-- nonterminal symbol of a production (`production.into()`) -/
def prodLhs (env : Env) (p : Nat) : Outcome Nat :=
  match env.g.prods[p]? with
  | some pr => .ok pr.lhs
  | none => .panic "prod.into()"

def gotoState (env : Env) (s A : Nat) : Outcome Nat :=
  match env.t.goto env.g s A with
  | some s' => .ok s'
  | none => .panic "Invalid GOTO"

/-- the body of `for path in find_reduction_paths(..)` (parser.rs:499-721) -/
def reducePath (env : Env) (prod : Nat) (startHead : Nat) (rs : RState) (path : Path) : Outcome RState :=
  obind (rs.gss.head startHead) fun shead =>
  obind (tokKind shead) fun kindAhead =>
  obind (rs.gss.head path.root) fun rootHead =>
  obind (prodLhs env prod) fun lhs =>
  obind (gotoState env rootHead.state lhs) fun nextState =>
  let actions := env.t.cell nextState kindAhead
  if actions.isEmpty then .ok rs
  else
    obind (findOrCreateHead rs.gss rs.sub shead nextState) fun r1 =>
    let head := r1.2.2.1
    let headCreated := r1.2.2.2
    let r2 := findOrCreateEdge r1.1 head path.root
    let edge := r2.2.1
    let edgeCreated := r2.2.2
    obind (r2.1.edge edge) fun ed =>
    let isNew := headCreated || edgeCreated || allDiffer r2.1 prod path.parents ed.poss
    if !isNew then
      .ok { rs with gss := replaceChildren r2.1 prod path.parents ed.poss, sub := r1.2.1 }
    else
      obind (solutionSpan r2.1 rootHead path.parents) fun span =>
      let r3 := r2.1.addNode (.nonterm prod span rootHead.lay path.parents)
      let g := r3.1.pushPoss edge r3.2
      let reg := registerActions head edge headCreated edgeCreated actions (rs.queue, rs.shifts, rs.accepted)
      .ok { gss := g, queue := reg.1, shifts := reg.2.1, accepted := reg.2.2, sub := r1.2.1 }

def startHeadOf (g : Gss) (r : Reduction) : Outcome Nat :=
  match r.start with
  | .edge e => obind (g.edge e) fun ed => .ok ed.src
  | .node n => .ok n

/-- one pending reduction: all its paths, found before any of them is reduced -/
def reduceOne (env : Env) (rs : RState) (r : Reduction) : Outcome RState :=
  obind (startHeadOf rs.gss r) fun startHead =>
  obind (findReductionPaths rs.gss r) fun paths =>
  foldO (reducePath env r.prod startHead) paths rs

/-- `while let Some(reduction) = pending_reductions.pop_front()` -/
def reducerLoop (env : Env) : Nat → RState → Outcome RState
  | 0, _ => .fuel
  | fuel+1, rs =>
    match rs.queue with
    | [] => .ok rs
    | r :: rest => obind (reduceOne env { rs with queue := rest } r) (reducerLoop env fuel)

/-- the sub-frontiers in `BTreeMap` order, each with its own queue (parser.rs:1022-1040) -/
def reduceAll (env : Env) (fuel : Nat) : List ((Pos × Nat) × SubFrontier) → List (List Reduction) → St → Outcome St
  | [], _, st => .ok st
  | sf :: rest, qs, st =>
    obind (reducerLoop env fuel ⟨st.gss, qs.headD [], st.shifts, st.accepted, sf.2⟩) fun rs =>
    reduceAll env fuel rest qs.tail { gss := rs.gss, shifts := rs.shifts, accepted := rs.accepted }

/-! ## `shifter` (parser.rs:726-794) -/

def tokOf (hd : Head) : Outcome Tok :=
  match hd.tok with
  | some tk => .ok tk
  | none => .panic "token_ahead().cloned().unwrap()"

def shiftOne (env : Env) (frontierIdx : Nat) (acc : Gss × BaseMap) (sh : Nat × Nat) : Outcome (Gss × BaseMap) :=
  obind (acc.1.head sh.1) fun hd =>
  obind (tokOf hd) fun tk =>
  let position := posAfter (sliceOf env.input tk.val) hd.pos
  match baseGet (sh.2, position) acc.2 with
  | some shifted =>
    obind (acc.1.head shifted) fun shd =>
    let r := acc.1.addNode (.term tk tk.span)
    .ok (r.1.addSolution shifted sh.1 r.2, acc.2)
  | none =>
    let r0 := acc.1.addHead ⟨sh.2, frontierIdx, position, tk.span, none, none⟩
    let r := r0.1.addNode (.term tk tk.span)
    .ok (r.1.addSolution r0.2 sh.1 r.2, baseInsert (sh.2, position) r0.2 acc.2)

/-- all pending shifts, last registered first; returns the next frontier base in `(state, position)` order -/
def shifter (env : Env) (frontierIdx : Nat) (st : St) : Outcome (St × List Nat) :=
  obind (foldO (shiftOne env frontierIdx) st.shifts (st.gss, [])) fun r =>
  .ok ({ st with gss := r.1, shifts := [] }, r.2.map (·.2))

/-! ## `create_forest`, `make_error`, the main loop (parser.rs:878-1062) -/

def possOf (g : Gss) (e : Nat) : List Nat :=
  match g.edges[e]? with
  | some ed => ed.poss
  | none => []

/-- root possibilities: for every accepted head, every parent link, every possibility -/
def forestRoots (g : Gss) (accepted : List Nat) : List Nat :=
  accepted.flatMap fun h => (g.backedges h).flatMap (possOf g)

/-- `clear_duplicates` (utils.rs:10-19): keep first occurrences -/
def dedup : List Nat → List Nat → List Nat
  | [], _ => []
  | x :: rest, seen => if seen.contains x then dedup rest seen else x :: dedup rest (seen ++ [x])

def expectedOf (env : Env) (g : Gss) : List Nat → Outcome (List Nat)
  | [] => .ok []
  | h :: rest =>
    obind (g.head h) fun hd =>
    obind (expectedOf env g rest) fun more => .ok ((env.t.sorted hd.state).map (·.1) ++ more)

structure GlrResult where
  gss : Gss
  roots : List Nat
deriving Inhabited

def makeError (env : Env) (g : Gss) (lastBase : List Nat) : Outcome GlrResult :=
  obind (expectedOf env g lastBase) fun ex =>
  match lastBase with
  | [] => .panic "There must be a head in the last frontier!"
  | h :: _ =>
    obind (g.head h) fun hd =>
    match dedup ex [] with
    | [] => .panic "error_expected:expected[0]"
    | ks => .err (.expected hd.pos ks)

/-- one iteration of `while !frontier_base.is_empty()` -/
def frontierStep (env : Env) (partialParse : Bool) (fuel : Nat) (frontierIdx : Nat) (st : St) (base : List Nat) :
    Outcome (St × List Nat) :=
  obind (createFrontier env partialParse fuel st.gss base) fun r =>
  obind (initialProcess env { st with gss := r.1 } r.2) fun ip =>
  obind (reduceAll env fuel r.2 ip.1 ip.2) fun st' =>
  shifter env (frontierIdx + 1) st'

def mainLoop (env : Env) (partialParse : Bool) (fuel : Nat) : Nat → Nat → St → List Nat → List Nat → Outcome GlrResult
  | 0, _, _, _, _ => .fuel
  | n+1, frontierIdx, st, base, lastBase =>
    match base with
    | [] =>
      if !st.accepted.isEmpty then .ok ⟨st.gss, forestRoots st.gss st.accepted⟩
      else makeError env st.gss lastBase
    | _ :: _ =>
      obind (frontierStep env partialParse fuel frontierIdx st base) fun r =>
      mainLoop env partialParse fuel n (frontierIdx + 1) r.1 r.2 (if r.2.isEmpty then base else lastBase)

/-- `GssHead::default()` with the start position -/
def startHead : Head := ⟨0, 0, Pos.start, ⟨Pos.start, Pos.start⟩, none, none⟩

/-- `GlrParser::parse`: `fuel` bounds the number of frontiers, the reducer loop of every sub-frontier and
    the layout parser -/
def parse (env : Env) (partialParse : Bool) (fuel : Nat) : Outcome GlrResult :=
  let r := ({} : Gss).addHead startHead
  mainLoop env partialParse fuel fuel 0 { gss := r.1 } [r.2] []

/-! ## The forest: unfolding the SPPF graph (decorated), its erasure to `Forest`, and `Tree::build` -/

mutual
inductive DNode where
  | term (tok : Tok) : DNode
  | nonterm (prod : Nat) (span : Span) (children : DPList) : DNode
  | cut : DNode                                  -- unfolding fuel exhausted / dangling id
inductive DParent where
  | mk (poss : DNList) : DParent
inductive DNList where
  | nil : DNList
  | cons (n : DNode) (ns : DNList) : DNList
inductive DPList where
  | nil : DPList
  | cons (p : DParent) (ps : DPList) : DPList
end

instance : Inhabited DNode := ⟨.cut⟩

def listToDN : List DNode → DNList
  | [] => .nil
  | n :: ns => .cons n (listToDN ns)
def listToDP : List DParent → DPList
  | [] => .nil
  | p :: ps => .cons p (listToDP ps)

/-- unfold node `id` of the graph to depth `fuel` -/
def unfoldNode (g : Gss) : Nat → Nat → DNode
  | 0, _ => .cut
  | fuel+1, id =>
    match g.nodes[id]? with
    | some (.term tk _) => .term tk
    | some (.nonterm p sp _ ch) =>
      .nonterm p sp (listToDP (ch.map fun e => DParent.mk (listToDN ((possOf g e).map (unfoldNode g fuel)))))
    | none => .cut

/- does the unfolding contain a cut (cyclic SPPF or too little fuel)? -/
mutual
def DNode.hasCut : DNode → Bool
  | .term _ => false
  | .nonterm _ _ cs => cs.hasCut
  | .cut => true
def DParent.hasCut : DParent → Bool
  | .mk ns => ns.hasCut
def DNList.hasCut : DNList → Bool
  | .nil => false
  | .cons n ns => n.hasCut || ns.hasCut
def DPList.hasCut : DPList → Bool
  | .nil => false
  | .cons p ps => p.hasCut || ps.hasCut
end

/- erasure to the SPPF of the enumeration model -/
mutual
def DNode.erase : DNode → Forest.SNode
  | .term tk => .term tk.kind tk.span.s.pos
  | .nonterm p _ cs => .nonterm p cs.erase
  | .cut => .empty
def DParent.erase : DParent → Forest.Parent
  | .mk ns => .mk ns.erase
def DNList.erase : DNList → Forest.NList
  | .nil => .nil
  | .cons n ns => .cons n.erase ns.erase
def DPList.erase : DPList → Forest.PList
  | .nil => .nil
  | .cons p ps => .cons p.erase ps.erase
end

/- `SPPFTree::solutions` / `Parent::solutions` on the decorated SPPF (= those of the erasure) -/
mutual
def DNode.solutions : DNode → Nat
  | .term _ => 1
  | .nonterm _ _ cs => cs.prod
  | .cut => 0
def DParent.solutions : DParent → Nat
  | .mk ns => ns.sum
def DNList.sum : DNList → Nat
  | .nil => 0
  | .cons n ns => n.solutions + ns.sum
def DPList.prod : DPList → Nat
  | .nil => 1
  | .cons p ps => p.solutions * ps.prod
end

/- `Tree::build` with `TreeBuilder` on the tree of index `i` (gss.rs:565-656): same index decoding as
    `Forest.SNode.get`, decorated.  Layouts are `None`: `build` runs on a default context. -/
mutual
def DNode.get : DNode → Nat → Option Tree
  | .term tk, _ => some (.leaf tk.kind tk.span tk.val none)
  | .nonterm p sp cs, i => (cs.get i).map fun ts => Tree.node p sp none (TreeList.ofList ts)
  | .cut, _ => none
def DParent.get : DParent → Nat → Option Tree
  | .mk ns, i => ns.get i
def DNList.get : DNList → Nat → Option Tree
  | .nil, _ => none
  | .cons n ns, i => if i < n.solutions then n.get i else ns.get (i - n.solutions)
def DPList.get : DPList → Nat → Option (List Tree)
  | .nil, _ => some []
  | .cons p ps, i =>
    let factor := ps.prod
    match p.get (i / factor), ps.get (i % factor) with
    | some t, some ts => some (t :: ts)
    | _, _ => none
end

/-- the decorated forest of a result -/
def GlrResult.droots (r : GlrResult) : DNList :=
  listToDN (r.roots.map (unfoldNode r.gss (r.gss.nodes.size + 1)))

/-- the `Forest` handed to the enumeration model -/
def GlrResult.forest (r : GlrResult) : Forest.Forest := ⟨r.droots.erase⟩

/-- `forest.get_tree(i)` built with `TreeBuilder` -/
def GlrResult.getTree (r : GlrResult) (i : Nat) : Option Tree := r.droots.get i

/-! ## The same enumeration computed on the graph (what the driver runs)

`unfoldNode` materialises shared sub-forests once per reference, which is exponential in memory.  The
tables below are computed by rounds: after `k` rounds entry `n` is the value on `unfoldNode g k n`
(`Proofs/GlrSound.lean`), and `fgetNode` decodes a tree index with the solution table instead of
recomputing `solutions()` at every level. -/

def listSum : List Nat → Nat
  | [] => 0
  | x :: xs => x + listSum xs

def listProd : List Nat → Nat
  | [] => 1
  | x :: xs => x * listProd xs

/-- `Parent::solutions` from a table of node solutions -/
def edgeSol (g : Gss) (sol : Array Nat) (e : Nat) : Nat := listSum ((possOf g e).map fun m => sol.getD m 0)

def solOfNode (g : Gss) (prev : Array Nat) : SNode → Nat
  | .term _ _ => 1
  | .nonterm _ _ _ ch => listProd (ch.map (edgeSol g prev))

def solRound (g : Gss) (prev : Array Nat) : Array Nat := g.nodes.map (solOfNode g prev)

def solIter (g : Gss) : Nat → Array Nat → Array Nat
  | 0, a => a
  | k+1, a =>
    let b := solRound g a
    if b == a then a else solIter g k b

def solTable (g : Gss) : Array Nat := solIter g (g.nodes.size + 1) (Array.replicate g.nodes.size 0)

/-- "the unfolding to depth k is cut below this node" -/
def cutOfNode (g : Gss) (prev : Array Bool) : SNode → Bool
  | .term _ _ => false
  | .nonterm _ _ _ ch => ch.any fun e => (possOf g e).any fun m => prev.getD m true

def cutRound (g : Gss) (prev : Array Bool) : Array Bool := g.nodes.map (cutOfNode g prev)

def cutIter (g : Gss) : Nat → Array Bool → Array Bool
  | 0, a => a
  | k+1, a =>
    let b := cutRound g a
    if b == a then a else cutIter g k b

def cutTable (g : Gss) : Array Bool := cutIter g (g.nodes.size + 1) (Array.replicate g.nodes.size true)

/-- `find_tree_root` over node ids -/
def fgetPoss (sol : Array Nat) (getN : Nat → Nat → Option Tree) : List Nat → Nat → Option Tree
  | [], _ => none
  | m :: ms, i => if i < sol.getD m 0 then getN m i else fgetPoss sol getN ms (i - sol.getD m 0)

/-- `Tree::children` over edge ids -/
def fgetChildren (g : Gss) (sol : Array Nat) (getN : Nat → Nat → Option Tree) : List Nat → Nat → Option (List Tree)
  | [], _ => some []
  | e :: es, i =>
    let factor := listProd (es.map (edgeSol g sol))
    match fgetPoss sol getN (possOf g e) (i / factor), fgetChildren g sol getN es (i % factor) with
    | some t, some ts => some (t :: ts)
    | _, _ => none

def fgetNode (g : Gss) (sol : Array Nat) : Nat → Nat → Nat → Option Tree
  | 0, _, _ => none
  | fuel+1, n, i =>
    match g.nodes[n]? with
    | some (.term tk _) => some (.leaf tk.kind tk.span tk.val none)
    | some (.nonterm p sp _ ch) =>
      (fgetChildren g sol (fgetNode g sol fuel) ch i).map fun ts => Tree.node p sp none (TreeList.ofList ts)
    | none => none

/-- `Forest::solutions` -/
def GlrResult.fastSolutions (r : GlrResult) (sol : Array Nat) : Nat := listSum (r.roots.map fun m => sol.getD m 0)

/-- `Forest::get_tree(i)` + `Tree::build` -/
def GlrResult.fastGet (r : GlrResult) (sol : Array Nat) (i : Nat) : Option Tree :=
  fgetPoss sol (fgetNode r.gss sol (r.gss.nodes.size + 1)) r.roots i

/-- is the unfolding from the roots cut (cyclic SPPF)? -/
def GlrResult.fastHasCut (r : GlrResult) (cut : Array Bool) : Bool := r.roots.any fun m => cut.getD m true

/- erasure of a built tree to the shape the enumeration model produces -/
mutual
def treeToF : Tree → Forest.FTree
  | .leaf k sp _ _ => .leaf k sp.s.pos
  | .node p _ _ cs => .node p (treesToF cs)
def treesToF : TreeList → List Forest.FTree
  | .nil => []
  | .cons t ts => treeToF t :: treesToF ts
end

end Rustemo.Glr
