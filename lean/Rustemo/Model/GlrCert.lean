import Rustemo.Model.Cert
import Rustemo.Model.Canon
import Rustemo.Model.CertComplete
/-!
# Certificates for tables driven by the GLR engine (right-nulled tables included)

Executable validators in the style of `Model/Cert.lean`, run by the driver on the table the real
compiler produced.  Nothing here mirrors Rust code.

* `Cert.structuralRN` is `Cert.structural` with the reduce clause relaxed: `Reduce(p, len)` needs the item
  `(p, len)` in the state, `len ≤ |rhs p|` and every symbol of `rhs p` from `len` on in the list `nul`
  (right-nulled reduction, `LRItem::is_reducing` in table/mod.rs).
* `Cert.nulOk g nul`: `nul` is a *ranked* list of nullable symbols: every member has a production whose
  right-hand side consists of later members only (so every member derives the empty string —
  `Proofs/GlrCert.lean`).  The list is computed by `Canon.nullable`; only the check is trusted.
* `Cert.symbolsOk`: every state is entered on one symbol only, the `symbol` the compiler recorded.
-/
namespace Rustemo

def Table.symAt (t : Table) (s : Nat) : Nat :=
  match t.states[s]? with
  | some st => st.symbol
  | none => 0

def Cert.symbolsOk (g : Grammar) (t : Table) : Bool :=
  t.forStates fun _ st =>
    (st.forCells fun a act =>
      match act with
      | .shift s' => t.symAt s' == a
      | _ => true) &&
    (st.forGotos fun j s' => t.symAt s' == g.nterms + j)

def Cert.nulOk (g : Grammar) : List Nat → Bool
  | [] => true
  | X :: rest =>
    (g.prods.toList.any fun pr => pr.lhs == X && pr.rhs.all (fun Y => rest.contains Y)) && Cert.nulOk g rest

def Cert.structuralRN (g : Grammar) (t : Table) (autos : List Auto) (nul : List Nat) : Bool :=
  -- item_prod
  (t.forStates fun _ st => st.items.all fun it =>
      match g.prods[it.prod]? with
      | some pr => it.dot ≤ pr.rhs.length
      | none => false) &&
  -- start_items, aug_start_only
  (t.forStates fun i st => st.items.all fun it => autos.all fun a =>
      (i != a.start || it.dot == 0) && (i == a.start || !(it.prod == a.aug && it.dot == 0))) &&
  -- no_into_start, shift_term, target_items (terminals), reduce_item (right-nulled), accept_item
  (t.forStates fun _ st =>
      decide (st.actions.size ≤ g.nterms) &&
      st.forCells fun a act =>
        match act with
        | .shift s' => (autos.all fun au => s' != au.start) && t.targetOk g st a s'
        | .reduce p len =>
          st.hasItemB p len &&
          (match g.prods[p]? with
           | some pr => decide (len ≤ pr.rhs.length) && (pr.rhs.drop len).all (fun Y => nul.contains Y)
           | none => false)
        | .accept =>
          autos.any fun au =>
            (match g.prods[au.aug]? with
             | some pr => pr.rhs == [au.sym]
             | none => false) && st.hasItemB au.aug 1) &&
  -- gotos: no_into_start, target_items (nonterminals)
  (t.forStates fun _ st => st.forGotos fun j s' =>
      (autos.all fun au => s' != au.start) && t.targetOk g st (g.nterms + j) s') &&
  -- distinct start states
  (autos.all fun a => autos.all fun b => a.start != b.start || decide (a = b))

/-- everything the GLR soundness / no-panic theorems ask of a real table -/
def Cert.glr (g : Grammar) (t : Table) : Bool :=
  let nul := Canon.nullable g
  Cert.nulOk g nul && Cert.structuralRN g t (autosOf g t) nul && Cert.symbolsOk g t && Cert.total g t 0

/-- the layout automaton (if any) is covered by the structural certificate and passes `Cert.total`: with
    `Cert.glr` this makes the nested LR layout parser panic free (`Proofs/GlrSound.lean`) -/
def Cert.glrLayout (g : Grammar) (t : Table) : Bool :=
  match t.layoutState with
  | none => true
  | some ls => (autosOf g t).any (fun au => au.start == ls) && Cert.total g t ls

/-! ## completeness side: every right-nulled reduction is in the table, transitions are functions -/

/-- every item whose rest is nullable has its (right-nulled) reduce entry for each of its lookaheads; a
    completed augmented item has Accept on STOP -/
def Cert.reduceRNOk (g : Grammar) (t : Table) (nul : List Nat) : Bool :=
  t.forStates fun i st => st.items.all fun it =>
    match g.prods[it.prod]? with
    | none => false
    | some pr =>
      !((pr.rhs.drop it.dot).all fun Y => nul.contains Y) ||
      (if g.isAug it.prod then (it.dot != pr.rhs.length || (t.cell i 0).contains .accept)
       else it.la.all fun a => (t.cell i a).contains (.reduce it.prod it.dot))

def isShift : Action → Bool
  | .shift _ => true
  | _ => false

/-- at most one shift per cell -/
def Cert.shiftDetOk (t : Table) : Bool :=
  t.forStates fun _ st => (List.range st.actions.size).all fun a =>
    decide (((st.actions.getD a []).filter isShift).length ≤ 1)

/-- the augmented layout symbol (if any) occurs in no right-hand side -/
def Cert.auglOk (g : Grammar) : Bool :=
  match g.auglIdx with
  | none => true
  | some x => g.prods.toList.all fun pr => !pr.rhs.contains x

/-- the completeness certificate for GLR tables: `Cert.complete` without "at most one action per cell", with
    the right-nulled reduce entries demanded, shifts deterministic, augmented symbols in no right-hand side, STOP
    never shifted, accept only on STOP -/
def Cert.completeRN (g : Grammar) (t : Table) : Bool :=
  let c := Canon.mkCtx g
  Cert.firstOk g c && Cert.closureOk g c t && Cert.transOk g t && Cert.reduceRNOk g t c.nul &&
  Cert.grammarOk g t && Cert.shiftDetOk t && Cert.auglOk g && Cert.noShiftStop t && Cert.acceptStop t

end Rustemo
