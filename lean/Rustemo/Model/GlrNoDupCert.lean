import Rustemo.Model.Glr
/-!
# Per-input certificate for "no duplicates" (executable part)

`possFactsB` is the Boolean form of `Glr.PossFacts` (`Proofs/GlrNoDup.lean`; soundness `possFactsB_sound`, `Proofs/GlrNoDup.lean`): the three
facts about the possibility lists of a result graph that `C03_engine_no_duplicates_from_poss_facts` assumes.  It lives in
a model file (no proof imports) so that the native driver can evaluate it on the result of every parse (`glr nodup`).
-/
namespace Rustemo.Glr
open Rustemo

/-- executable `PossFacts` -/
def possFactsB (g : Gss) : Bool :=
  g.edges.toList.all fun ed =>
    decide ed.poss.Nodup &&
    ed.poss.all fun n => ed.poss.all fun n' =>
      n == n' ||
      (match g.nodes[n]?, g.nodes[n']? with
       | some (.term _ _), some (.term _ _) => false
       | some (.nonterm p _ _ C), some (.nonterm p' _ _ C') => p != p' || !(zipEq C C')
       | _, _ => true)

end Rustemo.Glr
