import Rustemo.Model.LR
import Rustemo.Model.Cert
/-!
# Executable conditions around the Layout-rule round trip (C14)

Nothing here mirrors Rust code.

`autoOk g t ls` — the layout automaton is one of the table's automata and its symbol is a nonterminal —
is the only hypothesis of `C14_roundtrip_layout` besides the table certificates.

The rest describes the inputs on which the loop BEFORE the repairs of the findings C14-N1 / C14-N2
(`Model/LROld.lean`) was lossless; it is used by the counterexample theorems about that loop and, as
coverage information, by the driver command `layoutcert` (which inputs exercise the repaired paths).
`scan` is the layout parser of `Model/LR.lean` (`layoutParse`: partial parse from the layout state,
string lexer without whitespace skipping) with positions, spans, trees and the context erased: a
stack of states, a byte offset and the token ahead.  `Proofs/LayoutScan.lean` proves that
`layoutParse` refines it, so the outcome of a layout parse depends on the byte offset only.
`check env ls fuel` evaluates, at every byte offset of the input:

* `notToken`   — where the layout parser succeeds and consumes something, no state of the main
                  automaton finds a token (else: layout parsed on re-lexing after a reduce; C14-N1);
* `idempotent` — where a layout parse ended, a second one consumes nothing (else: the same);
* `failStays`  — a layout parse that fails has not advanced (else: C14-N2).
-/
namespace Rustemo
namespace LayoutCert

/-- the `Position` of a byte offset (`= posOf` of `Proofs/Pos.lean`) -/
def posAt (input : List Nat) (off : Nat) : Pos := posAfter (input.take off) Pos.start

inductive STok where
  | ok (kind len : Nat)
  | err
  | other
deriving DecidableEq, Repr

/-- what `noToken env true` answers, without the context -/
def scanNoToken (env : Env) (state : Nat) : STok :=
  let exp := (env.t.sorted state).map (·.1)
  if exp.contains 0 then .ok 0 0
  else
    match exp with
    | [] => .other
    | _ => .err

def scanPick (env : Env) (state : Nat) (o : Option Tok) : STok :=
  match o with
  | some tk => .ok tk.kind tk.val.2
  | none => scanNoToken env state

/-- `nextTokenBase env true` of the string lexer without whitespace skipping, at byte offset `p` -/
def scanTok (env : Env) (state p : Nat) : STok :=
  scanPick env state (pickToken env.longest (tokenIter env (posAt env.input p) (env.t.sorted state)))

structure SCfg where
  stack : List Nat      -- states, top first
  pos : Nat
  kind : Nat
  len : Nat
deriving Repr

inductive SRes where
  | ok (pos : Nat)      -- accepted, final byte offset
  | fail (pos : Nat)    -- error result, byte offset of the context handed back
  | other               -- panic or out of fuel
deriving DecidableEq, Repr

inductive SStep where
  | next (c : SCfg)
  | fin (r : SRes)

def sLift (stack : List Nat) (pos : Nat) (t : STok) : SStep :=
  match t with
  | .ok k l => .next ⟨stack, pos, k, l⟩
  | .err => .fin (.fail pos)
  | .other => .fin .other

def sstep (env : Env) (c : SCfg) : SStep :=
  match c.stack.head? with
  | none => .fin .other
  | some state =>
  match env.t.cell state c.kind with
  | [] => .fin (.fail c.pos)
  | act :: _ =>
    match act with
    | .shift s' => sLift (s' :: c.stack) (c.pos + c.len) (scanTok env s' (c.pos + c.len))
    | .reduce p len =>
      if c.stack.length < len then .fin .other
      else
      match (c.stack.drop len).head? with
      | none => .fin .other
      | some fromState =>
      match env.g.prods[p]? with
      | none => .fin .other
      | some pr =>
      match env.t.goto env.g fromState pr.lhs with
      | none => .fin .other
      | some s' => sLift (s' :: c.stack.drop len) c.pos (scanTok env s' c.pos)
    | .accept => if c.stack.length < 2 then .fin .other else .fin (.ok c.pos)

def srun (env : Env) : Nat → SCfg → SRes
  | 0, _ => .other
  | fuel+1, c =>
    match sstep env c with
    | .next c' => srun env fuel c'
    | .fin r => r

def scanStart (env : Env) (ls fuel p : Nat) (t : STok) : SRes :=
  match t with
  | .ok k l => srun env fuel ⟨[ls], p, k, l⟩
  | .err => .fail p
  | .other => .other

/-- the layout parser started at byte offset `p` -/
def scan (env : Env) (ls fuel p : Nat) : SRes := scanStart env ls fuel p (scanTok env ls p)

/-! ## The states of the main automaton -/

def shiftTarget : Action → Option Nat
  | .shift s' => some s'
  | _ => none

def succs (t : Table) (s : Nat) : List Nat :=
  match t.states[s]? with
  | none => []
  | some st => (st.actions.toList.flatMap fun acts => acts.filterMap shiftTarget) ++ st.gotos.toList.filterMap id

def reach (t : Table) : Nat → List Nat → List Nat
  | 0, ms => ms
  | n+1, ms => reach t n (ms ++ ((ms.flatMap (succs t)).filter fun s => !ms.contains s).eraseDups)

/-- states reachable from state 0 -/
def mainStates (t : Table) : List Nat := reach t t.states.size [0]

/-- `ms` contains the start state and is closed under shift and goto -/
def closed (t : Table) (ms : List Nat) : Bool :=
  ms.contains 0 && ms.all fun s => (succs t s).all fun s' => ms.contains s'

/-! ## The conditions, per byte offset -/

/-- the layout parser succeeds at `p` and consumes something -/
def consumes (env : Env) (ls fuel p : Nat) : Bool :=
  match scan env ls fuel p with
  | .ok q => (q != p)
  | _ => false

/-- some state of `ms` finds a token at `p` -/
def tokenAt (env : Env) (ms : List Nat) (p : Nat) : Bool :=
  ms.any fun s => (pickToken env.longest (tokenIter env (posAt env.input p) (env.t.sorted s))).isSome

def notTokenAt (env : Env) (ls fuel : Nat) (ms : List Nat) (p : Nat) : Bool :=
  !(consumes env ls fuel p && tokenAt env ms p)

def idempotentAt (env : Env) (ls fuel p : Nat) : Bool :=
  match scan env ls fuel p with
  | .ok q => !((q != p) && consumes env ls fuel q)
  | _ => true

def failStaysAt (env : Env) (ls fuel p : Nat) : Bool :=
  match scan env ls fuel p with
  | .fail q => q == p
  | _ => true

def offsets (env : Env) : List Nat := List.range (env.input.length + 1)

def notToken (env : Env) (ls fuel : Nat) : Bool :=
  (offsets env).all (notTokenAt env ls fuel (mainStates env.t))
def idempotent (env : Env) (ls fuel : Nat) : Bool := (offsets env).all (idempotentAt env ls fuel)
def failStays (env : Env) (ls fuel : Nat) : Bool := (offsets env).all (failStaysAt env ls fuel)

/-- the layout automaton is one of the table's automata and its start symbol is a nonterminal -/
def autoOk (g : Grammar) (t : Table) (ls : Nat) : Bool :=
  (autosOf g t).any fun au => au.start == ls && decide (g.nterms ≤ au.sym)

/-- grammar/table part (independent of the input) -/
def static (env : Env) (ls : Nat) : Bool :=
  closed env.t (mainStates env.t) && autoOk env.g env.t ls

/-- the inputs on which the loop before the repairs of C14-N1/N2 was lossless as well -/
def check (env : Env) (ls fuel : Nat) : Bool :=
  static env ls && notToken env ls fuel && idempotent env ls fuel && failStays env ls fuel

end LayoutCert
end Rustemo
