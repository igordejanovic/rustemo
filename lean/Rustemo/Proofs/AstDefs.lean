import Rustemo.Model.AstEval
/-!
The words of the statements of Props/C10 and Props/C11 that the model does not have: which trees and shape tables the token
theorem speaks of, what the builder's stack holds after a tree, and the paths and knots of the two graph statements of C11.
-/
namespace Rustemo.Ast

/-- does the builder push a VALUE for this subtree? (keyword terminals: no) -/
def kidHasValue (sh : Shapes) : PTree → Bool
  | .leaf t _ => termContent sh t
  | .node _ _ => true

/-- fewer children than flags: a right-nulled reduction -/
def flagsAgree (sh : Shapes) : List Bool → List PTree → Bool
  | _, [] => true
  | [], _ :: _ => false
  | c :: cs, k :: ks => (c == kidHasValue sh k) && flagsAgree sh cs ks

def prodFlagsAgree (sh : Shapes) (p : Nat) (kids : List PTree) : Bool :=
  match sh.prods[p]? with
  | some ps => flagsAgree sh ps.content kids
  | none => false

mutual
/-- every node's children match the content flags of its production — implied by validity of the
tree for the grammar (the flags are `symbol_has_content` of the rhs symbols) -/
def PTree.wellShaped (sh : Shapes) : PTree → Bool
  | .leaf _ _ => true
  | .node p kids => prodFlagsAgree sh p kids && PTree.wellShapedL sh kids
def PTree.wellShapedL (sh : Shapes) : List PTree → Bool
  | [] => true
  | t :: ts => t.wellShaped sh && PTree.wellShapedL sh ts
end

/-- the shapes for which the token theorem holds: the repaired variant, or no right-recursive `@vec` -/
def Supported (sh : Shapes) : Prop := sh.fixed = true ∨ ∀ p ∈ sh.prods, p.act ≠ .vecPush false

def tokensOpt : Option Val → List String
  | some v => v.tokens
  | none => []

def Act.isVec : Act → Bool
  | .vecEmpty => true
  | .vecOne => true
  | .vecPush _ => true
  | _ => false

def pushRes (s : List (Option Val)) : Except Err (Option Val) → Except Err (List (Option Val))
  | .ok r => .ok (r :: s)
  | .error e => .error e

def pushAll (s : List (Option Val)) : Except Err (List (Option Val)) → Except Err (List (Option Val))
  | .ok rs => .ok (rs.reverse ++ s)
  | .error e => .error e

/-- the value `get_result` returns after the builder calls of the tree -/
def runTree (sh : Shapes) (t : PTree) : Except Err Val :=
  match run sh t.events [] with
  | .ok s => getResult s
  | .error e => .error e

def EdgeAt (G : Graph) (u : String) (i : Nat) (v : String) : Prop :=
  ∃ es, G.edges u = some es ∧ es[i]? = some v

/-- reachable through references (marked or not) -/
inductive Reach (G : Graph) : String → String → Prop
  | refl (u : String) : Reach G u u
  | step {u v w : String} {i : Nat} : Reach G u v → EdgeAt G v i w → Reach G u w

/-- a path of length ≥ 1 that uses only UNMARKED references -/
inductive UnmarkedPath (G : Graph) (flags : List Edge) : String → String → Prop
  | single {u v : String} {i : Nat} : EdgeAt G u i v → (u, i) ∉ flags → UnmarkedPath G flags u v
  | cons {u v w : String} {i : Nat} : EdgeAt G u i v → (u, i) ∉ flags → UnmarkedPath G flags v w →
      UnmarkedPath G flags u w

/-- a knot: a non-empty set of declared names, each of which contains BY VALUE another member
(every containment cycle is one) -/
def Knot (G : Graph) (C : List String) : Prop :=
  C ≠ [] ∧ ∀ u ∈ C, ∃ es, (u, es) ∈ G ∧ ∃ t ∈ es, t ∈ C

end Rustemo.Ast
