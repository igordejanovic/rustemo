import Rustemo.Proofs.AstDefs
import Rustemo.Proofs.ListFacts
/-!
The search state of `dfs`: `visited` are the finished nodes in the order of finishing, `visiting` is the DFS stack.  `Inv` makes
finishing positions decrease strictly along unmarked edges, so no unmarked cycle can pass through a finished node; `Closed`
with the empty stack makes the finished set closed under edges, so everything reachable from the start symbol is finished.
The code does NOT put the start symbol into `visiting` (it is entered a second time when a cycle leads back to it): the
invariants cover that.

The other graph of C11, by-value containment: `Skel.sized` peels the nodes that contain no kept node, as many times as there are
nodes.  A `Knot` loses no member to a peeling, so where nothing is left there was none (`Skel.sized_sound`).
-/
namespace Rustemo.Ast

def Inv (G : Graph) (st : DfsSt) : Prop :=
  ∀ u ∈ st.visited, ∀ i v, EdgeAt G u i v →
    (u, i) ∈ st.flags ∨ st.visited.idxOf v < st.visited.idxOf u

def Closed (G : Graph) (visiting : List String) (st : DfsSt) : Prop :=
  (∀ u ∈ st.visited, ∀ i v, EdgeAt G u i v → v ∈ st.visited ∨ v ∈ visiting) ∧
  (∀ u i, (u, i) ∈ st.flags → ∀ v, EdgeAt G u i v → v ∈ st.visited ∨ v ∈ visiting)

structure Post (G : Graph) (visiting : List String) (st st' : DfsSt) : Prop where
  inv : Inv G st'
  closed : Closed G visiting st'
  ext : ∃ l, st'.visited = st.visited ++ l
  flags : ∀ e ∈ st.flags, e ∈ st'.flags

def CallSpec (G : Graph) (call : String → List String → DfsSt → Option DfsSt) : Prop :=
  ∀ t vis s s', call t vis s = some s' → Inv G s → Closed G vis s → Post G vis s s' ∧ t ∈ s'.visited

theorem Post.refl {G : Graph} {vis : List String} {st : DfsSt} (hi : Inv G st) (hc : Closed G vis st) :
    Post G vis st st := ⟨hi, hc, ⟨[], by simp⟩, fun _ h => h⟩

theorem Post.trans {G : Graph} {vis : List String} {a b c : DfsSt} (h1 : Post G vis a b) (h2 : Post G vis b c) :
    Post G vis a c := by
  refine ⟨h2.inv, h2.closed, ?_, fun e he => h2.flags e (h1.flags e he)⟩
  obtain ⟨l1, e1⟩ := h1.ext
  obtain ⟨l2, e2⟩ := h2.ext
  exact ⟨l1 ++ l2, by rw [e2, e1, List.append_assoc]⟩

theorem mem_of_ext {a b : List String} (h : ∃ l, b = a ++ l) {x : String} (hx : x ∈ a) : x ∈ b := by
  obtain ⟨l, e⟩ := h; rw [e]; exact List.mem_append_left _ hx

theorem post_flag {G : Graph} {vis : List String} {st : DfsSt} (name : String) (i : Nat) (tgt : String)
    (hi : Inv G st) (hc : Closed G vis st) (he : ∀ v, EdgeAt G name i v → v = tgt) (ht : tgt ∈ vis) :
    Post G vis st { st with flags := (name, i) :: st.flags } := by
  refine ⟨fun u hu j v hev => (hi u hu j v hev).imp (List.mem_cons_of_mem _) id, ⟨hc.1, ?_⟩,
    ⟨[], by simp⟩, fun e h => List.mem_cons_of_mem _ h⟩
  intro u j hf v hev
  rcases List.mem_cons.mp hf with h | h
  · cases h
    exact Or.inr (he v hev ▸ ht)
  · exact hc.2 u j h v hev

theorem Closed.mono {G : Graph} {vis vis' : List String} {st : DfsSt} (hc : Closed G vis st)
    (h : ∀ v, v ∈ st.visited ∨ v ∈ vis → v ∈ st.visited ∨ v ∈ vis') : Closed G vis' st :=
  ⟨fun u hu i v hev => h v (hc.1 u hu i v hev), fun u i hf v hev => h v (hc.2 u i hf v hev)⟩

theorem closed_pop {G : Graph} {vis : List String} {tgt : String} {st : DfsSt}
    (hc : Closed G (tgt :: vis) st) (ht : tgt ∈ st.visited) : Closed G vis st :=
  hc.mono fun _ h => h.elim Or.inl fun h =>
    (List.mem_cons.mp h).elim (fun e => Or.inl (e ▸ ht)) Or.inr

theorem closed_push {G : Graph} {vis : List String} (tgt : String) {st : DfsSt}
    (hc : Closed G vis st) : Closed G (tgt :: vis) st :=
  hc.mono fun _ => Or.imp id (List.mem_cons_of_mem _)

theorem edgeLoop_post (G : Graph) (call : String → List String → DfsSt → Option DfsSt) (hcall : CallSpec G call)
    (name : String) (visiting : List String) (all : List String) (hall : G.edges name = some all) :
    ∀ (es : List String) (i : Nat) (st st' : DfsSt), es = all.drop i →
      edgeLoop call name visiting es i st = some st' → Inv G st → Closed G visiting st →
      Post G visiting st st' ∧
        ∀ j v, i ≤ j → all[j]? = some v → (name, j) ∈ st'.flags ∨ v ∈ st'.visited := by
  intro es
  induction es with
  | nil =>
    intro i st st' hes h hi hc
    simp only [edgeLoop] at h
    cases h
    refine ⟨Post.refl hi hc, fun j v hij hj => ?_⟩
    have := List.drop_eq_nil_iff.mp hes.symm
    have := (List.getElem?_eq_some_iff.mp hj).1
    omega
  | cons tgt rest ih =>
    intro i st st' hes h hi hc
    have hlt : i < all.length := by
      apply Nat.lt_of_not_le
      intro hle
      rw [List.drop_eq_nil_of_le hle] at hes
      cases hes
    rw [List.drop_eq_getElem_cons hlt] at hes
    obtain ⟨rfl, hrest⟩ := List.cons.inj hes
    have hedge : ∀ v, EdgeAt G name i v → v = all[i] := by
      intro v ⟨es', he1, he2⟩
      rw [hall] at he1; cases he1
      rw [List.getElem?_eq_getElem hlt] at he2; cases he2; rfl
    -- the first edge: skipped, marked, or followed
    obtain ⟨mid, hp, hfirst, hloop⟩ : ∃ mid, Post G visiting st mid ∧
        ((name, i) ∈ mid.flags ∨ all[i] ∈ mid.visited) ∧
        edgeLoop call name visiting rest (i + 1) mid = some st' := by
      simp only [edgeLoop] at h
      split at h
      · next hfl => exact ⟨st, Post.refl hi hc, Or.inl (List.contains_iff_mem.mp hfl), h⟩
      · split at h
        · next hvis =>
          exact ⟨_, post_flag name i _ hi hc hedge (List.contains_iff_mem.mp hvis),
            Or.inl List.mem_cons_self, h⟩
        · split at h
          · cases h
          · next mid hmid =>
            obtain ⟨hp, hin⟩ := hcall _ (all[i] :: visiting) st mid hmid hi (closed_push _ hc)
            exact ⟨mid, ⟨hp.inv, closed_pop hp.closed hin, hp.ext, hp.flags⟩, Or.inr hin, h⟩
    obtain ⟨hp2, hrest2⟩ := ih (i + 1) mid st' hrest hloop hp.inv hp.closed
    refine ⟨hp.trans hp2, fun j v hij hj => ?_⟩
    rcases Nat.eq_or_lt_of_le hij with rfl | hlt'
    · rw [List.getElem?_eq_getElem hlt] at hj
      cases hj
      exact hfirst.imp (hp2.flags _) (mem_of_ext hp2.ext)
    · exact hrest2 j v hlt' hj

theorem post_finish {G : Graph} {vis : List String} {st : DfsSt} (name : String)
    (hi : Inv G st) (hc : Closed G vis st)
    (hedges : ∀ j v, EdgeAt G name j v → (name, j) ∈ st.flags ∨ v ∈ st.visited) :
    Post G vis st { st with visited := st.visited ++ [name] } := by
  refine ⟨?_, ⟨?_, fun u i hf v hev => (hc.2 u i hf v hev).imp (List.mem_append_left _) id⟩,
    ⟨[name], rfl⟩, fun e h => h⟩
  · intro u hu i v hev
    by_cases hold : u ∈ st.visited
    · refine (hi u hold i v hev).imp id fun h => ?_
      show (st.visited ++ [name]).idxOf v < (st.visited ++ [name]).idxOf u
      rwa [idxOf_append_left _ (mem_of_idxOf_lt h), idxOf_append_left _ hold]
    · -- `u` is `name`, finished now, after all targets of its unmarked edges
      obtain rfl : u = name := by simpa [hold] using hu
      refine (hedges i v hev).imp id fun h => ?_
      show (st.visited ++ [u]).idxOf v < (st.visited ++ [u]).idxOf u
      rw [idxOf_append_left _ h, List.idxOf_append, if_neg hold]
      exact Nat.lt_add_left _ (List.idxOf_lt_length_iff.mpr h)
  · intro u hu i v hev
    rcases List.mem_append.mp hu with h | h
    · exact (hc.1 u h i v hev).imp (List.mem_append_left _) id
    · obtain rfl : u = name := by simpa using h
      rcases hedges i v hev with hf | hv
      · exact (hc.2 u i hf v hev).imp (List.mem_append_left _) id
      · exact Or.inl (List.mem_append_left _ hv)

theorem dfs_spec (G : Graph) : ∀ fuel, CallSpec G (fun t vis s => dfs G fuel t vis s) := by
  intro fuel
  induction fuel with
  | zero => intro t vis s s' h; simp [dfs] at h
  | succ fuel ih =>
    intro name vis st st' h hi hc
    simp only [dfs] at h
    split at h
    · rename_i hv
      cases h
      exact ⟨Post.refl hi hc, List.contains_iff_mem.mp hv⟩
    · split at h
      · cases h
      · rename_i es hes
        split at h
        · cases h
        · rename_i mid hmid
          cases h
          obtain ⟨hp, hpe⟩ := edgeLoop_post G _ ih name vis es hes es 0 st mid rfl hmid hi hc
          have hedges : ∀ j v, EdgeAt G name j v → (name, j) ∈ mid.flags ∨ v ∈ mid.visited := by
            intro j v ⟨es', h1, h2⟩
            rw [hes] at h1; cases h1
            exact hpe j v (Nat.zero_le j) h2
          exact ⟨hp.trans (post_finish name hp.inv hp.closed hedges), by simp⟩

theorem reach_visited {G : Graph} {start : String} {st : DfsSt} (hc : Closed G [] st) (hs : start ∈ st.visited)
    {u : String} (hr : Reach G start u) : u ∈ st.visited := by
  induction hr with
  | refl => exact hs
  | step _ he ih => exact (hc.1 _ ih _ _ he).resolve_right List.not_mem_nil

theorem unmarked_decreases {G : Graph} {st : DfsSt} (hi : Inv G st) {u w : String}
    (hp : UnmarkedPath G st.flags u w) (hu : u ∈ st.visited) :
    st.visited.idxOf w < st.visited.idxOf u := by
  induction hp with
  | single he hn => exact (hi _ hu _ _ he).resolve_left hn
  | cons he hn _ ih =>
    have h := (hi _ hu _ _ he).resolve_left hn
    exact Nat.lt_trans (ih (mem_of_idxOf_lt h)) h

theorem findRecursions_breaks_cycles (G : Graph) (start : String) (st : DfsSt)
    (h : findRecursions G start = some st) (u : String) (hr : Reach G start u) :
    ¬ UnmarkedPath G st.flags u u := by
  obtain ⟨hp, hs⟩ := dfs_spec G _ start [] {} st h (fun u hu => by simp at hu)
    ⟨fun u hu => by simp at hu, fun u i hf => by simp at hf⟩
  intro hpath
  exact Nat.lt_irrefl _ (unmarked_decreases hp.inv hpath (reach_visited hp.closed hs hr))

theorem knot_peel {G : Graph} {C : List String} (h : Knot G C) : Knot (peel G) C := by
  refine ⟨h.1, fun u hu => ?_⟩
  obtain ⟨es, hmem, t, ht, htc⟩ := h.2 u hu
  obtain ⟨es', hmem', _⟩ := h.2 t htc
  refine ⟨es, List.mem_filter.mpr ⟨hmem, ?_⟩, t, ht, htc⟩
  exact List.any_eq_true.mpr ⟨t, ht, List.any_eq_true.mpr ⟨(t, es'), hmem', by simp⟩⟩

theorem knot_peelN {G : Graph} {C : List String} (h : Knot G C) : ∀ k, Knot (peelN k G) C
  | 0 => h
  | k + 1 => by
    simp only [peelN]
    exact knot_peelN (knot_peel h) k

theorem knot_nonempty {G : Graph} {C : List String} (h : Knot G C) : G ≠ [] := by
  obtain ⟨u, hu⟩ := List.exists_mem_of_ne_nil C h.1
  obtain ⟨es, hmem, _⟩ := h.2 u hu
  exact List.ne_nil_of_mem hmem

theorem Skel.sized_sound {s : Skel} (h : s.sized = true) (C : List String) : ¬ Knot s.contain C := fun hk =>
  knot_nonempty (knot_peelN hk s.contain.length) (List.isEmpty_iff.mp h)

end Rustemo.Ast
