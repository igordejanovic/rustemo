import Rustemo.Model.AstEval
/-!
Inversion of the evaluator: what `applyAct`, `reduce`, `eval`, `evalList` went through when they return `.ok`.
-/
namespace Rustemo.Ast

/-- the arms of `applyAct` that return a value, one rule per arm -/
inductive ActOk (loc fixed opt : Bool) : Act → List Val → Val → Prop
  | plain {n : String} : ActOk loc fixed opt (.plain n) [] (wrapSome opt (.node n [] []))
  | mkStruct {sn : String} {fs : List String} {w : Option String} {ps : List Val} : fs.length = ps.length →
      ActOk loc fixed opt (.mkStruct sn fs w) ps (wrapSome opt (wrapVariant w (mkStructVal loc sn fs ps)))
  | ref {w : Option String} {x : Val} : ActOk loc fixed opt (.ref w) [x] (wrapSome opt (wrapVariant w x))
  | empty : ActOk loc fixed opt .empty [] .none
  | vecEmpty : ActOk loc fixed opt .vecEmpty [] (.vec [])
  | vecOne {x : Val} : ActOk loc fixed opt .vecOne [x] (.vec [x])
  | pushLeft {as : List Val} {b : Val} : ActOk loc fixed opt (.vecPush true) [.vec as, b] (.vec (as ++ [b]))
  | pushRight {b : Val} {as : List Val} :
      ActOk loc fixed opt (.vecPush false) [b, .vec as] (.vec (pushRight fixed b as))

theorem applyAct_ok {loc fixed opt : Bool} {act : Act} {ps : List Val} {v : Val}
    (h : applyAct loc fixed opt act ps = .ok v) : ActOk loc fixed opt act ps v := by
  -- one goal per arm of `applyAct`, in its order; the last is the catch-all
  unfold applyAct at h
  split at h
  · cases h; exact .plain
  · split at h
    · next hl => cases h; exact .mkStruct (eq_of_beq hl)
    · cases h
  · cases h; exact .ref
  · cases h; exact .empty
  · cases h; exact .vecEmpty
  · cases h; exact .vecOne
  · cases h; exact .pushLeft
  · cases h; exact .pushRight
  · cases h

theorem reduce_ok {sh : Shapes} {p : PShape} {rs : List (Option Val)} {v : Val} (h : reduce sh p rs = .ok v) :
    p.reachable = true ∧ lenCheck p rs.length = .ok () ∧
      ∃ ps, params p.content rs = .ok ps ∧ applyAct sh.loc sh.fixed p.optional p.act ps = .ok v := by
  unfold reduce at h
  split at h
  · cases h
  · next hr =>
    split at h
    · cases h
    · next hlen =>
      split at h
      · cases h
      · next ps hps => exact ⟨by simpa using hr, hlen, ps, hps, h⟩

theorem eval_node_ok {sh : Shapes} {p : Nat} {kids : List PTree} {r : Option Val}
    (h : eval sh (.node p kids) = .ok r) :
    ∃ rs ps v, evalList sh kids = .ok rs ∧ sh.prods[p]? = some ps ∧ reduce sh ps rs = .ok v ∧ r = some v := by
  simp only [eval] at h
  split at h
  · cases h
  · next rs hrs =>
    split at h
    · cases h
    · next ps hp =>
      split at h
      · cases h
      · next v hv => cases h; exact ⟨rs, ps, v, hrs, hp, hv, rfl⟩

theorem evalList_cons_ok {sh : Shapes} {t : PTree} {ts : List PTree} {rs : List (Option Val)}
    (h : evalList sh (t :: ts) = .ok rs) :
    ∃ r rs', eval sh t = .ok r ∧ evalList sh ts = .ok rs' ∧ rs = r :: rs' := by
  simp only [evalList] at h
  split at h
  · cases h
  · next r hr =>
    split at h
    · cases h
    · next rs' hrs' => cases h; exact ⟨r, rs', hr, hrs', rfl⟩

theorem evalList_length (sh : Shapes) (ts : List PTree) :
    ∀ rs : List (Option Val), evalList sh ts = .ok rs → rs.length = ts.length := by
  induction ts with
  | nil => intro rs h; simp only [evalList] at h; cases h; rfl
  | cons t ts ih =>
    intro rs h
    obtain ⟨r, rs', _, hrs', rfl⟩ := evalList_cons_ok h
    simp [ih rs' hrs']

end Rustemo.Ast
