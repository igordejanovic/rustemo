import Rustemo.Model.AstEval
/-!
# Concrete instances used by Props/C10.lean and Props/C11.lean (non-vacuity, counterexamples)
-/
namespace Rustemo.Ast

def cs (n : String) (l : Option String := none) : RSym := { name := n, isTerm := true, content := true, label := l }
def kw (n : String) : RSym := { name := n, isTerm := true, content := false, label := none }
def ns (n : String) (l : Option String := none) : RSym := { name := n, isTerm := false, content := true, label := l }

/-- `S: KA L R; @vec L: L Num | Num; @vec R: Id R | Id;` (witness of F7) -/
def gVec (rn : Bool) : AGrammar :=
  { loc := false, rn := rn, start := "S",
    terms := [⟨"KA", false, true⟩, ⟨"Num", true, true⟩, ⟨"Id", true, true⟩],
    nts := [⟨"S", true, false⟩, ⟨"L", true, true⟩, ⟨"R", true, true⟩],
    prods := [ ⟨"S", none, 3, [kw "KA", ns "L", ns "R"]⟩,
               ⟨"L", none, 2, [ns "L", cs "Num"]⟩, ⟨"L", none, 1, [cs "Num"]⟩,
               ⟨"R", none, 2, [cs "Id", ns "R"]⟩, ⟨"R", none, 1, [cs "Id"]⟩ ] }

/-- only the left-recursive part -/
def gVecL : AGrammar :=
  { loc := false, rn := false, start := "S",
    terms := [⟨"KA", false, true⟩, ⟨"Num", true, true⟩],
    nts := [⟨"S", true, false⟩, ⟨"L", true, true⟩],
    prods := [ ⟨"S", none, 2, [kw "KA", ns "L"]⟩,
               ⟨"L", none, 2, [ns "L", cs "Num"]⟩, ⟨"L", none, 1, [cs "Num"]⟩ ] }

def typesOf (fx : Fixes) (g : AGrammar) : List SymType := (symbolTypes fx g).getD []

theorem symbolTypes_eq_typesOf {fx : Fixes} {g : AGrammar} (h : (symbolTypes fx g).isSome = true) :
    symbolTypes fx g = some (typesOf fx g) := by
  obtain ⟨ts, hts⟩ := Option.isSome_iff_exists.mp h
  rw [typesOf, hts, Option.getD_some]

/-- types / shapes / skeleton of /repo as it is now, and of the code before the repairs -/
abbrev typesNow (g : AGrammar) : List SymType := typesOf .repo g
abbrev typesWas (g : AGrammar) : List SymType := typesOf .asWas g
abbrev shapesNow (g : AGrammar) : Shapes := shapesFor .repo g (typesNow g)
abbrev shapesWas (g : AGrammar) : Shapes := shapesFor .asWas g (typesWas g)
abbrev skelNow (g : AGrammar) : Skel := skeleton .repo g (typesNow g)
abbrev skelWas (g : AGrammar) : Skel := skeleton .asWas g (typesWas g)

/-- parse tree of `KA 1 2 a b` -/
def tVec : PTree :=
  .node 0 [.leaf 1 "KA", .node 1 [.node 2 [.leaf 2 "1"], .leaf 2 "2"], .node 3 [.leaf 3 "a", .node 4 [.leaf 3 "b"]]]

/-- parse tree of `KA 1 2 3` -/
def tVecL : PTree :=
  .node 0 [.leaf 1 "KA", .node 1 [.node 1 [.node 2 [.leaf 2 "1"], .leaf 2 "2"], .leaf 2 "3"]]

/-- `S: Num A; A: B T; B: Num | EMPTY; T: Id | EMPTY;` (witness of F12), right-nulled lengths of GLR -/
def gTail (rn : Bool) : AGrammar :=
  { loc := false, rn := rn, start := "S",
    terms := [⟨"Num", true, true⟩, ⟨"Id", true, true⟩],
    nts := [⟨"S", true, false⟩, ⟨"A", true, false⟩, ⟨"B", true, false⟩, ⟨"T", true, false⟩],
    prods := [ ⟨"S", none, if rn then 1 else 2, [cs "Num", ns "A"]⟩,
               ⟨"A", none, if rn then 0 else 2, [ns "B", ns "T"]⟩,
               ⟨"B", none, 1, [cs "Num"]⟩, ⟨"B", none, 0, []⟩,
               ⟨"T", none, 1, [cs "Id"]⟩, ⟨"T", none, 0, []⟩ ] }

/-- `S: Num A; A: Id | EMPTY;` : the right-nulled tail IS an Option -/
def gOptTail (rn : Bool) : AGrammar :=
  { loc := false, rn := rn, start := "S",
    terms := [⟨"Num", true, true⟩, ⟨"Id", true, true⟩],
    nts := [⟨"S", true, false⟩, ⟨"A", true, false⟩],
    prods := [ ⟨"S", none, if rn then 1 else 2, [cs "Num", ns "A"]⟩,
               ⟨"A", none, 1, [cs "Id"]⟩, ⟨"A", none, 0, []⟩ ] }

/-- GLR tree of `7` for `gOptTail`: `A` is right-nulled (the S node has ONE child) -/
def tNulled : PTree := .node 0 [.leaf 1 "7"]

/-- `E: left=E KA right=E {Add} | KB A KB; A: E | Num;` recursive types -/
def gRec : AGrammar :=
  { loc := false, rn := false, start := "E",
    terms := [⟨"KA", false, true⟩, ⟨"KB", false, true⟩, ⟨"Num", true, true⟩],
    nts := [⟨"E", true, false⟩, ⟨"A", true, false⟩],
    prods := [ ⟨"E", some "Add", 3, [ns "E" (some "left"), kw "KA", ns "E" (some "right")]⟩,
               ⟨"E", none, 3, [kw "KB", ns "A", kw "KB"]⟩,
               ⟨"A", none, 1, [ns "E"]⟩, ⟨"A", none, 1, [cs "Num"]⟩ ] }

/-- F13: `A` + kind `BP1` and `AB` + `P1` both give the ProdKind `ABP1` -/
def gClash : AGrammar :=
  { loc := false, rn := false, start := "S",
    terms := [⟨"Num", true, true⟩, ⟨"Id", true, true⟩],
    nts := [⟨"S", true, false⟩, ⟨"A", true, false⟩, ⟨"AB", true, false⟩],
    prods := [ ⟨"S", none, 2, [ns "A", ns "AB"]⟩,
               ⟨"A", some "BP1", 2, [cs "Num", cs "Num"]⟩, ⟨"A", none, 1, [cs "Id"]⟩,
               ⟨"AB", none, 2, [cs "Num", cs "Id"]⟩, ⟨"AB", none, 2, [cs "Id", cs "Id"]⟩ ] }

/-- `S: KA V; @vec V: V Num | myItem=Num;` — the single-element alternative has a camelCase name -/
def gVecLabel : AGrammar :=
  { loc := false, rn := false, start := "S",
    terms := [⟨"KA", false, true⟩, ⟨"Num", true, true⟩],
    nts := [⟨"S", true, false⟩, ⟨"V", true, true⟩],
    prods := [ ⟨"S", none, 2, [kw "KA", ns "V"]⟩,
               ⟨"V", none, 2, [ns "V", cs "Num"]⟩, ⟨"V", none, 1, [cs "Num" (some "myItem")]⟩ ] }

/-- `S: KA V; @vec V: V Num | W | Num; W: KB W | Id;` — `@vec` accepted although `W` is another type -/
def gVecAlt : AGrammar :=
  { loc := false, rn := false, start := "S",
    terms := [⟨"KA", false, true⟩, ⟨"KB", false, true⟩, ⟨"Num", true, true⟩, ⟨"Id", true, true⟩],
    nts := [⟨"S", true, false⟩, ⟨"V", true, true⟩, ⟨"W", true, false⟩],
    prods := [ ⟨"S", none, 2, [kw "KA", ns "V"]⟩,
               ⟨"V", none, 2, [ns "V", cs "Num"]⟩, ⟨"V", none, 1, [ns "W"]⟩, ⟨"V", none, 1, [cs "Num"]⟩,
               ⟨"W", none, 2, [kw "KB", ns "W"]⟩, ⟨"W", none, 1, [cs "Id"]⟩ ] }

def rNeg : RSym := { name := "KA", isTerm := true, content := false, label := some "neg", isBool := true }
def pNeg : AProd := ⟨"A", none, 2, [rNeg, cs "Num" (some "n")]⟩

/-- `S: A+; A: neg?=KA n=Num | KB pos?=Id m=Num;` (the sugar written out): `?=` on a keyword and on a regex terminal -/
def gBool : AGrammar :=
  { loc := false, rn := false, start := "S",
    terms := [⟨"KA", false, true⟩, ⟨"KB", false, true⟩, ⟨"Num", true, true⟩, ⟨"Id", true, true⟩],
    nts := [⟨"S", true, false⟩, ⟨"A1", true, true⟩, ⟨"A", true, false⟩],
    prods := [ ⟨"S", none, 1, [ns "A1"]⟩,
               ⟨"A1", none, 2, [ns "A1", ns "A"]⟩, ⟨"A1", none, 1, [ns "A"]⟩,
               pNeg,
               ⟨"A", none, 3, [kw "KB", { name := "Id", isTerm := true, content := true, label := some "pos", isBool := true },
                               cs "Num" (some "m")]⟩ ] }

/-- parse tree of `KA 1 KB x 3` -/
def tBool : PTree :=
  .node 0 [.node 1 [.node 2 [.node 3 [.leaf 1 "KA", .leaf 3 "1"]], .node 4 [.leaf 2 "KB", .leaf 4 "x", .leaf 3 "3"]]]

/-- `S: C Num; C: Id Id | KA;` with `builder_loc_info` — the rule name `C` met the header alias `Context as C` -/
def gRuleC : AGrammar :=
  { loc := true, rn := false, start := "S",
    terms := [⟨"KA", false, true⟩, ⟨"Num", true, true⟩, ⟨"Id", true, true⟩],
    nts := [⟨"S", true, false⟩, ⟨"C", true, false⟩],
    prods := [ ⟨"S", none, 2, [ns "C", cs "Num"]⟩,
               ⟨"C", none, 2, [cs "Id", cs "Id"]⟩, ⟨"C", none, 1, [kw "KA"]⟩ ] }

/-- `S: KA B; B: y=Num x=A; A: B | EMPTY;` under GLR: `type A = Option<Box<B>>`, `A` right-nulled in `B` -/
def gOptBox : AGrammar :=
  { loc := false, rn := true, start := "S",
    terms := [⟨"KA", false, true⟩, ⟨"Num", true, true⟩],
    nts := [⟨"S", true, false⟩, ⟨"B", true, false⟩, ⟨"A", true, false⟩],
    prods := [ ⟨"S", none, 2, [kw "KA", ns "B"]⟩,
               ⟨"B", none, 1, [cs "Num" (some "y"), ns "A" (some "x")]⟩,
               ⟨"A", none, 1, [ns "B"]⟩, ⟨"A", none, 0, []⟩ ] }

end Rustemo.Ast
