import Rustemo.Proofs.AstEval
import Rustemo.Proofs.AstDefs
/-!
`run` over the builder calls of a tree, from any stack `s`, ends in `pushRes s (eval sh t)` (`run_events`): the children leave their
results on `s` in reverse (`pushAll`), the reduce arm splits `popCount` of them off, and where that is not the number of children,
or the production is unreachable, both sides stop with the same error (`run_reduce`).
-/
namespace Rustemo.Ast

theorem run_append (sh : Shapes) : ∀ (es fs : List Ev) (s : List (Option Val)),
    run sh (es ++ fs) s = (run sh es s).bind (run sh fs)
  | [], fs, s => by simp [run, Except.bind]
  | e :: es, fs, s => by
    simp only [run, List.cons_append]
    split
    · simp [Except.bind]
    · exact run_append sh es fs _

theorem lenCheck_err_of_popCount_ne (p : PShape) (len : Nat) (h : popCount p len ≠ len) :
    lenCheck p len = .error .stack := by
  simp only [popCount] at h
  simp only [lenCheck]
  split at h
  · rename_i hc
    have : (len == p.content.length) = false := by simpa using Ne.symm h
    simp [hc, this]
  · exact absurd rfl h

theorem reduce_stack_err (sh : Shapes) (p : PShape) (rs : List (Option Val)) (hr : p.reachable = true)
    (h : popCount p rs.length ≠ rs.length) : reduce sh p rs = .error .stack := by
  unfold reduce
  simp [hr, lenCheck_err_of_popCount_ne p rs.length h]

theorem reduce_unreachable (sh : Shapes) (p : PShape) (rs : List (Option Val)) (hr : p.reachable = false) :
    reduce sh p rs = .error (.panic "Reduce of unreachable nonterminal!") := by
  unfold reduce
  simp [hr]

theorem run_reduce (sh : Shapes) (p : Nat) (kids : List PTree) (rs s : List (Option Val))
    (hrs : evalList sh kids = .ok rs) :
    run sh [.reduce p kids.length] (rs.reverse ++ s) = pushRes s (eval sh (.node p kids)) := by
  rw [← evalList_length sh kids rs hrs]
  simp only [eval, hrs, run, stepEv]
  cases hp : sh.prods[p]? with
  | none => rfl
  | some ps =>
    simp only
    cases hreach : ps.reachable with
    | false => simp [reduce_unreachable sh ps rs hreach, pushRes]
    | true =>
      simp only [Bool.not_true, Bool.false_eq_true, if_false]
      by_cases hpop : popCount ps rs.length = rs.length
      · have hl : ¬ (rs.length + s.length < rs.length) := by omega
        simp only [hpop, ne_eq, not_true_eq_false, if_false, List.length_append, List.length_reverse,
          hl, List.take_left' List.length_reverse, List.drop_left' List.length_reverse,
          List.reverse_reverse]
        cases reduce sh ps rs <;> simp [pushRes]
      · simp [hpop, reduce_stack_err sh ps rs hreach hpop, pushRes]

mutual
theorem run_events (sh : Shapes) : ∀ (t : PTree) (s : List (Option Val)),
    run sh t.events s = pushRes s (eval sh t)
  | .leaf t text, s => by
    simp only [PTree.events, run, stepEv, eval]
    cases evalLeaf sh t text <;> simp [pushRes]
  | .node p kids, s => by
    simp only [PTree.events]
    rw [run_append, run_eventsL sh kids s]
    cases hrs : evalList sh kids with
    | error e => simp [eval, hrs, pushAll, Except.bind, pushRes]
    | ok rs => exact run_reduce sh p kids rs s hrs

theorem run_eventsL (sh : Shapes) : ∀ (ts : List PTree) (s : List (Option Val)),
    run sh (PTree.eventsL ts) s = pushAll s (evalList sh ts)
  | [], s => by simp [PTree.eventsL, run, evalList, pushAll]
  | t :: ts, s => by
    simp only [PTree.eventsL, evalList]
    rw [run_append, run_events sh t s]
    cases eval sh t with
    | error e => simp [pushRes, Except.bind, pushAll]
    | ok r =>
      simp only [pushRes, Except.bind]
      rw [run_eventsL sh ts (r :: s)]
      cases evalList sh ts with
      | error e => simp [pushAll]
      | ok rs => simp [pushAll]
end

theorem runTree_ok_iff (sh : Shapes) (t : PTree) (v : Val) : runTree sh t = .ok v ↔ eval sh t = .ok (some v) := by
  unfold runTree
  rw [run_events sh t []]
  cases eval sh t with
  | error e => simp [pushRes]
  | ok r => cases r <;> simp [pushRes, getResult]

theorem runTree_of_eval (sh : Shapes) (t : PTree) (v : Val) (h : eval sh t = .ok (some v)) :
    runTree sh t = .ok v :=
  (runTree_ok_iff sh t v).mpr h

end Rustemo.Ast
