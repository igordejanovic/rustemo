import Rustemo.Proofs.AstEval
import Rustemo.Proofs.AstDefs
/-!
The value carries the content tokens of its tree in input order (`eval_tokens`): every arm of `applyAct` concatenates the tokens of
its parameters in order except `a.push(b)` with the vector on the RIGHT and `fixed = false` (F7), which `Supported` excludes;
`KidsRel` takes this through the children, those missing from a right-nulled node included.  `hasRightVec ts = false`, the class
predicate of F7 that the driver decides for every grammar of a run, implies `Supported (shapesOf g ts false)`.
-/
namespace Rustemo.Ast

theorem tokensL_append (as bs : List Val) : Val.tokensL (as ++ bs) = Val.tokensL as ++ Val.tokensL bs := by
  induction as with
  | nil => simp [Val.tokensL]
  | cons a as ih => simp [Val.tokensL, ih]

@[simp] theorem tokens_wrapSome (o : Bool) (v : Val) : (wrapSome o v).tokens = v.tokens := by
  unfold wrapSome; split <;> simp [Val.tokens]

@[simp] theorem tokens_wrapVariant (w : Option String) (v : Val) : (wrapVariant w v).tokens = v.tokens := by
  unfold wrapVariant; split <;> simp [Val.tokens, Val.tokensL]

@[simp] theorem tokens_mkStructVal (loc : Bool) (sn : String) (fs : List String) (ps : List Val) :
    (mkStructVal loc sn fs ps).tokens = Val.tokensL ps := by
  unfold mkStructVal; split <;> simp [Val.tokens]

/-- `hs` excludes `a.push(b)` with the vector as the RIGHT operand in the code as it is (`fixed = false`): F7 -/
theorem applyAct_tokens (loc fixed opt : Bool) (act : Act) (ps : List Val) (v : Val)
    (hs : fixed = true ∨ act ≠ .vecPush false)
    (h : applyAct loc fixed opt act ps = .ok v) : v.tokens = Val.tokensL ps := by
  cases applyAct_ok h with
  | pushRight =>
    rcases hs with rfl | hne
    · simp [Val.tokens, Val.tokensL, pushRight]
    · exact absurd rfl hne
  | _ => simp [Val.tokens, Val.tokensL, tokensL_append]

def KidsRel (sh : Shapes) : List PTree → List (Option Val) → Prop
  | [], [] => True
  | t :: ts, r :: rs => tokensOpt r = t.contentTokens sh ∧ r.isSome = kidHasValue sh t ∧ KidsRel sh ts rs
  | _, _ => False

theorem params_tokens (sh : Shapes) (cs : List Bool) (ts : List PTree) (rs : List (Option Val)) (ps : List Val)
    (hrel : KidsRel sh ts rs) (hfl : flagsAgree sh cs ts = true) (h : params cs rs = .ok ps) :
    Val.tokensL ps = PTree.contentTokensL sh ts := by
  induction cs generalizing ts rs ps with
  | nil =>
    cases ts with
    | nil => simp [params] at h; subst h; simp [Val.tokensL, PTree.contentTokensL]
    | cons t ts => simp [flagsAgree] at hfl
  | cons c cs ih =>
    match ts, rs, hrel with
    | [], [], _ =>
      -- flags left over, no children: a right-nulled node, whose missing content parameters are `None` (no tokens)
      simp only [params] at h
      split at h
      · cases h
      · next qs hq =>
        cases h
        have := ih [] [] qs trivial (by cases cs <;> rfl) hq
        simp only [PTree.contentTokensL] at this ⊢
        split <;> simp [Val.tokensL, Val.tokens, this]
    | t :: ts, r :: rs, ⟨htok, hval, hrest⟩ =>
      simp only [flagsAgree, Bool.and_eq_true, beq_iff_eq] at hfl
      obtain ⟨hc, hfl'⟩ := hfl
      simp only [params] at h
      split at h
      · cases h
      · next qs hq =>
        have ihq := ih ts rs qs hrest hfl' hq
        split at h
        · split at h
          · cases h
            simp [Val.tokensL, PTree.contentTokensL, ihq, ← htok, tokensOpt]
          · cases h
        · next hcf =>
          cases h
          have hnv : kidHasValue sh t = false := by rw [← hc]; simpa using hcf
          rw [hnv] at hval
          cases r with
          | none => simp [tokensOpt] at htok; simp [PTree.contentTokensL, ← htok, ihq]
          | some v => simp at hval

theorem evalLeaf_rel (sh : Shapes) (t : Nat) (text : String) (r : Option Val) (h : evalLeaf sh t text = .ok r) :
    tokensOpt r = (PTree.leaf t text).contentTokens sh ∧ r.isSome = kidHasValue sh (.leaf t text) := by
  unfold evalLeaf at h
  split at h
  · cases h
  · split at h
    · cases h
    · rename_i content reach hlook
      have hc : termContent sh t = content := by simp [termContent, hlook]
      cases reach <;> cases content <;> cases h <;>
        simp only [PTree.contentTokens, kidHasValue, hc, tokensOpt]
      · simp
      · cases sh.loc <;> simp [Val.tokens]

theorem reduce_tokens (sh : Shapes) (hs : Supported sh) (p : Nat) (ps : PShape) (hp : sh.prods[p]? = some ps)
    (kids : List PTree) (rs : List (Option Val)) (v : Val)
    (hrel : KidsRel sh kids rs) (hfl : flagsAgree sh ps.content kids = true) (h : reduce sh ps rs = .ok v) :
    v.tokens = PTree.contentTokensL sh kids := by
  obtain ⟨_, _, qs, hq, ha⟩ := reduce_ok h
  rw [applyAct_tokens sh.loc sh.fixed ps.optional ps.act qs v
    (hs.imp id fun hall => hall ps (List.mem_of_getElem? hp)) ha,
    params_tokens sh ps.content kids rs qs hrel hfl hq]

mutual
theorem eval_rel (sh : Shapes) (hs : Supported sh) :
    ∀ (t : PTree) (r : Option Val), t.wellShaped sh = true → eval sh t = .ok r →
      tokensOpt r = t.contentTokens sh ∧ r.isSome = kidHasValue sh t
  | .leaf t text, r, _, h => by
    simp only [eval] at h
    exact evalLeaf_rel sh t text r h
  | .node p kids, r, hw, h => by
    simp only [PTree.wellShaped, Bool.and_eq_true] at hw
    obtain ⟨rs, ps, v, hrs, hp, hv, rfl⟩ := eval_node_ok h
    have := reduce_tokens sh hs p ps hp kids rs v (evalList_rel sh hs kids rs hw.2 hrs)
      (by simpa [prodFlagsAgree, hp] using hw.1) hv
    simp [tokensOpt, PTree.contentTokens, this, kidHasValue]
theorem evalList_rel (sh : Shapes) (hs : Supported sh) :
    ∀ (ts : List PTree) (rs : List (Option Val)), PTree.wellShapedL sh ts = true → evalList sh ts = .ok rs →
      KidsRel sh ts rs
  | [], rs, _, h => by
    simp only [evalList] at h
    cases h
    simp [KidsRel]
  | t :: ts, rs, hw, h => by
    simp only [PTree.wellShapedL, Bool.and_eq_true] at hw
    obtain ⟨r, rs', hr, hrs', rfl⟩ := evalList_cons_ok h
    have h1 := eval_rel sh hs t r hw.1 hr
    exact ⟨h1.1, h1.2, evalList_rel sh hs ts rs' hw.2 hrs'⟩
end

theorem eval_tokens (sh : Shapes) (hs : Supported sh) (t : PTree) (hw : t.wellShaped sh = true) (v : Val)
    (h : eval sh t = .ok (some v)) : v.tokens = t.contentTokens sh := by
  have := (eval_rel sh hs t (some v) hw h).1
  simpa [tokensOpt] using this

theorem actOf_vecPush_false {nt : String} {t : SymType} {c : Choice} (h : actOf nt t c = .vecPush false) :
    ∃ r b, t.kind = .vec r b ∧ ∃ st a f, c.kind = .struct st [a, f] ∧ (f.refType == nt) = true := by
  unfold actOf at h
  split at h
  · rename_i r b hk
    refine ⟨r, b, hk, ?_⟩
    split at h
    · cases h
    · rename_i st a f hc
      refine ⟨st, a, f, hc, ?_⟩
      simp only [Act.vecPush.injEq, Bool.not_eq_false'] at h
      exact h
    all_goals cases h
  · split at h <;> cases h
  · split at h <;> cases h
  · split at h <;> cases h
  · cases h

theorem supported_of_no_right_vec (g : AGrammar) (ts : List SymType) (h : hasRightVec ts = false) :
    Supported (shapesOf g ts false) := by
  right
  intro p hp hact
  simp only [shapesOf, List.mem_map] at hp
  obtain ⟨ip, _, rfl⟩ := hp
  unfold shapeOfProd at hact
  split at hact
  · rename_i t c ht hc
    simp only at hact
    obtain ⟨r, b, hk, st, a, f, hck, hf⟩ := actOf_vecPush_false hact
    have e : t.name = ip.2.nt := by simpa using List.find?_some ht
    have hcm : c ∈ t.choices := by
      unfold choiceOfProd at hc
      rw [ht] at hc
      exact List.mem_of_getElem? hc
    have : hasRightVec ts = true :=
      List.any_eq_true.mpr ⟨t, List.mem_of_find?_eq_some ht, by
        simp only [hk]
        exact List.any_eq_true.mpr ⟨c, hcm, by simp only [hck, e]; exact hf⟩⟩
    rw [h] at this; cases this
  · simp at hact

/-- left recursion `A: A B`: the new element goes after the elements collected so far (input order) -/
theorem vec_left_in_order (loc fixed opt : Bool) (as : List Val) (b : Val) :
    applyAct loc fixed opt (.vecPush true) [.vec as, b] = .ok (.vec (as ++ [b])) := rfl

/-- right recursion `A: B A`, the code as it is: the element that comes FIRST in the input is appended LAST -/
theorem vec_right_as_is (loc opt : Bool) (as : List Val) (b : Val) :
    applyAct loc false opt (.vecPush false) [b, .vec as] = .ok (.vec (as ++ [b])) := rfl

/-- right recursion, repaired: the element goes to the front -/
theorem vec_right_fixed (loc opt : Bool) (as : List Val) (b : Val) :
    applyAct loc true opt (.vecPush false) [b, .vec as] = .ok (.vec (b :: as)) := rfl

end Rustemo.Ast
