import Rustemo.Model.AstGen
/-!
`contentRhs p` are the content symbols of a production with their positions in the rhs.  It has two readers: a labelled content
symbol becomes a member of that name (the `?=` theorem of C10); and every position is below the length of the rhs, so a reduce arm
of full length passes one parameter of the right type per content symbol and no `None` (`prodCalls_full`, `argsOk_full`: C11).
-/
namespace Rustemo.Ast

theorem enumFrom_eq_zipIdx {α} (l : List α) : ∀ n, enumFrom n l = (l.zipIdx n).map fun p => (p.2, p.1) := by
  induction l with
  | nil => intro n; rfl
  | cons a as ih => intro n; simp only [enumFrom, ih, List.zipIdx_cons, List.map_cons]

theorem mem_enumFrom_iff {α} {x : Nat × α} {l : List α} {n : Nat} :
    x ∈ enumFrom n l ↔ n ≤ x.1 ∧ l[x.1 - n]? = some x.2 := by
  rw [enumFrom_eq_zipIdx, List.mem_map]
  constructor
  · rintro ⟨p, hp, rfl⟩
    exact List.mem_zipIdx_iff_le_and_getElem?_sub.mp hp
  · intro h
    exact ⟨(x.2, x.1), List.mem_zipIdx_iff_le_and_getElem?_sub.mpr h, rfl⟩

theorem mem_enumFrom {α} : ∀ (l : List α) (n : Nat) (x : Nat × α), x ∈ enumFrom n l → x.2 ∈ l :=
  fun _ _ _ h => List.mem_of_getElem? (mem_enumFrom_iff.mp h).2

theorem mem_contentRhs_iff {p : AProd} {a : Nat × RSym} :
    a ∈ contentRhs p ↔ p.rhs[a.1]? = some a.2 ∧ a.2.content = true := by
  simp only [contentRhs, List.mem_filter, mem_enumFrom_iff, Nat.zero_le, true_and, Nat.sub_zero]

theorem contentRhs_lt (p : AProd) : ∀ a ∈ contentRhs p, a.1 < p.rhs.length :=
  fun _ ha => (List.getElem?_eq_some_iff.mp (mem_contentRhs_iff.mp ha).1).1

theorem fieldOf_label (tn : List String) (a : Nat × RSym) (l : String) (h : a.2.label = some l) :
    (fieldOf tn a).name = l := by
  unfold fieldOf
  simp [h]

theorem argsOk_full (fx : Fixes) (ts : List SymType) (s : Skel) (len : Nat) :
    ∀ (cr : List (Nat × RSym)) (k : Nat) (names : List String),
      (∀ a ∈ cr, a.1 < len) → names.length = cr.length →
      argsOk s (armArgs fx ts len k cr) (List.zip names (cr.map fun a => Ty.named a.2.name)) = true
  | [], _, [], _, _ => by simp [armArgs, argsOk]
  | [], _, _ :: _, _, h => by simp at h
  | _ :: _, _, [], _, h => by simp at h
  | a :: rest, k, n :: names, hlt, h => by
    simp only [armArgs, hlt a (by simp), if_true, List.map_cons, List.zip_cons_cons, argsOk,
      Skel.argOk, beq_self_eq_true, Bool.true_and]
    exact argsOk_full fx ts s len rest (k + 1) names
      (fun b hb => hlt b (List.mem_cons_of_mem _ hb)) (by simpa using h)

theorem prodCalls_full (fx : Fixes) (ts : List SymType) (nt : String) (c : Choice) (p : AProd)
    (hrn : p.rnLen = p.rhs.length) :
    prodCalls fx ts nt c p =
      [⟨actionName nt c, .ctx :: armArgs fx ts p.rhs.length 0 (contentRhs p)⟩] := by
  unfold prodCalls
  simp only [hrn, beq_self_eq_true, if_true]
  split
  · rename_i h0
    have hr : p.rhs = [] := List.eq_nil_of_length_eq_zero (by simpa using h0)
    simp [contentRhs, hr, enumFrom, armArgs]
  · split
    · rename_i hce
      simp [List.isEmpty_iff.mp hce, armArgs]
    · rfl

end Rustemo.Ast
