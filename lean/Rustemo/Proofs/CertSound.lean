import Rustemo.Model.GlrCert
import Rustemo.Proofs.CoreSound
import Rustemo.Proofs.ListFacts
/-!
Each combinator of the checkers is read once, as an iff.  `Cert.structural` and `Cert.structuralRN` are one checker
`Cert.structuralWith` with the test of a `Reduce` entry as a parameter; `Cert.structuralWith_iff` says clause by
clause what it checks, and both soundness and the table construction (`Table.Facts.clauses`) read that statement.
-/

namespace Rustemo

theorem forStates_iff {t : Table} {f : Nat → State → Bool} :
    t.forStates f = true ↔ ∀ s st, t.states[s]? = some st → f s st = true := by
  unfold Table.forStates
  rw [List.all_eq_true]
  constructor
  · intro h s st hs
    simpa [hs] using h s (List.mem_range.mpr (lt_size_of_getElem? hs))
  · intro h s hs
    have hs' := Array.getElem?_eq_getElem (List.mem_range.mp hs)
    rw [hs']
    exact h s _ hs'

theorem forItems_elim {t : Table} {f : Nat → State → Item → Bool}
    (h : (t.forStates fun i st => st.items.all (f i st)) = true)
    {s : Nat} {st : State} (hs : t.states[s]? = some st) {it : Item} (hit : it ∈ st.items) :
    f s st it = true :=
  List.all_eq_true.mp (forStates_iff.mp h _ _ hs) it hit

theorem forCells_iff {st : State} {f : Nat → Action → Bool} :
    st.forCells f = true ↔ ∀ a, ∀ act ∈ st.actions.getD a [], f a act = true := by
  unfold State.forCells
  simp only [List.all_eq_true]
  exact ⟨fun h a act hm => h a (List.mem_range.mpr (lt_size_of_getD_ne (List.ne_nil_of_mem hm))) act hm,
    fun h a _ => h a⟩

theorem forGotos_iff {st : State} {f : Nat → Nat → Bool} :
    st.forGotos f = true ↔ ∀ j s', st.gotos.getD j none = some s' → f j s' = true := by
  unfold State.forGotos
  rw [List.all_eq_true]
  constructor
  · intro h j s' hm
    simpa [hm] using h j (List.mem_range.mpr (lt_size_of_getD_ne (by rw [hm]; nofun)))
  · intro h j _
    cases hm : st.gotos.getD j none with
    | none => rfl
    | some s' => exact h j s' hm

theorem hasItemB_iff {st : State} {p d : Nat} :
    st.hasItemB p d = true ↔ ∃ it ∈ st.items, it.prod = p ∧ it.dot = d := by
  simp only [State.hasItemB, List.any_eq_true, Bool.and_eq_true, beq_iff_eq]

theorem mem_autosOf_main (g : Grammar) (t : Table) : (⟨0, 0, g.startIdx⟩ : Auto) ∈ autosOf g t :=
  List.mem_cons_self

def Grammar.prodB (g : Grammar) (p : Nat) (b : Prod → Bool) : Bool :=
  match g.prods[p]? with
  | some pr => b pr
  | none => false

theorem Grammar.prodB_iff {g : Grammar} {p : Nat} {b : Prod → Bool} :
    g.prodB p b = true ↔ ∃ pr, g.prods[p]? = some pr ∧ b pr = true := by
  unfold Grammar.prodB
  cases g.prods[p]? <;> simp

def Cert.structuralWith (g : Grammar) (t : Table) (autos : List Auto) (red : State → Nat → Nat → Bool) : Bool :=
  (t.forStates fun _ st => st.items.all fun it => g.prodB it.prod fun pr => it.dot ≤ pr.rhs.length) &&
  (t.forStates fun i st => st.items.all fun it => autos.all fun a =>
      (i != a.start || it.dot == 0) && (i == a.start || !(it.prod == a.aug && it.dot == 0))) &&
  (t.forStates fun _ st =>
      decide (st.actions.size ≤ g.nterms) &&
      st.forCells fun a act =>
        match act with
        | .shift s' => (autos.all fun au => s' != au.start) && t.targetOk g st a s'
        | .reduce p len => red st p len
        | .accept => autos.any fun au => (g.prodB au.aug fun pr => pr.rhs == [au.sym]) && st.hasItemB au.aug 1) &&
  (t.forStates fun _ st => st.forGotos fun j s' =>
      (autos.all fun au => s' != au.start) && t.targetOk g st (g.nterms + j) s') &&
  (autos.all fun a => autos.all fun b => a.start != b.start || decide (a = b))

def Cert.redPlain (g : Grammar) (st : State) (p len : Nat) : Bool :=
  st.hasItemB p len && g.prodB p fun pr => pr.rhs.length == len

def Cert.redRN (g : Grammar) (nul : List Nat) (st : State) (p len : Nat) : Bool :=
  st.hasItemB p len && g.prodB p fun pr =>
    decide (len ≤ pr.rhs.length) && (pr.rhs.drop len).all fun Y => nul.contains Y

theorem Cert.structural_eq (g : Grammar) (t : Table) (autos : List Auto) :
    Cert.structural g t autos = Cert.structuralWith g t autos (Cert.redPlain g) := rfl

theorem Cert.structuralRN_eq (g : Grammar) (t : Table) (autos : List Auto) (nul : List Nat) :
    Cert.structuralRN g t autos nul = Cert.structuralWith g t autos (Cert.redRN g nul) := rfl

theorem Cert.redPlain_iff {g : Grammar} {st : State} {p len : Nat} :
    Cert.redPlain g st p len = true ↔
      (∃ it ∈ st.items, it.prod = p ∧ it.dot = len) ∧ ∃ pr, g.prods[p]? = some pr ∧ pr.rhs.length = len := by
  simp only [Cert.redPlain, Bool.and_eq_true, hasItemB_iff, Grammar.prodB_iff, beq_iff_eq]

theorem Cert.redRN_iff {g : Grammar} {nul : List Nat} {st : State} {p len : Nat} :
    Cert.redRN g nul st p len = true ↔
      (∃ it ∈ st.items, it.prod = p ∧ it.dot = len) ∧
        ∃ pr, g.prods[p]? = some pr ∧ len ≤ pr.rhs.length ∧ ∀ Y ∈ pr.rhs.drop len, Y ∈ nul := by
  simp only [Cert.redRN, Bool.and_eq_true, hasItemB_iff, Grammar.prodB_iff, decide_eq_true_eq, List.all_eq_true,
    List.contains_iff_mem]

theorem forall_action {P : Action → Prop} :
    (∀ act, P act) ↔ (∀ s', P (.shift s')) ∧ (∀ p len, P (.reduce p len)) ∧ P .accept :=
  ⟨fun h => ⟨fun _ => h _, fun _ _ => h _, h _⟩, fun h act => by
    cases act with
    | shift s' => exact h.1 s'
    | reduce p len => exact h.2.1 p len
    | accept => exact h.2.2⟩

theorem Cert.structuralWith_iff {g : Grammar} {t : Table} {autos : List Auto} {red : State → Nat → Nat → Bool} :
    Cert.structuralWith g t autos red = true ↔
      ((((∀ (s : Nat) (st : State), t.states[s]? = some st → ∀ it ∈ st.items,
          ∃ pr, g.prods[it.prod]? = some pr ∧ it.dot ≤ pr.rhs.length) ∧
        (∀ (s : Nat) (st : State), t.states[s]? = some st → ∀ it ∈ st.items, ∀ a ∈ autos,
          (s = a.start → it.dot = 0) ∧ (it.prod = a.aug → it.dot = 0 → s = a.start))) ∧
        (∀ (s : Nat) (st : State), t.states[s]? = some st → st.actions.size ≤ g.nterms ∧ ∀ a,
          (∀ s', .shift s' ∈ st.actions.getD a [] → (∀ au ∈ autos, s' ≠ au.start) ∧ t.targetOk g st a s' = true) ∧
          (∀ p len, .reduce p len ∈ st.actions.getD a [] → red st p len = true) ∧
          (.accept ∈ st.actions.getD a [] → ∃ au ∈ autos, (∃ pr, g.prods[au.aug]? = some pr ∧ pr.rhs = [au.sym]) ∧
            ∃ it ∈ st.items, it.prod = au.aug ∧ it.dot = 1))) ∧
        (∀ (s : Nat) (st : State), t.states[s]? = some st → ∀ j s', st.gotos.getD j none = some s' →
          (∀ au ∈ autos, s' ≠ au.start) ∧ t.targetOk g st (g.nterms + j) s' = true)) ∧
        ∀ a ∈ autos, ∀ b ∈ autos, a.start = b.start → a = b := by
  unfold Cert.structuralWith
  simp only [↓bne_or_iff, ↓or_bnot_iff, Bool.and_eq_true, forStates_iff, forCells_iff, forGotos_iff, forall_action,
    Grammar.prodB_iff, hasItemB_iff, List.all_eq_true, List.any_eq_true, decide_eq_true_eq, bne_iff_ne, ne_eq,
    beq_iff_eq, and_imp]

theorem cell_eq {t : Table} {s : Nat} {st : State} (hs : t.states[s]? = some st) (a : Nat) :
    t.cell s a = st.actions.getD a [] := by
  rw [Table.cell, hs]

theorem sorted_eq {t : Table} {s : Nat} {st : State} (hs : t.states[s]? = some st) :
    t.sorted s = st.sorted := by
  rw [Table.sorted, hs]

theorem mem_cell {t : Table} {s a : Nat} {act : Action} (h : act ∈ t.cell s a) :
    ∃ st, t.states[s]? = some st ∧ act ∈ st.actions.getD a [] := by
  cases hst : t.states[s]? with
  | none => rw [Table.cell, hst] at h; cases h
  | some st => exact ⟨st, rfl, cell_eq hst a ▸ h⟩

theorem goto_eq_some {t : Table} {g : Grammar} {s A s' : Nat} (h : t.goto g s A = some s') :
    g.nterms ≤ A ∧ ∃ st, t.states[s]? = some st ∧ st.gotos.getD (A - g.nterms) none = some s' := by
  unfold Table.goto at h
  split at h
  · rename_i hA
    refine ⟨hA, ?_⟩
    unfold Table.gotoNt at h
    split at h
    · rename_i st hst; exact ⟨st, hst, h⟩
    · simp at h
  · simp at h

theorem trans_cases {t : Table} {g : Grammar} {s X s' : Nat} (h : t.trans g s X s') :
    ∃ st, t.states[s]? = some st ∧
      ((X < g.nterms ∧ Action.shift s' ∈ st.actions.getD X []) ∨
       (g.nterms ≤ X ∧ st.gotos.getD (X - g.nterms) none = some s')) := by
  rcases Nat.lt_or_ge X g.nterms with hX | hX
  · obtain ⟨st, hst, hm⟩ := mem_cell ((Table.trans_term hX).mp h); exact ⟨st, hst, Or.inl ⟨hX, hm⟩⟩
  · obtain ⟨_, st, hst, hm⟩ := goto_eq_some ((Table.trans_nonterm hX).mp h); exact ⟨st, hst, Or.inr ⟨hX, hm⟩⟩

theorem rhsAt_eq_some {g : Grammar} {p d X : Nat} :
    g.rhsAt p d = some X ↔ ∃ pr, g.prods[p]? = some pr ∧ pr.rhs[d]? = some X := by
  unfold Grammar.rhsAt
  cases g.prods[p]? <;> simp

theorem targetOk_iff {g : Grammar} {t : Table} {st : State} {X s' : Nat} :
    t.targetOk g st X s' = true ↔ ∀ st', t.states[s']? = some st' → ∀ it ∈ st'.items,
      it.dot = 0 ∨ (g.rhsAt it.prod (it.dot - 1) = some X ∧ ∃ jt ∈ st.items, jt.prod = it.prod ∧ jt.dot = it.dot - 1) := by
  unfold Table.targetOk
  cases t.states[s']? <;>
    simp only [List.all_eq_true, Bool.or_eq_true, Bool.and_eq_true, beq_iff_eq, hasItemB_iff, Option.some.injEq,
      forall_eq', reduceCtorEq, false_imp_iff, implies_true]

theorem Cert.structuralWith_sound {g : Grammar} {t : Table} {autos : List Auto} {red : State → Nat → Nat → Bool}
    (h : Cert.structuralWith g t autos red = true)
    (hred : ∀ s st, t.states[s]? = some st → ∀ p len, red st p len = true →
      t.hasItem s p len ∧ ∃ pr, g.prods[p]? = some pr ∧ len ≤ pr.rhs.length ∧ ∀ Y ∈ pr.rhs.drop len, Nullable g Y) :
    StructuralRN g t autos ∧
      ∀ s a p len, Action.reduce p len ∈ t.cell s a → ∃ st, t.states[s]? = some st ∧ red st p len = true := by
  obtain ⟨⟨⟨⟨h1, h2⟩, h3⟩, h4⟩, h5⟩ := Cert.structuralWith_iff.mp h
  have trans_ok : ∀ s X s', t.trans g s X s' →
      ∃ st, t.states[s]? = some st ∧ (∀ au ∈ autos, s' ≠ au.start) ∧ t.targetOk g st X s' = true := by
    intro s X s' htr
    obtain ⟨st, hst, ⟨_, hm⟩ | ⟨hA, hm⟩⟩ := trans_cases htr
    · exact ⟨st, hst, ((h3 s st hst).2 X).1 s' hm⟩
    · exact ⟨st, hst, Nat.add_sub_cancel' hA ▸ h4 s st hst _ s' hm⟩
  have cell_cases : ∀ {s a act}, act ∈ t.cell s a → ∃ st, t.states[s]? = some st ∧ act ∈ st.actions.getD a [] ∧ _ :=
    fun hm => let ⟨st, hst, hm'⟩ := mem_cell hm; ⟨st, hst, hm', h3 _ st hst⟩
  have reduce_cases : ∀ s a p len, Action.reduce p len ∈ t.cell s a →
      ∃ st, t.states[s]? = some st ∧ red st p len = true := by
    intro s a p len hm
    obtain ⟨st, hst, hm', _, hc⟩ := cell_cases hm
    exact ⟨st, hst, (hc a).2.1 p len hm'⟩
  refine ⟨⟨?item_prod, ?start_items, ?no_into_start, ?target_items, ?reduce_item, ?accept_item, ?aug_start_only,
    ?shift_term, ?distinct⟩, reduce_cases⟩
  case item_prod =>
    rintro s _ _ ⟨st, hst, it, hit, rfl, rfl⟩
    exact h1 s st hst it hit
  case start_items =>
    rintro au hau _ _ ⟨st, hst, it, hit, _, rfl⟩
    exact (h2 _ st hst it hit au hau).1 rfl
  case no_into_start =>
    intro au hau s X htr
    obtain ⟨_, _, hne, _⟩ := trans_ok s X au.start htr
    exact hne au hau rfl
  case target_items =>
    rintro s X s' _ d htr ⟨st', hst', it, hit, rfl, hd⟩
    obtain ⟨st, hst, _, hok⟩ := trans_ok s X s' htr
    rcases targetOk_iff.mp hok st' hst' it hit with h0 | ⟨hX, jt, hjt, hjp, hjd⟩
    · exact absurd (hd.symm.trans h0) (Nat.succ_ne_zero d)
    · rw [hd, Nat.add_sub_cancel] at hX hjd
      exact ⟨rhsAt_eq_some.mp hX, st, hst, jt, hjt, hjp, hjd⟩
  case reduce_item =>
    intro s a p len hm
    obtain ⟨st, hst, hr⟩ := reduce_cases s a p len hm
    exact hred s st hst p len hr
  case accept_item =>
    intro s a hm
    obtain ⟨st, hst, hm', _, hc⟩ := cell_cases hm
    obtain ⟨au, hau, ⟨pr, hpr, hrhs⟩, hi⟩ := (hc a).2.2 hm'
    exact ⟨au, hau, pr, hpr, hrhs, st, hst, hi⟩
  case aug_start_only =>
    rintro au hau s ⟨st, hst, it, hit, hp, hd⟩
    exact (h2 s st hst it hit au hau).2 hp hd
  case shift_term =>
    intro s a s' hm
    obtain ⟨st, hst, hm', hsz, _⟩ := cell_cases hm
    exact Nat.lt_of_lt_of_le (lt_size_of_getD_ne (List.ne_nil_of_mem hm')) hsz
  case distinct => exact h5

theorem Cert.structuralRN_sound (g : Grammar) (t : Table) (autos : List Auto) (nul : List Nat)
    (hn : ∀ X ∈ nul, Nullable g X)
    (h : Cert.structuralRN g t autos nul = true) : StructuralRN g t autos := by
  refine (Cert.structuralWith_sound (Cert.structuralRN_eq g t autos nul ▸ h) fun s st hst p len hr => ?_).1
  obtain ⟨hi, pr, hpr, hle, hnul⟩ := Cert.redRN_iff.mp hr
  exact ⟨⟨st, hst, hi⟩, pr, hpr, hle, fun Y hY => hn Y (hnul Y hY)⟩

theorem StructuralRN.toPlain {g : Grammar} {t : Table} {autos : List Auto} (h : StructuralRN g t autos)
    (hred : ∀ s a p len, Action.reduce p len ∈ t.cell s a →
      t.hasItem s p len ∧ ∃ pr, g.prods[p]? = some pr ∧ pr.rhs.length = len) : Structural g t autos :=
  ⟨h.item_prod, h.start_items, h.no_into_start, h.target_items, hred, h.accept_item, h.aug_start_only,
    h.shift_term, h.distinct⟩

theorem Cert.structural_sound (g : Grammar) (t : Table) (autos : List Auto)
    (h : Cert.structural g t autos = true) : Structural g t autos := by
  have hred : ∀ s st, t.states[s]? = some st → ∀ p len, Cert.redPlain g st p len = true →
      t.hasItem s p len ∧ ∃ pr, g.prods[p]? = some pr ∧ pr.rhs.length = len :=
    fun s st hst p len hr => let ⟨hi, hpr⟩ := Cert.redPlain_iff.mp hr; ⟨⟨st, hst, hi⟩, hpr⟩
  obtain ⟨hrn, hcell⟩ := Cert.structuralWith_sound (Cert.structural_eq g t autos ▸ h) fun s st hst p len hr => by
    -- the whole right-hand side is popped: no symbol is left that would have to be nullable
    obtain ⟨hi, pr, hpr, rfl⟩ := hred s st hst p len hr
    exact ⟨hi, pr, hpr, Nat.le_refl _, by simp⟩
  exact hrn.toPlain fun s a p len hm => let ⟨st, hst, hr⟩ := hcell s a p len hm; hred s st hst p len hr

theorem noShiftStop_sound (t : Table) (h : Cert.noShiftStop t = true) : NoShiftStop t := by
  intro s s' hm
  obtain ⟨st, hst, hm'⟩ := mem_cell hm
  have := forStates_iff.mp h _ _ hst
  rw [List.all_eq_true] at this
  have := this _ hm'
  simp at this

/-- what `Cert.total` checks, as a proposition: the premises of the no-panic argument that are not structural -/
structure Total (g : Grammar) (t : Table) (start : Nat) : Prop where
  start_ok : start < t.states.size
  sorted_ne : ∀ (s : Nat) (st : State), t.states[s]? = some st → st.sorted ≠ []
  goto_total : ∀ s p pr, t.hasItem s p 0 → g.prods[p]? = some pr → g.isAug p = false →
    ∃ s', t.goto g s pr.lhs = some s'
  no_reduce_aug : ∀ s a p len, Action.reduce p len ∈ t.cell s a → g.isAug p = false
  shift_range : ∀ s a s', Action.shift s' ∈ t.cell s a → s' < t.states.size
  goto_range : ∀ s A s', t.goto g s A = some s' → s' < t.states.size

theorem Cert.total_sound (g : Grammar) (t : Table) (start : Nat) (h : Cert.total g t start = true) :
    Total g t start := by
  unfold Cert.total at h
  simp only [Bool.and_eq_true, decide_eq_true_eq, forStates_iff, forCells_iff, forGotos_iff, forall_action,
    List.all_eq_true, Bool.or_eq_true, bne_iff_ne, ne_eq, Bool.not_eq_true', List.isEmpty_eq_false_iff,
    implies_true, and_true] at h
  obtain ⟨h0, hst⟩ := h
  refine ⟨h0, fun s st hs => (hst s st hs).1.1.1, ?_, ?_, ?_, ?_⟩
  · rintro s _ pr ⟨st, hs, it, hit, rfl, hd⟩ hpr haug
    rcases (hst s st hs).1.1.2 it hit with (h | h) | h
    · exact absurd hd h
    · rw [haug] at h; cases h
    · rw [hpr] at h; exact Option.isSome_iff_exists.mp h
  · intro s a p len hm
    obtain ⟨st, hs, hm'⟩ := mem_cell hm
    exact ((hst s st hs).1.2 a).2 p len hm'
  · intro s a s' hm
    obtain ⟨st, hs, hm'⟩ := mem_cell hm
    exact ((hst s st hs).1.2 a).1 s' hm'
  · intro s A s' hg
    obtain ⟨_, st, hs, hm⟩ := goto_eq_some hg
    exact (hst s st hs).2 _ s' hm

theorem Total.sorted_lt {g : Grammar} {t : Table} {start : Nat} (ht : Total g t start) {s : Nat}
    (hs : s < t.states.size) : t.sorted s ≠ [] :=
  have hget := Array.getElem?_eq_getElem hs
  sorted_eq hget ▸ ht.sorted_ne _ _ hget

theorem Cert.glrLayout_sound {g : Grammar} {t : Table} (h : Cert.glrLayout g t = true) (ls : Nat)
    (hls : t.layoutState = some ls) : (∃ au ∈ autosOf g t, au.start = ls) ∧ Total g t ls := by
  unfold Cert.glrLayout at h
  rw [hls] at h
  simp only [Bool.and_eq_true, List.any_eq_true, beq_iff_eq] at h
  exact ⟨h.1, Cert.total_sound _ _ _ h.2⟩

theorem Cert.lr_sound {g : Grammar} {t : Table} (h : Cert.lr g t = true) :
    Structural g t (autosOf g t) ∧ Total g t 0 ∧ Cert.glrLayout g t = true := by
  unfold Cert.lr at h
  simp only [Bool.and_eq_true] at h
  exact ⟨Cert.structural_sound _ _ _ h.1.1, Cert.total_sound _ _ _ h.1.2, h.2⟩

end Rustemo
