import Rustemo.Model.Cli
/-!
Each conditional builder call of `main` (`if let Some(x) = …`, `trace`) is an unconditional update of the one field it writes;
after that the chain of calls computes field by field, and the only choices left are the two that decide the panic of
`lexical_disamb_grammar_order`: the parser algorithm and `--lexical-disamb-grammar-order`.
-/
namespace Rustemo.Cfg

theorem applyOpt_eq_getD {α : Type} (set : Settings → α → Settings) (get : Settings → α)
    (h : ∀ s, set s (get s) = s) (o : Option α) (s : Settings) :
    applyOpt set o s = set s (o.getD (get s)) := by
  cases o with
  | none => exact (h s).symm
  | some a => rfl

theorem applyOpt_outDirRoot (o : Option String) (s : Settings) :
    applyOpt Settings.setOutDirRoot o s =
      { s with outDirRoot := match o with | some d => some d | none => s.outDirRoot } := by
  cases o <;> rfl

theorem applyOpt_outDirActionsRoot (o : Option String) (s : Settings) :
    applyOpt Settings.setOutDirActionsRoot o s =
      { s with outDirActionsRoot := match o with | some d => some d | none => s.outDirActionsRoot } := by
  cases o <;> rfl

theorem setTrace_eq (env : Env) (s : Settings) (b : Bool) :
    Settings.setTrace env s b = { s with trace := b || env.rustemoTrace } := by
  cases b <;> rfl

theorem toSettings_eq_settingsOf (env : Env) (cli : Cli) :
    Cli.toSettings env cli = Doc.settingsOf env cli := by
  simp only [Cli.toSettings, setTrace_eq, applyOpt_outDirRoot, applyOpt_outDirActionsRoot,
    applyOpt_eq_getD Settings.setMostSpecific (·.mostSpecific) (fun _ => rfl),
    applyOpt_eq_getD Settings.setLongestMatch (·.longestMatch) (fun _ => rfl)]
  cases cli with
  | mk _ _ _ _ _ _ _ _ _ _ algo _ _ _ _ _ _ _ lgo =>
    cases algo <;> rcases lgo with _ | _ | _ <;> rfl

theorem processGrammarPanics_doc (env : Env) (cli : Cli) :
    (Doc.settings env cli).processGrammarPanics =
      ((cli.outdirRoot.isSome || cli.outdirActionsRoot.isSome || env.outDir.isSome) &&
        env.manifestDir.isNone) := by
  unfold Settings.processGrammarPanics Doc.settings
  cases cli.outdirRoot <;> cases cli.outdirActionsRoot <;> cases env.outDir <;> simp

end Rustemo.Cfg

/-!
The `HashMap` iteration order of `make_choices_name_unique` cannot leak when no duplicated name with an occurrence index
appended equals another duplicated name (`NoClash`).  The fold is run with the invariant "the names in `done` have been renamed
exactly as the closed form renames them, all others are untouched" (`stage`).
-/
namespace Rustemo.Types

def NoClash (all : List String) : Prop :=
  ∀ n m k, 1 < all.count n → 1 < all.count m → 1 ≤ k → k ≤ all.count n → n ++ toString k ≠ m

def stage (done all : List String) : List String → List String → List String
  | _, [] => []
  | seen, c :: cs =>
    (if c ∈ done ∧ 1 < all.count c then c ++ toString (seen.count c + 1) else c)
      :: stage done all (c :: seen) cs

theorem stage_nil (all : List String) : ∀ cs seen, stage [] all seen cs = cs := by
  intro cs
  induction cs with
  | nil => intro seen; rfl
  | cons c cs ih => intro seen; simp [stage, ih]

theorem stage_congr (d₁ d₂ all : List String) :
    ∀ cs seen, (∀ c ∈ cs, 1 < all.count c → (c ∈ d₁ ↔ c ∈ d₂)) →
      stage d₁ all seen cs = stage d₂ all seen cs := by
  intro cs
  induction cs with
  | nil => intro seen _; rfl
  | cons c cs ih =>
    intro seen h
    have hc := h c (by simp)
    have ih' := ih (c :: seen) (fun x hx => h x (by simp [hx]))
    simp only [stage, ih']
    by_cases hd : 1 < all.count c
    · have := hc hd
      simp [hd, this]
    · simp [hd]

theorem stage_all_eq_closed (d all : List String) :
    ∀ cs seen, (∀ c ∈ cs, 1 < all.count c → c ∈ d) → stage d all seen cs = closedAux all seen cs := by
  intro cs
  induction cs with
  | nil => intro seen _; rfl
  | cons c cs ih =>
    intro seen h
    have ih' := ih (c :: seen) (fun x hx => h x (by simp [hx]))
    simp only [stage, closedAux, ih']
    by_cases hd : 1 < all.count c
    · simp [hd, h c (by simp) hd]
    · simp [hd]

theorem rename_stage (all : List String) (n : String) (done : List String)
    (hn : n ∉ done) (hdup : 1 < all.count n) (hnc : NoClash all) :
    ∀ cs seen, (∀ x, seen.count x + cs.count x = all.count x) →
      renameAux n (seen.count n) (stage done all seen cs) = stage (n :: done) all seen cs := by
  intro cs
  induction cs with
  | nil => intro seen _; rfl
  | cons c cs ih =>
    intro seen hcount
    have hcount' : ∀ x, (c :: seen).count x + cs.count x = all.count x := by
      intro x
      have := hcount x
      simp only [List.count_cons] at this ⊢
      omega
    have ih' := ih (c :: seen) hcount'
    by_cases hcn : c = n
    · -- the head is an occurrence of `n`: untouched so far, renamed now
      subst hcn
      have e1 : (c :: seen).count c = seen.count c + 1 := by simp
      simp only [stage, hn, false_and, if_false, renameAux, if_true, e1] at ih' ⊢
      rw [ih']
      simp [hdup]
    · rw [List.count_cons_of_ne hcn] at ih'
      by_cases hren : c ∈ done ∧ 1 < all.count c
      · -- the head was renamed earlier; its new name must not be mistaken for `n`
        have hk : seen.count c + 1 ≤ all.count c := by
          have := hcount c
          simp only [List.count_cons_self] at this
          omega
        have hclash : c ++ toString (seen.count c + 1) ≠ n :=
          hnc c n (seen.count c + 1) hren.2 hdup (by omega) hk
        have hmem : c ∈ n :: done := by simp [hren.1]
        simp only [stage, hren, and_self, if_true, renameAux, hclash, if_false, ih', hmem]
      · have hmem : ¬ (c ∈ n :: done ∧ 1 < all.count c) := fun h =>
          hren ⟨(List.mem_cons.mp h.1).resolve_left hcn, h.2⟩
        simp only [stage, hren, if_false, renameAux, hcn, ih', hmem]

theorem fold_stage (all : List String) (hnc : NoClash all) :
    ∀ (ns done : List String), ns.Nodup → (∀ n ∈ ns, n ∉ done ∧ 1 < all.count n) →
      ns.foldl (fun acc n => renameGroup n acc) (stage done all [] all)
        = stage (ns.reverse ++ done) all [] all := by
  intro ns
  induction ns with
  | nil => intro done _ _; simp
  | cons n ns ih =>
    intro done hnd h
    have hn := h n (by simp)
    have hstep : renameGroup n (stage done all [] all) = stage (n :: done) all [] all := by
      have := rename_stage all n done hn.1 hn.2 hnc all [] (by intro x; simp)
      simpa [renameGroup] using this
    rw [List.foldl_cons, hstep]
    have hnd' := (List.nodup_cons.mp hnd)
    rw [ih (n :: done) hnd'.2]
    · simp
    · intro m hm
      refine ⟨?_, (h m (by simp [hm])).2⟩
      intro hmem
      rcases List.mem_cons.mp hmem with h1 | h1
      · exact hnd'.1 (h1 ▸ hm)
      · exact (h m (by simp [hm])).1 h1

theorem makeUnique_eq_closedForm (order cs : List String) (hk : KeyOrder order cs) (hnc : NoClash cs) :
    makeUnique order cs = closedForm cs := by
  unfold makeUnique closedForm
  have := fold_stage cs hnc (order.filter fun n => decide (1 < cs.count n)) [] (hk.1.filter _)
    (by intro n hn; simp at hn; exact ⟨by simp, hn.2⟩)
  rw [stage_nil cs cs []] at this
  rw [this]
  apply stage_all_eq_closed
  intro c hc hd
  simp only [List.append_nil, List.mem_reverse, List.mem_filter, decide_eq_true_eq]
  exact ⟨hk.2.2 c hc, hd⟩

theorem clash_false_iff (cs : List String) : clash cs = false ↔ NoClash cs := by
  simp only [clash, NoClash, List.any_eq_false, Bool.and_eq_true, List.any_eq_true,
    decide_eq_true_eq, List.mem_range, not_and, not_exists]
  constructor
  · intro h n m k hn hm hk1 hk2 heq
    subst heq
    exact h n (List.count_pos_iff.mp (by omega)) hn (k - 1) (by omega)
      (by rwa [Nat.sub_add_cancel hk1])
  · intro h n _ hn k hk hm
    exact h n _ (k + 1) hn hm (by omega) (by omega) rfl
end Rustemo.Types
