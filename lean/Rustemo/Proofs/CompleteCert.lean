import Rustemo.Proofs.CertSound
/-!
`Complete`, `GWF` and `FirstOf` are what the completeness proof (`CoreComplete`) asks of table and grammar.  The
checks of `Cert.complete` are proved sound one by one, for the right-nulled certificate (`GlrCompleteCert`) to read
those it shares.
-/

namespace Rustemo

/-- `c` is a post-fixpoint of the nullable / FIRST equations of every production -/
theorem Cert.firstOk_iff {g : Grammar} {c : Canon.Ctx} :
    Cert.firstOk g c = true ↔ ∀ pr ∈ g.prods.toList,
      ((∀ X ∈ pr.rhs, c.nul.contains X = true) → c.nul.contains pr.lhs = true) ∧
      ∀ b ∈ Canon.firstOfSeq g c.nul c.first pr.rhs, (c.first pr.lhs).contains b = true := by
  unfold Cert.firstOk
  simp only [↓bnot_or_iff, List.all_eq_true, Bool.and_eq_true]

theorem firstOk_prod {g : Grammar} {c : Canon.Ctx} (h : Cert.firstOk g c = true) {p : Nat} {pr : Prod}
    (hp : g.prods[p]? = some pr) :
    ((∀ X ∈ pr.rhs, c.nul.contains X = true) → c.nul.contains pr.lhs = true) ∧
    (∀ b ∈ Canon.firstOfSeq g c.nul c.first pr.rhs, (c.first pr.lhs).contains b = true) :=
  Cert.firstOk_iff.mp h pr (mem_prods_toList hp)

mutual
theorem tree_nullable (g : Grammar) (c : Canon.Ctx) (h : Cert.firstOk g c = true) :
    ∀ (t : Tree) (X : Nat), t.Valid g X → t.yield = [] → c.nul.contains X = true
  | .leaf a _ _ _, X, _, hy => by simp [Tree.yield] at hy
  | .node p _ _ cs, X, hv, hy => by
    obtain ⟨pr, hpr, hlhs, hcs⟩ := hv
    rw [← hlhs]
    apply (firstOk_prod h hpr).1
    exact treelist_nullable g c h cs pr.rhs hcs (by simpa [Tree.yield] using hy)
theorem treelist_nullable (g : Grammar) (c : Canon.Ctx) (h : Cert.firstOk g c = true) :
    ∀ (ts : TreeList) (Xs : List Nat), ts.Valid g Xs → ts.yield = [] →
      ∀ X ∈ Xs, c.nul.contains X = true
  | .nil, Xs, hv, _ => by
    simp only [TreeList.Valid] at hv; subst hv; intro X hX; simp at hX
  | .cons t ts, Xs, hv, hy => by
    obtain ⟨Y, Xs', rfl, hvt, hvts⟩ := hv
    simp only [TreeList.yield, List.append_eq_nil_iff] at hy
    intro X hX
    rcases List.mem_cons.mp hX with h1 | h1
    · subst h1; exact tree_nullable g c h t _ hvt hy.1
    · exact treelist_nullable g c h ts Xs' hvts hy.2 X h1
end

theorem firstOfSeq_cons (g : Grammar) (nul : List Nat) (fs : Nat → List Nat) (X : Nat) (rest : List Nat) :
    Canon.firstOfSeq g nul fs (X :: rest) =
      (if X < g.nterms then [X] else fs X) ++
        (if nul.contains X then Canon.firstOfSeq g nul fs rest else []) := by
  simp only [Canon.firstOfSeq]
  split <;> simp

mutual
theorem tree_first (g : Grammar) (c : Canon.Ctx) (h : Cert.firstOk g c = true)
    (hnt : ∀ (p : Nat) (pr : Prod), g.prods[p]? = some pr → g.nterms ≤ pr.lhs) :
    ∀ (t : Tree) (X : Nat) (b : Nat) (rest : List Nat), t.Valid g X → t.yield = b :: rest →
      b ∈ (if X < g.nterms then [X] else c.first X)
  | .leaf a _ _ _, X, b, rest, hv, hy => by
    obtain ⟨rfl, hlt⟩ := hv
    simp only [Tree.yield, List.cons.injEq] at hy
    rw [← hy.1]
    simp [hlt]
  | .node p _ _ cs, X, b, rest, hv, hy => by
    obtain ⟨pr, hpr, hlhs, hcs⟩ := hv
    have hb := treelist_first g c h hnt cs pr.rhs b rest hcs (by simpa [Tree.yield] using hy)
    have := (firstOk_prod h hpr).2 b hb
    rw [← hlhs]
    have hlt : ¬ pr.lhs < g.nterms := by have := hnt p pr hpr; omega
    simp only [hlt, ↓reduceIte]
    simpa using this
theorem treelist_first (g : Grammar) (c : Canon.Ctx) (h : Cert.firstOk g c = true)
    (hnt : ∀ (p : Nat) (pr : Prod), g.prods[p]? = some pr → g.nterms ≤ pr.lhs) :
    ∀ (ts : TreeList) (Xs : List Nat) (b : Nat) (rest : List Nat), ts.Valid g Xs →
      ts.yield = b :: rest → b ∈ Canon.firstOfSeq g c.nul c.first Xs
  | .nil, Xs, b, rest, _, hy => by simp [TreeList.yield] at hy
  | .cons t ts, Xs, b, rest, hv, hy => by
    obtain ⟨Y, Xs', rfl, hvt, hvts⟩ := hv
    rw [firstOfSeq_cons]
    simp only [TreeList.yield] at hy
    cases hty : t.yield with
    | nil =>
      rw [hty] at hy
      have hn := tree_nullable g c h t Y hvt hty
      simp only [hn, ↓reduceIte, List.mem_append]
      right
      exact treelist_first g c h hnt ts Xs' b rest hvts (by simpa using hy)
    | cons b' rest' =>
      rw [hty] at hy
      simp only [List.cons_append, List.cons.injEq] at hy
      have := tree_first g c h hnt t Y b' rest' hvt hty
      rw [hy.1] at this
      simp only [List.mem_append]
      left
      exact this
end

def Table.hasItemLA (t : Table) (s p d a : Nat) : Prop :=
  ∃ st, t.states[s]? = some st ∧ ∃ it ∈ st.items, it.prod = p ∧ it.dot = d ∧ a ∈ it.la

theorem Table.hasItemLA.toItem {t : Table} {s p d a : Nat} (h : t.hasItemLA s p d a) : t.hasItem s p d := by
  obtain ⟨st, h1, it, h2, h3, h4, _⟩ := h; exact ⟨st, h1, it, h2, h3, h4⟩

/-- semantic FIRST of `β a`: `b` is the first token of some string derived from `β` followed by `a` -/
def FirstOf (g : Grammar) (β : List Nat) (a b : Nat) : Prop :=
  ∃ ts : TreeList, ts.Valid g β ∧ (ts.yield ++ [a]).head? = some b

structure Complete (g : Grammar) (t : Table) : Prop where
  closure : ∀ s p d a pr B, t.hasItemLA s p d a → g.prods[p]? = some pr → pr.rhs[d]? = some B →
      g.nterms ≤ B → ∀ q qr, g.prods[q]? = some qr → qr.lhs = B →
      ∀ b, FirstOf g (pr.rhs.drop (d+1)) a b → t.hasItemLA s q 0 b
  trans : ∀ s p d a pr X, t.hasItemLA s p d a → g.prods[p]? = some pr → pr.rhs[d]? = some X →
      ∃ s', t.trans g s X s' ∧ t.hasItemLA s' p (d+1) a
  reduce : ∀ s p a pr, g.prods[p]? = some pr → t.hasItemLA s p pr.rhs.length a → p ≠ 0 →
      Action.reduce p pr.rhs.length ∈ t.cell s a
  accept : ∀ s pr, g.prods[0]? = some pr → t.hasItem s 0 pr.rhs.length → Action.accept ∈ t.cell s 0
  det : ∀ s a, (t.cell s a).length ≤ 1
  start : t.hasItemLA 0 0 0 0

structure GWF (g : Grammar) : Prop where
  lhs_nonterm : ∀ (q : Nat) (qr : Prod), g.prods[q]? = some qr → g.nterms ≤ qr.lhs
  aug0 : ∃ pr0, g.prods[0]? = some pr0 ∧ pr0.lhs = g.augIdx ∧ pr0.rhs = [g.startIdx]
  aug_unique : ∀ (q : Nat) (qr : Prod), g.prods[q]? = some qr → qr.lhs = g.augIdx → q = 0
  aug_not_rhs : ∀ (p : Nat) (pr : Prod), g.prods[p]? = some pr → g.augIdx ∉ pr.rhs

theorem hasItemLAB_eq_true {t : Table} {s : Nat} {st : State} (hs : t.states[s]? = some st) {p d a : Nat}
    (h : st.hasItemLAB p d a = true) : t.hasItemLA s p d a := by
  unfold State.hasItemLAB at h
  rw [List.any_eq_true] at h
  obtain ⟨it, hit, hpd⟩ := h
  simp only [Bool.and_eq_true, beq_iff_eq, List.contains_iff_mem] at hpd
  exact ⟨st, hs, it, hit, hpd.1.1, hpd.1.2, hpd.2⟩

theorem mem_prodsOf {g : Grammar} {q : Nat} {qr : Prod} (h : g.prods[q]? = some qr) :
    q ∈ Canon.prodsOf g qr.lhs := by
  unfold Canon.prodsOf
  rw [List.mem_filter]
  exact ⟨List.mem_range.mpr (lt_size_of_getElem? h), by simp [h]⟩

theorem firstOf_mem (g : Grammar) (c : Canon.Ctx) (h : Cert.firstOk g c = true)
    (hnt : ∀ (p : Nat) (pr : Prod), g.prods[p]? = some pr → g.nterms ≤ pr.lhs)
    (β : List Nat) (a b : Nat) (hf : FirstOf g β a b) : b ∈ firstBetaList g c β a := by
  obtain ⟨ts, hv, hh⟩ := hf
  unfold firstBetaList
  cases hy : ts.yield with
  | nil =>
    rw [hy] at hh
    simp only [List.nil_append, List.head?_cons, Option.some.injEq] at hh
    have hall := treelist_nullable g c h ts β hv hy
    have : (β.all fun X => c.nul.contains X) = true := by
      rw [List.all_eq_true]; exact hall
    rw [List.mem_append]
    right
    simp only [this, ↓reduceIte, List.mem_singleton]
    exact hh.symm
  | cons b' rest =>
    rw [hy] at hh
    simp only [List.cons_append, List.head?_cons, Option.some.injEq] at hh
    subst hh
    have := treelist_first g c h hnt ts β b' rest hv hy
    simp [this]

theorem findSome_shift {l : List Action} {s' : Nat} (h : l.findSome? shiftTarget = some s') :
    Action.shift s' ∈ l := by
  induction l with
  | nil => simp at h
  | cons a as ih =>
    simp only [List.findSome?_cons] at h
    cases a with
    | shift s =>
      simp only [shiftTarget] at h
      injection h with h; subst h; simp
    | reduce p len => simp only [shiftTarget] at h; exact List.mem_cons_of_mem _ (ih h)
    | accept => simp only [shiftTarget] at h; exact List.mem_cons_of_mem _ (ih h)

theorem Cert.grammarOk_sound {g : Grammar} {t : Table} (hG : Cert.grammarOk g t = true) :
    GWF g ∧ t.hasItemLA 0 0 0 0 := by
  unfold Cert.grammarOk at hG
  simp only [Bool.and_eq_true] at hG
  obtain ⟨⟨⟨hG1, hG2⟩, hG3⟩, hG4⟩ := hG
  rw [List.all_eq_true] at hG1
  have hprod : ∀ (p : Nat) (pr : Prod), g.prods[p]? = some pr → g.nterms ≤ pr.lhs ∧ g.augIdx ∉ pr.rhs := by
    intro p pr hp
    have := hG1 pr (mem_prods_toList hp)
    simp only [Bool.and_eq_true, decide_eq_true_eq, Bool.not_eq_true'] at this
    refine ⟨this.1, ?_⟩
    intro hmem
    have hc : pr.rhs.contains g.augIdx = true := List.contains_iff_mem.mpr hmem
    rw [this.2] at hc
    simp at hc
  have hnt : ∀ (p : Nat) (pr : Prod), g.prods[p]? = some pr → g.nterms ≤ pr.lhs :=
    fun p pr hp => (hprod p pr hp).1
  have gwf : GWF g := by
    refine ⟨hnt, ?_, ?_, fun p pr hp => (hprod p pr hp).2⟩
    · split at hG2
      · rename_i pr0 hpr0
        simp only [Bool.and_eq_true, beq_iff_eq] at hG2
        exact ⟨pr0, hpr0, hG2.1, hG2.2⟩
      · simp at hG2
    · intro q qr hq hlhs
      rw [List.all_eq_true] at hG3
      have := hG3 q (List.mem_range.mpr (lt_size_of_getElem? hq))
      simp only [Bool.or_eq_true, beq_iff_eq, hq, bne_iff_ne, ne_eq] at this
      rcases this with h0 | h0
      · exact h0
      · exact absurd hlhs h0
  refine ⟨gwf, ?_⟩
  split at hG4
  · rename_i st hst
    exact hasItemLAB_eq_true hst hG4
  · simp at hG4

theorem Cert.closureOk_sound {g : Grammar} {t : Table} (hF : Cert.firstOk g (Canon.mkCtx g) = true)
    (hC : Cert.closureOk g (Canon.mkCtx g) t = true)
    (hnt : ∀ (p : Nat) (pr : Prod), g.prods[p]? = some pr → g.nterms ≤ pr.lhs) :
    ∀ s p d a pr B, t.hasItemLA s p d a → g.prods[p]? = some pr → pr.rhs[d]? = some B →
      g.nterms ≤ B → ∀ q qr, g.prods[q]? = some qr → qr.lhs = B →
      ∀ b, FirstOf g (pr.rhs.drop (d+1)) a b → t.hasItemLA s q 0 b := by
  intro s p d a pr B ⟨st, hst, it, hit, hp, hd, ha⟩ hpr hB hBnt q qr hq hlhs b hf
  have := forItems_elim hC hst hit
  rw [hp, hpr] at this
  simp only [hd, hB] at this
  simp only [Bool.or_eq_true, decide_eq_true_eq, List.all_eq_true] at this
  rcases this with h1 | h1
  · omega
  · have hq' : q ∈ Canon.prodsOf g B := by rw [← hlhs]; exact mem_prodsOf hq
    have hb := firstOf_mem g (Canon.mkCtx g) hF hnt _ a b hf
    exact hasItemLAB_eq_true hst (h1 q hq' a ha b hb)

theorem Cert.transOk_sound {g : Grammar} {t : Table} (hT : Cert.transOk g t = true) :
    ∀ s p d a pr X, t.hasItemLA s p d a → g.prods[p]? = some pr → pr.rhs[d]? = some X →
      ∃ s', t.trans g s X s' ∧ t.hasItemLA s' p (d+1) a := by
  intro s p d a pr X ⟨st, hst, it, hit, hp, hd, ha⟩ hpr hX
  have := forItems_elim hT hst hit
  have hrhs : g.rhsAt it.prod it.dot = some X := rhsAt_eq_some.mpr ⟨pr, hp ▸ hpr, hd ▸ hX⟩
  rw [hrhs] at this
  simp only at this
  split at this
  · simp at this
  · rename_i s' htt
    split at this
    · simp at this
    · rename_i st' hst'
      rw [List.all_eq_true] at this
      refine ⟨s', ?_, ?_⟩
      · unfold Table.transTarget at htt
        split at htt
        · next hlt => exact (Table.trans_term hlt).mpr (findSome_shift htt)
        · exact Table.trans_of_goto htt
      · have := hasItemLAB_eq_true hst' (this a ha)
        rw [hp, hd] at this
        exact this

theorem Cert.acceptStop_sound {t : Table} (h : Cert.acceptStop t = true) :
    ∀ s a, Action.accept ∈ t.cell s a → a = 0 := by
  intro s a hm
  obtain ⟨st, hst, hm'⟩ := mem_cell hm
  simpa using forCells_iff.mp (forStates_iff.mp h _ _ hst) _ _ hm'

theorem Cert.reduceOk_sound {g : Grammar} {t : Table} (hR : Cert.reduceOk g t = true) :
    (∀ s p a pr, g.prods[p]? = some pr → t.hasItemLA s p pr.rhs.length a → p ≠ 0 →
      Action.reduce p pr.rhs.length ∈ t.cell s a) ∧
    ∀ s pr, g.prods[0]? = some pr → t.hasItem s 0 pr.rhs.length → Action.accept ∈ t.cell s 0 := by
  constructor
  · intro s p a pr hpr ⟨st, hst, it, hit, hp, hd, ha⟩ hp0
    have := forItems_elim hR hst hit
    rw [hp, hpr] at this
    simp only [hd, bne_self_eq_false, Bool.false_or] at this
    have hne : (p == 0) = false := by simp [hp0]
    simp only [hne, Bool.false_eq_true, ↓reduceIte, List.all_eq_true] at this
    have := this a ha
    simpa using this
  · intro s pr hpr ⟨st, hst, it, hit, hp, hd⟩
    have := forItems_elim hR hst hit
    rw [hp, hpr] at this
    simp only [hd, bne_self_eq_false, Bool.false_or, beq_self_eq_true, ↓reduceIte] at this
    simpa using this

theorem Cert.detOk_sound {t : Table} (hD : Cert.detOk t = true) : ∀ s a, (t.cell s a).length ≤ 1 := by
  intro s a
  cases hst : t.states[s]? with
  | none => rw [Table.cell, hst]; exact Nat.zero_le 1
  | some st =>
    rw [cell_eq hst]
    by_cases hne : st.actions.getD a [] = []
    · rw [hne]; exact Nat.zero_le 1
    · simpa using List.all_eq_true.mp (forStates_iff.mp hD _ _ hst) a
        (List.mem_range.mpr (lt_size_of_getD_ne hne))

theorem Cert.complete_sound (g : Grammar) (t : Table) (h : Cert.complete g t = true) :
    Complete g t ∧ GWF g := by
  unfold Cert.complete at h
  simp only [Bool.and_eq_true] at h
  obtain ⟨⟨⟨⟨⟨hF, hC⟩, hT⟩, hR⟩, hD⟩, hG⟩ := h
  obtain ⟨gwf, hstart⟩ := Cert.grammarOk_sound hG
  exact ⟨⟨Cert.closureOk_sound hF hC gwf.lhs_nonterm, Cert.transOk_sound hT, (Cert.reduceOk_sound hR).1,
    (Cert.reduceOk_sound hR).2, Cert.detOk_sound hD, hstart⟩, gwf⟩

/-! The certificates do not read the terminal records (`Grammar.terms`): a table certified for a grammar is certified
for the grammar with terminal records added (the examples of the byte-level theorems). -/

theorem Canon.firstOfSeq_terms (g : Grammar) (ts : Array Terminal) (nul : List Nat) (fs : Nat → List Nat)
    (l : List Nat) : Canon.firstOfSeq { g with terms := ts } nul fs l = Canon.firstOfSeq g nul fs l := by
  induction l with
  | nil => rfl
  | cons X rest ih => simp only [Canon.firstOfSeq, ih]

theorem Cert.complete_terms (g : Grammar) (ts : Array Terminal) (t : Table) :
    Cert.complete { g with terms := ts } t = Cert.complete g t := by
  simp only [Cert.complete, Canon.mkCtx, Canon.firstTable, Canon.firstStep, Cert.firstOk, Cert.closureOk, firstBetaList,
    Canon.firstOfSeq_terms]
  rfl

end Rustemo
