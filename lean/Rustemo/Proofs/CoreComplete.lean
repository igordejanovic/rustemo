import Rustemo.Proofs.CompleteCert
import Rustemo.Proofs.TRun
/-!
JPL-style completeness.  If the top state holds `[p: α.Xβ, a]`, the remaining input is `yield(tx) ++ rest` and the
first token of `rest$` is in FIRST(βa), then the parser reaches the configuration with `(goto, tx)` pushed and `rest`
remaining (`push_tree`, by mutual recursion on the derivation tree): closure-, transition- and reduce-completeness of
the certificate put the needed action in the cell, and determinism says the cell *is* that action.
-/
namespace Rustemo

theorem cell_det {t : Table} {g : Grammar} (hc : Complete g t) {s a : Nat} {act : Action}
    (h : act ∈ t.cell s a) : t.cell s a = [act] := by
  have hl := hc.det s a
  match hcell : t.cell s a, h, hl with
  | [x], h, _ => simp at h; simp [h]
  | [], h, _ => simp at h
  | _ :: _ :: _, _, hl => simp at hl

mutual
theorem push_tree (g : Grammar) (t : Table) (hw : GWF g) (hc : Complete g t)
    (hip : ∀ s p d, t.hasItem s p d → ∃ pr, g.prods[p]? = some pr ∧ d ≤ pr.rhs.length) :
    ∀ (tx : Tree) (X : Nat), tx.Valid g X → tx.IsPlain →
      ∀ (stack : List (Nat × Tree)) (sh : List Nat) (rest : List Nat) (p d a : Nat) (pr : Prod),
      t.hasItemLA (topOf 0 stack) p d a → g.prods[p]? = some pr → pr.rhs[d]? = some X →
      FirstOf g (pr.rhs.drop (d+1)) a (lookahead rest) →
      ∃ s' sh', Reaches g t ⟨⟨stack, sh⟩, tx.yield ++ rest⟩ ⟨⟨(s', tx) :: stack, sh'⟩, rest⟩ ∧
            t.hasItemLA s' p (d+1) a
  | .leaf b sp v l => by
    intro X hv hpl stack sh rest p d a pr hi hpr hX hfirst
    obtain ⟨rfl, hterm⟩ := hv
    obtain ⟨rfl, rfl, rfl⟩ := hpl
    obtain ⟨s', htr, hi'⟩ := hc.trans _ p d a pr b hi hpr hX
    refine ⟨s', b :: sh, ?_, hi'⟩
    apply Reaches.single
    have hcell := cell_det hc ((Table.trans_term hterm).mp htr)
    simp only [Tree.yield, List.cons_append, List.nil_append]
    exact tstep_shift g t stack sh b rest s' hcell
  | .node q sp l cs => by
    intro X hv hpl stack sh rest p d a pr hi hpr hX hfirst
    obtain ⟨qr, hqr, hlhs, hcs⟩ := hv
    obtain ⟨rfl, rfl, hcpl⟩ := hpl
    have hXnt : g.nterms ≤ X := hlhs ▸ hw.lhs_nonterm q qr hqr
    have hi0 := hc.closure _ p d a pr X hi hpr hX hXnt q qr hqr hlhs (lookahead rest) hfirst
    obtain ⟨states, sh1, hlen, hreach, hend⟩ :=
      push_list g t hw hc hip cs qr.rhs hcs hcpl stack sh rest q 0 (lookahead rest) qr hi0 hqr (by simp) rfl
    obtain ⟨s', htr, hi'⟩ := hc.trans _ p d a pr X hi hpr hX
    refine ⟨s', sh1, ?_, hi'⟩
    simp only [Tree.yield]
    refine hreach.trans (Reaches.single ?_)
    have hq0 : q ≠ 0 := by
      intro h0; subst h0
      obtain ⟨pr0, hpr0, hl0, _⟩ := hw.aug0
      cases hqr.symm.trans hpr0
      exact hw.aug_not_rhs p pr hpr (by rw [← hl0, hlhs]; exact List.mem_of_getElem? hX)
    have hcell := cell_det hc (hc.reduce _ q (lookahead rest) qr hqr hend hq0)
    rw [← valid_length g cs qr.rhs hcs] at hcell
    rw [tstep_reduce g t states cs.toList stack sh1 rest q qr s' hlen hcell hqr
      (hlhs ▸ (Table.trans_nonterm hXnt).mp htr)]
    simp [Tree.mk, TreeList.ofList_toList]
theorem push_list (g : Grammar) (t : Table) (hw : GWF g) (hc : Complete g t)
    (hip : ∀ s p d, t.hasItem s p d → ∃ pr, g.prods[p]? = some pr ∧ d ≤ pr.rhs.length) :
    ∀ (cs : TreeList) (Xs : List Nat), cs.Valid g Xs → cs.IsPlain →
      ∀ (stack : List (Nat × Tree)) (sh : List Nat) (rest : List Nat) (q d a : Nat) (qr : Prod),
      t.hasItemLA (topOf 0 stack) q d a → g.prods[q]? = some qr → qr.rhs.drop d = Xs →
      lookahead rest = a →
      ∃ states sh', states.length = cs.toList.length ∧
        Reaches g t ⟨⟨stack, sh⟩, cs.yield ++ rest⟩ ⟨⟨pushAll states cs.toList stack, sh'⟩, rest⟩ ∧
        t.hasItemLA (topOf 0 (pushAll states cs.toList stack)) q qr.rhs.length a
  | .nil => by
    intro Xs hv _ stack sh rest q d a qr hi hqr hdrop hla
    simp only [TreeList.Valid] at hv
    subst hv
    -- the dot is at the end: it is not beyond it (`hip`) and nothing is left after it (`hdrop`)
    obtain ⟨pr', hpr', hle⟩ := hip _ q d hi.toItem
    cases hqr.symm.trans hpr'
    obtain rfl : d = qr.rhs.length := Nat.le_antisymm hle (List.drop_eq_nil_iff.mp hdrop)
    exact ⟨[], sh, rfl, .refl _, hi⟩
  | .cons c cs' => by
    intro Xs hv hpl stack sh rest q d a qr hi hqr hdrop hla
    obtain ⟨Y, Xs', rfl, hvc, hvcs⟩ := hv
    obtain ⟨hcp, hcsp⟩ := hpl
    obtain ⟨hY, hdrop'⟩ := drop_eq_cons_iff.mp hdrop
    have hfirst : FirstOf g (qr.rhs.drop (d+1)) a (lookahead (cs'.yield ++ rest)) := by
      refine ⟨cs', hdrop' ▸ hvcs, ?_⟩
      cases hy : cs'.yield with
      | nil => simp [lookahead, ← hla]
      | cons y ys => simp [lookahead]
    obtain ⟨s1, sh1, hr1, hi1⟩ :=
      push_tree g t hw hc hip c Y hvc hcp stack sh (cs'.yield ++ rest) q d a qr hi hqr hY hfirst
    obtain ⟨states, sh2, hlen, hr2, hend⟩ :=
      push_list g t hw hc hip cs' Xs' hvcs hcsp ((s1, c) :: stack) sh1 rest q (d+1) a qr
        (by simpa [topOf] using hi1) hqr hdrop' hla
    refine ⟨s1 :: states, sh2, by simp [TreeList.toList, hlen], ?_, ?_⟩
    · simp only [TreeList.yield, List.append_assoc]
      exact hr1.trans (by rw [TreeList.toList, pushAll_cons]; exact hr2)
    · rw [TreeList.toList, pushAll_cons]; exact hend
end

end Rustemo
