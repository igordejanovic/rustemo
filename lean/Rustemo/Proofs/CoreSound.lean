import Rustemo.Proofs.CoreStep
import Rustemo.Proofs.Trees
/-!
If the table is *structurally* well formed (`Structural`: finitely many facts about items, transitions and reduce
entries, none about lookaheads), the stack always spells a path of the automaton whose entries carry valid derivation
trees, and an accepted tree is a derivation of the shifted tokens from the start symbol, whatever kinds the lexer
produced.  Only `cstep_preserves` (the node built is a derivation tree) needs reductions to pop whole right-hand
sides; the rest is stated of the right-nulled `StructuralRN`, for the GLR engine to read as well.
-/

namespace Rustemo

def Table.hasItem (t : Table) (s p d : Nat) : Prop :=
  ∃ st, t.states[s]? = some st ∧ ∃ it ∈ st.items, it.prod = p ∧ it.dot = d

/-- transition `s --X--> s'` of the automaton as encoded in the table -/
def Table.trans (t : Table) (g : Grammar) (s X s' : Nat) : Prop :=
  if X < g.nterms then Action.shift s' ∈ t.cell s X else t.goto g s X = some s'

theorem Table.trans_term {t : Table} {g : Grammar} {s X s' : Nat} (hX : X < g.nterms) :
    t.trans g s X s' ↔ Action.shift s' ∈ t.cell s X := by
  rw [Table.trans, if_pos hX]

theorem Table.trans_nonterm {t : Table} {g : Grammar} {s X s' : Nat} (hX : g.nterms ≤ X) :
    t.trans g s X s' ↔ t.goto g s X = some s' := by
  rw [Table.trans, if_neg (Nat.not_lt.mpr hX)]

theorem Table.trans_of_goto {t : Table} {g : Grammar} {s A s' : Nat} (h : t.goto g s A = some s') :
    t.trans g s A s' := by
  refine (Table.trans_nonterm (Nat.le_of_not_lt fun hlt => ?_)).mpr h
  rw [Table.goto, if_neg (Nat.not_le.mpr hlt)] at h
  cases h

/-- STOP is never shifted: what every byte-level invariant that reads the kind of a shifted token asks of the table -/
def NoShiftStop (t : Table) : Prop := ∀ s s', Action.shift s' ∉ t.cell s 0

/-- The structural certificate, as a proposition, for all automata of the table at once. -/
structure Structural (g : Grammar) (t : Table) (autos : List Auto) : Prop where
  item_prod : ∀ s p d, t.hasItem s p d → ∃ pr, g.prods[p]? = some pr ∧ d ≤ pr.rhs.length
  start_items : ∀ a ∈ autos, ∀ p d, t.hasItem a.start p d → d = 0
  no_into_start : ∀ a ∈ autos, ∀ s X, ¬ t.trans g s X a.start
  target_items : ∀ s X s' p d, t.trans g s X s' → t.hasItem s' p (d+1) →
      (∃ pr, g.prods[p]? = some pr ∧ pr.rhs[d]? = some X) ∧ t.hasItem s p d
  reduce_item : ∀ s a p len, Action.reduce p len ∈ t.cell s a →
      t.hasItem s p len ∧ ∃ pr, g.prods[p]? = some pr ∧ pr.rhs.length = len
  accept_item : ∀ s x, Action.accept ∈ t.cell s x →
      ∃ a ∈ autos, ∃ pr, g.prods[a.aug]? = some pr ∧ pr.rhs = [a.sym] ∧ t.hasItem s a.aug 1
  aug_start_only : ∀ a ∈ autos, ∀ s, t.hasItem s a.aug 0 → s = a.start
  shift_term : ∀ s a s', Action.shift s' ∈ t.cell s a → a < g.nterms
  distinct : ∀ a ∈ autos, ∀ b ∈ autos, a.start = b.start → a = b

def Nullable (g : Grammar) (X : Nat) : Prop := ∃ t : Tree, t.Valid g X ∧ t.yield = []

/-- The structural certificate with right-nulled reductions, as a proposition: `Structural` with the reduce clause
    relaxed.  Everything about the stack that does not build a node is proved of this one. -/
structure StructuralRN (g : Grammar) (t : Table) (autos : List Auto) : Prop where
  item_prod : ∀ s p d, t.hasItem s p d → ∃ pr, g.prods[p]? = some pr ∧ d ≤ pr.rhs.length
  start_items : ∀ a ∈ autos, ∀ p d, t.hasItem a.start p d → d = 0
  no_into_start : ∀ a ∈ autos, ∀ s X, ¬ t.trans g s X a.start
  target_items : ∀ s X s' p d, t.trans g s X s' → t.hasItem s' p (d+1) →
      (∃ pr, g.prods[p]? = some pr ∧ pr.rhs[d]? = some X) ∧ t.hasItem s p d
  reduce_item : ∀ s a p len, Action.reduce p len ∈ t.cell s a →
      t.hasItem s p len ∧ ∃ pr, g.prods[p]? = some pr ∧ len ≤ pr.rhs.length ∧
        ∀ Y ∈ pr.rhs.drop len, Nullable g Y
  accept_item : ∀ s x, Action.accept ∈ t.cell s x →
      ∃ a ∈ autos, ∃ pr, g.prods[a.aug]? = some pr ∧ pr.rhs = [a.sym] ∧ t.hasItem s a.aug 1
  aug_start_only : ∀ a ∈ autos, ∀ s, t.hasItem s a.aug 0 → s = a.start
  shift_term : ∀ s a s', Action.shift s' ∈ t.cell s a → a < g.nterms
  distinct : ∀ a ∈ autos, ∀ b ∈ autos, a.start = b.start → a = b

theorem Structural.toRN {g : Grammar} {t : Table} {autos : List Auto} (h : Structural g t autos) :
    StructuralRN g t autos where
  item_prod := h.item_prod
  start_items := h.start_items
  no_into_start := h.no_into_start
  target_items := h.target_items
  reduce_item := by
    intro s a p len hm
    obtain ⟨hi, pr, hpr, hl⟩ := h.reduce_item s a p len hm
    refine ⟨hi, pr, hpr, Nat.le_of_eq hl.symm, ?_⟩
    intro Y hY
    rw [← hl] at hY
    simp at hY
  accept_item := h.accept_item
  aug_start_only := h.aug_start_only
  shift_term := h.shift_term
  distinct := h.distinct

theorem StructuralRN.accept_trans {g : Grammar} {t : Table} {autos : List Auto} (hs : StructuralRN g t autos)
    {s X s' x : Nat} (hacc : Action.accept ∈ t.cell s' x) (htr : t.trans g s X s') :
    ∃ au ∈ autos, s = au.start ∧ X = au.sym := by
  obtain ⟨au, hau, pr, hpr, hrhs, hitem⟩ := hs.accept_item _ _ hacc
  obtain ⟨⟨pr', hpr', hX⟩, hitem0⟩ := hs.target_items _ _ _ _ 0 htr hitem
  cases hpr.symm.trans hpr'
  rw [hrhs] at hX
  exact ⟨au, hau, hs.aug_start_only au hau _ hitem0, (Option.some.inj hX).symm⟩

theorem StructuralRN.accept_ne_start {g : Grammar} {t : Table} {autos : List Auto} (hs : StructuralRN g t autos)
    {au : Auto} (hau : au ∈ autos) {x : Nat} : Action.accept ∉ t.cell au.start x := by
  intro hacc
  obtain ⟨au', _, _, _, _, hitem⟩ := hs.accept_item _ _ hacc
  exact Nat.one_ne_zero (hs.start_items au hau _ _ hitem)

theorem mem_prods_toList {g : Grammar} {p : Nat} {pr : Prod} (hp : g.prods[p]? = some pr) :
    pr ∈ g.prods.toList :=
  Array.mem_toList_iff.mpr (Array.mem_of_getElem? hp)

def PathInv (g : Grammar) (t : Table) (start : Nat) : List (Nat × Tree) → Prop
  | [] => True
  | (s, tr) :: below => (∃ X, tr.Valid g X ∧ t.trans g (topOf start below) X s) ∧ PathInv g t start below

def yields : List (Nat × Tree) → List Nat
  | [] => []
  | (_, tr) :: below => yields below ++ tr.yield

/-- `PathInv` with the claim about the trees left open: `fun tr X => tr.Valid g X` gives `PathInv` back (`pathInv_iff`),
    `fun _ _ => True` the states alone (`PathInv'`) -/
def PathInvP (P : Tree → Nat → Prop) (g : Grammar) (t : Table) (start : Nat) : List (Nat × Tree) → Prop
  | [] => True
  | (s, tr) :: below => (∃ X, P tr X ∧ t.trans g (topOf start below) X s) ∧ PathInvP P g t start below

theorem pathInv_iff {g : Grammar} {t : Table} {start : Nat} {st : List (Nat × Tree)} :
    PathInv g t start st ↔ PathInvP (fun tr X => tr.Valid g X) g t start st := by
  induction st with
  | nil => exact Iff.rfl
  | cons e below ih => exact and_congr Iff.rfl ih

theorem PathInvP.drop {P : Tree → Nat → Prop} {g : Grammar} {t : Table} {start : Nat} (n : Nat) :
    ∀ {st : List (Nat × Tree)}, PathInvP P g t start st → PathInvP P g t start (st.drop n) := by
  induction n with
  | zero => exact fun h => h
  | succ n ih =>
    intro st h
    cases st with
    | nil => exact h
    | cons e b => exact ih h.2

theorem PathInvP.top {P : Tree → Nat → Prop} {g : Grammar} {t : Table} {start : Nat} {st : List (Nat × Tree)}
    (h : PathInvP P g t start st) : topOf start st = start ∨ ∃ s X, t.trans g s X (topOf start st) := by
  cases st with
  | nil => exact Or.inl rfl
  | cons e below => exact Or.inr ⟨_, h.1.choose, h.1.choose_spec.2⟩

structure CInv (g : Grammar) (t : Table) (start : Nat) (c : CCfg) : Prop where
  path : PathInv g t start c.stack
  yld  : yields c.stack = c.shifted.reverse

theorem yields_take_drop (st : List (Nat × Tree)) (d : Nat) :
    yields st = yields (st.drop d) ++ (((st.take d).reverse.map (·.2)).map Tree.yield).flatten := by
  induction d generalizing st with
  | zero => simp
  | succ d ih =>
    cases st with
    | nil => simp [yields]
    | cons e below =>
      obtain ⟨s, tr⟩ := e
      simp only [List.drop_succ_cons, List.take_succ_cons, List.reverse_cons, List.map_append,
        List.map_cons, List.map_nil, List.flatten_append, yields]
      rw [ih below]
      simp [List.append_assoc]

/-- Tree constructors that decorate but do not change kind / production / children. -/
structure Decorators (leafOf : Nat → Tree) (nodeOf : Nat → List Tree → Tree) : Prop where
  leaf : ∀ a, ∃ sp v l, leafOf a = .leaf a sp v l
  node : ∀ p cs, ∃ sp l, nodeOf p cs = .node p sp l (TreeList.ofList cs)

theorem decorators_plain : Decorators Tree.tok Tree.mk :=
  ⟨fun _ => ⟨_, _, _, rfl⟩, fun _ _ => ⟨_, _, rfl⟩⟩

theorem cinv_init (g : Grammar) (t : Table) (start : Nat) : CInv g t start ⟨[], []⟩ :=
  ⟨trivial, rfl⟩

section
variable {g : Grammar} {t : Table} {autos : List Auto} (hs : StructuralRN g t autos) {au : Auto} (hin : au ∈ autos)
  {P : Tree → Nat → Prop}
include hs

theorem stack_nil_of_top_start {start : Nat} {a : Auto} (ha : a ∈ autos) {st : List (Nat × Tree)}
    (hp : PathInvP P g t start st) (htop : topOf start st = a.start) : st = [] := by
  cases st with
  | nil => rfl
  | cons e below =>
    obtain ⟨s1, tr⟩ := e
    obtain ⟨⟨X, _, htr⟩, _⟩ := hp
    simp only [topOf] at htop
    rw [htop] at htr
    exact absurd htr (hs.no_into_start a ha _ _)

include hin

/-- an item `[p: α.β]` in the top state: the top `|α|` entries spell `α` and below them sits a state with `[p: .αβ]` -/
theorem path_lemma :
    ∀ (d : Nat) (st : List (Nat × Tree)) (p : Nat), PathInvP P g t au.start st →
      t.hasItem (topOf au.start st) p d →
      d ≤ st.length ∧ t.hasItem (topOf au.start (st.drop d)) p 0 ∧
      ∃ pr, g.prods[p]? = some pr ∧ Front.All2 P ((st.take d).reverse.map (·.2)) (pr.rhs.take d)
        ∧ d ≤ pr.rhs.length := by
  intro d
  induction d with
  | zero =>
    intro st p _ hi
    obtain ⟨pr, hpr, _⟩ := hs.item_prod _ p 0 hi
    exact ⟨Nat.zero_le _, by simpa using hi, pr, hpr, .nil, Nat.zero_le _⟩
  | succ d ih =>
    intro st p hp hi
    cases st with
    | nil =>
      exact absurd (hs.start_items au hin p (d+1) hi) (Nat.succ_ne_zero d)
    | cons e below =>
      obtain ⟨s, tr⟩ := e
      obtain ⟨⟨X, hv, htr⟩, hbelow⟩ := hp
      have hi' : t.hasItem s p (d+1) := by simpa [topOf] using hi
      obtain ⟨⟨pr, hpr, hX⟩, hsrc⟩ := hs.target_items _ X s p d htr hi'
      obtain ⟨hlen, h0, pr', hpr', hvl, hdl⟩ := ih below p hbelow hsrc
      cases hpr.symm.trans hpr'
      have hlt : d < pr.rhs.length := (List.getElem?_eq_some_iff.mp hX).1
      refine ⟨Nat.succ_le_succ hlen, h0, pr, hpr, ?_, hlt⟩
      have htake : pr.rhs.take (d+1) = pr.rhs.take d ++ [X] := by
        rw [List.take_add_one]; simp [hX]
      rw [htake]
      simp only [List.take_succ_cons, List.reverse_cons, List.map_append, List.map_cons, List.map_nil]
      exact hvl.snoc hv

theorem path_lemma_valid {d : Nat} {st : List (Nat × Tree)} {p : Nat}
    (hp : PathInv g t au.start st) (hi : t.hasItem (topOf au.start st) p d) :
    ∃ pr, g.prods[p]? = some pr ∧ d ≤ pr.rhs.length ∧ d ≤ st.length ∧
      t.hasItem (topOf au.start (st.drop d)) p 0 ∧ PathInv g t au.start (st.drop d) ∧
      ValidList g ((st.take d).reverse.map (·.2)) (pr.rhs.take d) := by
  obtain ⟨hle, h0, pr, hpr, hvl, hdl⟩ := path_lemma hs hin d st p (pathInv_iff.mp hp) hi
  exact ⟨pr, hpr, hdl, hle, h0, pathInv_iff.mpr ((pathInv_iff.mp hp).drop d), validList_of_all2 hvl⟩

theorem accept_stack {st : List (Nat × Tree)} (hp : PathInvP P g t au.start st) {x : Nat}
    (hacc : Action.accept ∈ t.cell (topOf au.start st) x) : ∃ s T, st = [(s, T)] ∧ P T au.sym := by
  cases st with
  | nil => exact absurd hacc (hs.accept_ne_start hin)
  | cons e below =>
    obtain ⟨⟨X, hv, htr⟩, hbelow⟩ := hp
    obtain ⟨au', hin', htop, rfl⟩ := hs.accept_trans hacc htr
    obtain rfl := stack_nil_of_top_start hs hin' hbelow htop
    obtain rfl := hs.distinct au' hin' au hin htop.symm
    exact ⟨e.1, e.2, rfl, hv⟩

theorem cstep_accept_sound {leafOf : Nat → Tree} {nodeOf : Nat → List Tree → Tree}
    {c : CCfg} {a : Nat} {tr : Tree} (hinv : CInv g t au.start c)
    (hstep : cstepWith g t au.start leafOf nodeOf c a = .accept tr) :
    tr.Valid g au.sym ∧ tr.yield = c.shifted.reverse ∧ c.stack.length = 1 := by
  obtain ⟨s, T, hst, hv⟩ := accept_stack hs hin (pathInv_iff.mp hinv.path) (cstepWith_accept_mem hstep)
  have hsp := cstepWith_spec g t au.start leafOf nodeOf c a
  rw [hstep, hst] at hsp
  obtain ⟨_, _, _, _, hT⟩ := hsp
  cases hT
  have hy := hinv.yld
  rw [hst] at hy
  exact ⟨hv, by simpa [yields] using hy, by rw [hst]; rfl⟩

end

/-- The states alone: what the no-panic argument needs, also where right-nulled reductions leave no derivation trees. -/
abbrev PathInv' (g : Grammar) (t : Table) (start : Nat) (st : List (Nat × Tree)) : Prop :=
  PathInvP (fun _ _ => True) g t start st

theorem cstep_preserves' {g : Grammar} {t : Table} {autos : List Auto} (hs : StructuralRN g t autos) {start : Nat}
    {leafOf : Nat → Tree} {nodeOf : Nat → List Tree → Tree} {c c' : CCfg} {a : Nat}
    (hinv : PathInv' g t start c.stack)
    (hstep : cstepWith g t start leafOf nodeOf c a = .shift c' ∨
             cstepWith g t start leafOf nodeOf c a = .reduce c') : PathInv' g t start c'.stack := by
  have hsp := cstepWith_spec g t start leafOf nodeOf c a
  rcases hstep with h | h <;> rw [h] at hsp
  · obtain ⟨s', acts, hcell, rfl⟩ := hsp
    have hmem : Action.shift s' ∈ t.cell (topOf start c.stack) a := hcell ▸ List.mem_cons_self
    exact ⟨⟨a, trivial, (Table.trans_term (hs.shift_term _ _ _ hmem)).mpr hmem⟩, hinv⟩
  · obtain ⟨p, len, acts, pr, s', _, _, _, hgoto, rfl⟩ := hsp
    exact ⟨⟨pr.lhs, trivial, Table.trans_of_goto hgoto⟩, hinv.drop len⟩

section
variable {g : Grammar} {t : Table} {autos : List Auto} (hs : Structural g t autos) {au : Auto} (hin : au ∈ autos)
include hs hin

theorem cstep_preserves {leafOf : Nat → Tree} {nodeOf : Nat → List Tree → Tree} (hd : Decorators leafOf nodeOf)
    {c c' : CCfg} {a : Nat} (hinv : CInv g t au.start c)
    (hstep : cstepWith g t au.start leafOf nodeOf c a = .shift c' ∨
             cstepWith g t au.start leafOf nodeOf c a = .reduce c') : CInv g t au.start c' := by
  have hsp := cstepWith_spec g t au.start leafOf nodeOf c a
  rcases hstep with h | h <;> rw [h] at hsp
  · obtain ⟨s', acts, hcell, rfl⟩ := hsp
    have hmem : Action.shift s' ∈ t.cell (topOf au.start c.stack) a := hcell ▸ List.mem_cons_self
    have hterm := hs.shift_term _ _ _ hmem
    obtain ⟨sp, v, l, hleaf⟩ := hd.leaf a
    refine ⟨⟨⟨a, ?_, ?_⟩, hinv.path⟩, ?_⟩
    · rw [hleaf]; exact ⟨rfl, hterm⟩
    · exact (Table.trans_term hterm).mpr hmem
    · simp [yields, hleaf, Tree.yield, hinv.yld]
  · obtain ⟨p, len, acts, pr, s', hcell, _, hpr, hgoto, rfl⟩ := hsp
    obtain ⟨hitem, pr', hpr', hrl⟩ := hs.reduce_item _ _ _ _ (hcell ▸ List.mem_cons_self)
    cases hpr.symm.trans hpr'
    obtain ⟨pr', hpr', _, _, _, hdrop, hvl⟩ := path_lemma_valid hs.toRN hin hinv.path hitem
    cases hpr.symm.trans hpr'
    rw [show pr.rhs.take len = pr.rhs from hrl ▸ List.take_length] at hvl
    obtain ⟨sp, l, hnode⟩ := hd.node p ((c.stack.take len).reverse.map (·.2))
    refine ⟨⟨⟨pr.lhs, ?_, Table.trans_of_goto hgoto⟩, hdrop⟩, ?_⟩
    · rw [hnode]
      exact ⟨pr, hpr, rfl, hvl⟩
    · simp only [yields, hnode, Tree.yield, yield_ofList]
      rw [← hinv.yld, yields_take_drop c.stack len]

end

end Rustemo
