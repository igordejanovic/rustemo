import Rustemo.Model.Core
/-!
The core machine `cstepWith` read once: one equation per branch, the panics included, and the inversion
`cstepWith_spec`.  No table notion: whoever reasons about the machine alone (the token-level runner) needs no more.
-/

namespace Rustemo

section
variable {g : Grammar} {t : Table} {start : Nat} {leafOf : Nat → Tree} {nodeOf : Nat → List Tree → Tree}
  {c : CCfg} {a : Nat}

theorem cstepWith_shift {s' : Nat} {acts : List Action}
    (h : t.cell (topOf start c.stack) a = .shift s' :: acts) :
    cstepWith g t start leafOf nodeOf c a = .shift ⟨(s', leafOf a) :: c.stack, a :: c.shifted⟩ := by
  simp only [cstepWith, h]

theorem cstepWith_reduce {p len s' : Nat} {pr : Prod} {acts : List Action}
    (h : t.cell (topOf start c.stack) a = .reduce p len :: acts) (hlen : len ≤ c.stack.length)
    (hp : g.prods[p]? = some pr) (hg : t.goto g (topOf start (c.stack.drop len)) pr.lhs = some s') :
    cstepWith g t start leafOf nodeOf c a =
      .reduce ⟨(s', nodeOf p ((c.stack.take len).reverse.map (·.2))) :: c.stack.drop len, c.shifted⟩ := by
  simp only [cstepWith, h, Nat.not_lt.mpr hlen, ↓reduceIte, hp, hg]

theorem cstepWith_accept {s : Nat} {tr : Tree} {below : List (Nat × Tree)} {acts : List Action}
    (h : t.cell (topOf start c.stack) a = .accept :: acts) (hst : c.stack = (s, tr) :: below) :
    cstepWith g t start leafOf nodeOf c a = .accept tr := by
  rw [cstepWith, h]; simp only [hst]

theorem cstepWith_noAction (h : t.cell (topOf start c.stack) a = []) :
    cstepWith g t start leafOf nodeOf c a = .panic "actions[0]" := by
  simp only [cstepWith, h]

theorem cstepWith_splitOff {p len : Nat} {acts : List Action}
    (h : t.cell (topOf start c.stack) a = .reduce p len :: acts) (hlen : c.stack.length < len) :
    cstepWith g t start leafOf nodeOf c a = .panic "split_off" := by
  simp only [cstepWith, h, hlen, ↓reduceIte]

theorem cstepWith_noProd {p len : Nat} {acts : List Action}
    (h : t.cell (topOf start c.stack) a = .reduce p len :: acts) (hlen : len ≤ c.stack.length)
    (hp : g.prods[p]? = none) : cstepWith g t start leafOf nodeOf c a = .panic "prod.into()" := by
  simp only [cstepWith, h, Nat.not_lt.mpr hlen, ↓reduceIte, hp]

theorem cstepWith_noGoto {p len : Nat} {pr : Prod} {acts : List Action}
    (h : t.cell (topOf start c.stack) a = .reduce p len :: acts) (hlen : len ≤ c.stack.length)
    (hp : g.prods[p]? = some pr) (hg : t.goto g (topOf start (c.stack.drop len)) pr.lhs = none) :
    cstepWith g t start leafOf nodeOf c a = .panic "goto" := by
  simp only [cstepWith, h, Nat.not_lt.mpr hlen, ↓reduceIte, hp, hg]

theorem cstepWith_noResult {acts : List Action} (h : t.cell (topOf start c.stack) a = .accept :: acts)
    (hst : c.stack = []) : cstepWith g t start leafOf nodeOf c a = .panic "res_stack.pop().unwrap()" := by
  rw [cstepWith, h]; simp only [hst]

end

/-- used as `have h' := cstepWith_spec …; rw [h] at h'` with `h : cstepWith … = .shift c'` etc. -/
theorem cstepWith_spec (g : Grammar) (t : Table) (start : Nat) (leafOf : Nat → Tree)
    (nodeOf : Nat → List Tree → Tree) (c : CCfg) (a : Nat) :
    match cstepWith g t start leafOf nodeOf c a with
    | .shift c' => ∃ s' acts, t.cell (topOf start c.stack) a = .shift s' :: acts ∧
        c' = ⟨(s', leafOf a) :: c.stack, a :: c.shifted⟩
    | .reduce c' => ∃ p len acts pr s', t.cell (topOf start c.stack) a = .reduce p len :: acts ∧
        len ≤ c.stack.length ∧ g.prods[p]? = some pr ∧
        t.goto g (topOf start (c.stack.drop len)) pr.lhs = some s' ∧
        c' = ⟨(s', nodeOf p ((c.stack.take len).reverse.map (·.2))) :: c.stack.drop len, c.shifted⟩
    | .accept tr => ∃ acts s below, t.cell (topOf start c.stack) a = .accept :: acts ∧
        c.stack = (s, tr) :: below
    | .panic _ => True := by
  unfold cstepWith
  cases hcell : t.cell (topOf start c.stack) a with
  | nil => trivial
  | cons act acts =>
    cases act with
    | shift s' => exact ⟨s', acts, rfl, rfl⟩
    | reduce p len =>
      dsimp only
      by_cases hlen : c.stack.length < len
      · rw [if_pos hlen]; trivial
      · rw [if_neg hlen]
        cases hp : g.prods[p]? with
        | none => trivial
        | some pr =>
          dsimp only
          cases hg : t.goto g (topOf start (c.stack.drop len)) pr.lhs with
          | none => trivial
          | some s' => exact ⟨p, len, acts, pr, s', rfl, Nat.le_of_not_lt hlen, hp, hg, rfl⟩
    | accept =>
      dsimp only
      cases hst : c.stack with
      | nil => trivial
      | cons e below => exact ⟨acts, e.1, below, rfl, rfl⟩

theorem cstepWith_shifted {g : Grammar} {t : Table} {start : Nat} {leafOf : Nat → Tree}
    {nodeOf : Nat → List Tree → Tree} {c c' : CCfg} {a : Nat} :
    (cstepWith g t start leafOf nodeOf c a = .shift c' → c'.shifted = a :: c.shifted) ∧
    (cstepWith g t start leafOf nodeOf c a = .reduce c' → c'.shifted = c.shifted) := by
  have hsp := cstepWith_spec g t start leafOf nodeOf c a
  constructor <;> intro h <;> rw [h] at hsp
  · obtain ⟨_, _, _, rfl⟩ := hsp; rfl
  · obtain ⟨_, _, _, _, _, _, _, _, _, rfl⟩ := hsp; rfl

theorem cstepWith_accept_mem {g : Grammar} {t : Table} {start : Nat} {leafOf : Nat → Tree}
    {nodeOf : Nat → List Tree → Tree} {c : CCfg} {a : Nat} {tr : Tree}
    (h : cstepWith g t start leafOf nodeOf c a = .accept tr) :
    Action.accept ∈ t.cell (topOf start c.stack) a := by
  have hsp := cstepWith_spec g t start leafOf nodeOf c a
  rw [h] at hsp
  obtain ⟨acts, _, _, hcell, _⟩ := hsp
  exact hcell ▸ List.mem_cons_self

end Rustemo
