import Rustemo.Model.Canon
/-!
C04.  What `Cover.verify` establishes when it answers `true`, field by field: the table is a faithful compression of the
automaton `Canon.build` returns, along a given relation between their states.  `Canon.build` itself has no theory here.
-/
namespace Rustemo
namespace Cover

/-- The property text of C04 for one table and one relation `rel` between the states of the canonical LR(1) automaton
    and those of the dumped table. -/
structure FaithfulCompression (g : Grammar) (t : Table) (au : Canon.Automaton)
    (rel : List (Nat × Nat)) (s0 : Nat) (rn : Bool) : Prop where
  start : (0, s0) ∈ rel
  /-- related states are left on exactly the same grammar symbols -/
  same_symbols : ∀ q s, (q, s) ∈ rel → canonSymbols au q = tableSymbols g t s
  /-- both transitions exist on each such symbol and lead to related states -/
  closed : ∀ q s X, (q, s) ∈ rel → X ∈ canonSymbols au q →
    ∃ q' s', au.goto q X = some q' ∧ tableTrans g t s X = some s' ∧ (q', s') ∈ rel
  /-- a table state has the item core of every canonical state it stands for -/
  same_core : ∀ q s, (q, s) ∈ rel → ∃ st, t.states[s]? = some st ∧
    coreOf (au.states.getD q []) = tableCore st
  /-- lookaheads of an item = union over the canonical states the table state stands for -/
  lookaheads : ∀ s, s ∈ relStates rel → ∃ st, t.states[s]? = some st ∧ ∀ it ∈ st.items,
    setOf it.la = setOf (((rel.filter (·.2 == s)).map (·.1)).flatMap fun q =>
      lookaheadsOf (au.states.getD q []) it.prod it.dot)
  /-- every cell holds exactly the actions items and lookaheads prescribe (plus right-nulled
      reductions iff `rn`) -/
  cells : ∀ s, s ∈ relStates rel → ∃ st, t.states[s]? = some st ∧ ∀ a, a < g.nterms →
    sameActions (t.cell s a) (expectedCell g t s st a rn) = true

theorem verify_sound (g : Grammar) (t : Table) (au : Canon.Automaton) (rel : List (Nat × Nat))
    (s0 : Nat) (rn : Bool) (h : verify g t au rel s0 rn = true) :
    FaithfulCompression g t au rel s0 rn := by
  unfold verify at h
  simp only [Bool.and_eq_true, List.all_eq_true] at h
  obtain ⟨⟨h1, h2⟩, h3⟩ := h
  simp only [pairOk, Bool.and_eq_true, beq_iff_eq, List.all_eq_true] at h2
  refine ⟨by simpa using h1, fun q s hm => (h2 (q, s) hm).1.1, ?_, ?_, ?_, ?_⟩
  · intro q s X hm hX
    have := (h2 (q, s) hm).1.2 X hX
    split at this
    · rename_i q' s' hq hs
      exact ⟨q', s', hq, hs, by simpa using this⟩
    · cases this
  · intro q s hm
    have := (h2 (q, s) hm).2
    split at this
    · rename_i st hst
      exact ⟨st, hst, by simpa using this⟩
    · cases this
  · intro s hs
    have := h3 s hs
    unfold stateOk at this
    split at this
    · cases this
    · rename_i st hst
      simp only [Bool.and_eq_true, List.all_eq_true, beq_iff_eq] at this
      exact ⟨st, hst, this.1⟩
  · intro s hs
    have := h3 s hs
    unfold stateOk at this
    split at this
    · cases this
    · rename_i st hst
      simp only [Bool.and_eq_true, List.all_eq_true] at this
      exact ⟨st, hst, fun a ha => this.2 a (List.mem_range.mpr ha)⟩

end Cover
end Rustemo
