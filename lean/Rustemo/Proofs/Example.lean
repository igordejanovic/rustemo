import Rustemo.Proofs.ListFacts
import Rustemo.Props.ExampleLayout
/-!
`S: 'a' S | EMPTY` on "a a" (`Props/Example.lean`) meets the hypotheses of the C02, C13, C14 and C15 theorems: the certificates
are evaluated here once, the recognizers are read for any input (`Ins.recogA`, of which `Example.recog` is an instance).
-/

namespace Rustemo
open Rustemo.ExampleLayout

theorem Ins.recogA_cases (inp : List Nat) (k p l : Nat) (h : Ins.recogA inp k p = some l) :
    (k = 1 ∧ l = 1 ∧ inp[p]? = some 97) ∨ (k = 0 ∧ l = 0 ∧ p = inp.length) := by
  unfold Ins.recogA at h
  split at h
  · rename_i hk
    split at h
    · rename_i h2; injection h with h; exact Or.inl ⟨hk, h.symm, h2⟩
    · simp at h
  · split at h
    · rename_i hk
      split at h
      · rename_i h2; injection h with h; exact Or.inr ⟨hk, h.symm, h2⟩
      · simp at h
    · simp at h

theorem Ins.recogA_ok (inp : List Nat) (k p l : Nat) (h : Ins.recogA inp k p = some l) :
    p + l ≤ inp.length := by
  rcases Ins.recogA_cases inp k p l h with ⟨_, rfl, h2⟩ | ⟨_, rfl, h2⟩
  · exact lt_length_of_getElem? h2
  · exact Nat.le_of_eq h2

theorem Example.checks : Cert.structural Example.g Example.t (autosOf Example.g Example.t) = true ∧
    Cert.lr Example.g Example.t = true ∧ Cert.noShiftStop Example.t = true ∧
    Example.isOk (parse Example.env false 100).2 = true := by decide +kernel

end Rustemo
