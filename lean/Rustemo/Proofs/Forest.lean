import Rustemo.Model.Forest
/-!
# Forest enumeration is the canonical enumeration

`get i` (index decoding of `Tree::children` / `find_tree_root`) returns the i-th element of `all`
(possibilities in order, children as a lexicographic product) and `none` from `solutions` on, for
every well-formed SPPF: no parent link with zero solutions — exactly the case in which
`Tree::children` would divide by zero.
-/
namespace Rustemo.Forest

theorem flatMap_map_getElem? {α β γ : Type} (A : List α) (B : List β) (f : α → β → γ) (i : Nat)
    (hB : 0 < B.length) :
    (A.flatMap (fun a => B.map (f a)))[i]? =
      (match A[i / B.length]?, B[i % B.length]? with
       | some a, some b => some (f a b)
       | _, _ => none) := by
  induction A generalizing i with
  | nil => rfl
  | cons a A ih =>
    rw [List.flatMap_cons, List.getElem?_append, List.length_map]
    split
    · rename_i h
      rw [Nat.div_eq_of_lt h, Nat.mod_eq_of_lt h, List.getElem?_map, List.getElem?_cons_zero]
      cases B[i]? <;> rfl
    · rename_i h
      rw [ih, Nat.div_eq_sub_div hB (Nat.le_of_not_lt h), Nat.mod_eq_sub_mod (Nat.le_of_not_lt h),
        List.getElem?_cons_succ]

theorem length_flatMap_map {α β γ : Type} (A : List α) (B : List β) (f : α → β → γ) :
    (A.flatMap (fun a => B.map (f a))).length = A.length * B.length := by
  induction A with
  | nil => simp
  | cons a A ih => rw [List.flatMap_cons, List.length_append, List.length_map, ih, List.length_cons, Nat.succ_mul,
      Nat.add_comm]

mutual
theorem SNode.len_all : ∀ n : SNode, n.all.length = n.solutions
  | .term _ _ => rfl
  | .nonterm _ cs => by rw [SNode.all, List.length_map, PList.len_all cs, SNode.solutions]
  | .empty => rfl
theorem Parent.len_all : ∀ p : Parent, p.all.length = p.solutions
  | .mk ns => by rw [Parent.all, NList.len_all ns, Parent.solutions]
theorem NList.len_all : ∀ ns : NList, ns.all.length = ns.sum
  | .nil => rfl
  | .cons n ns => by rw [NList.all, List.length_append, SNode.len_all n, NList.len_all ns, NList.sum]
theorem PList.len_all : ∀ ps : PList, ps.all.length = ps.prod
  | .nil => rfl
  | .cons p ps => by rw [PList.all, length_flatMap_map, Parent.len_all p, PList.len_all ps, PList.prod]
end

mutual
def SNode.WF : SNode → Prop
  | .term _ _ => True
  | .nonterm _ cs => cs.WF
  | .empty => True
def Parent.WF : Parent → Prop
  | .mk ns => 0 < ns.sum ∧ ns.WF
def NList.WF : NList → Prop
  | .nil => True
  | .cons n ns => n.WF ∧ ns.WF
def PList.WF : PList → Prop
  | .nil => True
  | .cons p ps => p.WF ∧ ps.WF
end

theorem PList.prod_pos : ∀ ps : PList, ps.WF → 0 < ps.prod
  | .nil, _ => Nat.one_pos
  | .cons (.mk _) ps, h => Nat.mul_pos h.1.1 (PList.prod_pos ps h.2)

mutual
theorem SNode.get_eq : ∀ (n : SNode) (i : Nat), n.WF → i < n.solutions → n.get i = n.all[i]?
  | .term k s, i, _, hi => by
    obtain rfl : i = 0 := Nat.lt_one_iff.mp hi
    rfl
  | .nonterm p cs, i, hw, hi => by
    rw [SNode.get, SNode.all, PList.get_eq cs i hw hi, List.getElem?_map]
  | .empty, i, _, hi => absurd hi (Nat.not_lt_zero i)
theorem Parent.get_eq : ∀ (p : Parent) (i : Nat), p.WF → p.get i = p.all[i]?
  | .mk ns, i, hw => NList.get_eq ns i hw.2
theorem NList.get_eq : ∀ (ns : NList) (i : Nat), ns.WF → ns.get i = ns.all[i]?
  | .nil, i, _ => rfl
  | .cons n ns, i, hw => by
    rw [NList.get, NList.all, List.getElem?_append, SNode.len_all]
    split
    · exact SNode.get_eq n i hw.1 ‹_›
    · exact NList.get_eq ns _ hw.2
theorem PList.get_eq : ∀ (ps : PList) (i : Nat), ps.WF → i < ps.prod → ps.get i = ps.all[i]?
  | .nil, i, _, hi => by
    obtain rfl : i = 0 := Nat.lt_one_iff.mp hi
    rfl
  | .cons p ps, i, hw, hi => by
    have hpos := PList.prod_pos ps hw.2
    rw [PList.get, PList.all, flatMap_map_getElem? _ _ _ i (by rw [PList.len_all]; exact hpos), PList.len_all,
      Parent.get_eq p _ hw.1, PList.get_eq ps _ hw.2 (Nat.mod_lt _ hpos)]
    cases p.all[i / ps.prod]? <;> cases ps.all[i % ps.prod]? <;> rfl
end

theorem iterate_eq (f : Forest) (hw : f.roots.WF) (fuel i : Nat) (h : f.solutions ≤ i + fuel) :
    f.iterate fuel i = f.allTrees.drop i := by
  induction fuel generalizing i with
  | zero =>
    rw [Forest.iterate, List.drop_eq_nil_of_le]
    rw [Forest.allTrees, NList.len_all]
    exact h
  | succ fuel ih =>
    rw [Forest.iterate, Forest.getTree, NList.get_eq f.roots i hw]
    cases hg : f.roots.all[i]? with
    | none => exact (List.drop_eq_nil_of_le (List.getElem?_eq_none_iff.mp hg)).symm
    | some t =>
      obtain ⟨hlt, rfl⟩ := List.getElem?_eq_some_iff.mp hg
      rw [ih (i + 1) (by rw [Nat.add_right_comm]; exact h)]
      exact (List.drop_eq_getElem_cons hlt).symm

end Rustemo.Forest
