import Rustemo.Proofs.FrontPhases
import Rustemo.Proofs.FrontResolve
import Rustemo.Proofs.FrontLoop
import Rustemo.Proofs.FrontTerms
/-!
`build_spec` read on a `Safe` file is C16's builder part: every site of `Site` is accounted for — `intConst` (literal
size), `rules0`/`augUnwrap` (a rule list), `modifiersAssert`/`groupExpect`/`gsymbolUnwrap`/`greedyTodo` (syntactic,
`RuleSafe`), `startUnwrap` (the first rule gets an entry), `strConstUnresolved` (unreachable after `resolve_inline…`),
`reachIndex` (all indices in range: needs pairwise different terminal names and no rule that is its own helper).
`Safe` and `Regular` (its last three fields) are the finding classes as hypotheses on a file; `Phases` is what a successful
`build` went through, phase by phase, and `build_spec` ends in it.
-/
namespace Rustemo.Front

variable {fx : Fixes} {f : File} {g : Grammar}

def AllNone (l : List GProd) : Prop := ∀ p, p ∈ l → ∀ a, a ∈ p.rhs → a.index = none

theorem AllNone.append {l m : List GProd} (hl : AllNone l) (hm : AllNone m) : AllNone (l ++ m) :=
  List.forall_mem_append.mpr ⟨hl, hm⟩

theorem extract_allNone {cx : Ctx} {r0 : Rule} {rules : List Rule} {st : XSt}
    (h : extract cx r0 rules = .ok st) : AllNone st.prods :=
  fun p hp => (extract_rawProd h p hp).1

theorem resolved_assign {cx : Ctx} {r0 : Rule} {rules : List Rule} {st : XSt} {mm : SMap (Name × Nat)} {se : RFlags}
    {terms : SMap Term} {nts : List NonTerm} {ps : List GProd} (hext : extract cx r0 rules = .ok st)
    (hres : All2 (ProdRes mm se terms nts) st.prods ps) {p : GProd} (hp : p ∈ ps) {a : RAssign} (ha : a ∈ p.rhs) :
    ∃ a0, a0.index = none ∧ ResOk mm se terms nts a0 a := by
  obtain ⟨q, hq, _, rfl, hr⟩ := hres.mem_right p hp
  obtain ⟨a0, ha0, ra⟩ := hr.mem_right a ha
  exact ⟨a0, extract_allNone hext q hq a0 ha0, ra⟩

/-- ASTs outside the classes of the panic witnesses.  Each field is one finding class:
`ints` F9 (integer literal), `rules0` (an empty rule list: no text produces one), `rules` F9
(terminals-only file), `refs` F9 (groups, greedy operators, several modifiers), `alts` (a rule without
alternative: no text produces one), `dupT` (duplicate terminal names, unless the variant rejects them),
`selfH` (unless the variant reports helper-name clashes: a rule named like a helper of its own
references). -/
structure Safe (fx : Fixes) (f : File) : Prop where
  ints : fx.intErr = true ∨ f.big u32Max = false
  rules0 : f.rules ≠ some []
  rules : fx.noRulesErr = true ∨ f.rules ≠ none
  refs : ∀ r, r ∈ f.ruleList → RuleSafe fx r
  alts : ∀ r, r ∈ f.ruleList → r.alts ≠ []
  dupT : fx.dupNameErr = true ∨ f.dupTerminal = false
  selfH : fx.helperClashErr = true ∨ f.selfHelper fx = false

/-- files outside the classes that break the index structure (the last three fields of `Safe`) -/
structure Regular (fx : Fixes) (f : File) : Prop where
  alts : ∀ r, r ∈ f.ruleList → r.alts ≠ []
  dupT : fx.dupNameErr = true ∨ f.dupTerminal = false
  selfH : fx.helperClashErr = true ∨ f.selfHelper fx = false

theorem Safe.regular {fx : Fixes} {f : File} (h : Safe fx f) : Regular fx f := ⟨h.alts, h.dupT, h.selfH⟩

theorem staticMatches_eq {ts : TSt} (h : termPhase fx f = .ok ts) :
    staticMatches fx f = matchesOf f ts := by
  unfold staticMatches
  rw [h]

theorem selfHelper_eq_false :
    f.selfHelper fx = false ↔ ∀ r, r ∈ f.ruleList → ∀ u, u ∈ ruleUses (staticMatches fx f) r → u.helper fx ≠ r.name := by
  unfold File.selfHelper Rule.selfHelper
  simp only [List.any_eq_false, Bool.not_eq_true, beq_eq_false_iff_ne]

/-- no rule's own uses generate its name: by the static class, or (C09-fix-9) because the rule phase checked every
helper name against the rule names -/
theorem Regular.rulesOk {ts : TSt} {r0 : Rule} {rs : List Rule} {st : XSt} (hreg : Regular fx f)
    (hts : termPhase fx f = .ok ts) (hrules : f.rules = some (r0 :: rs))
    (hext : extract (ctxOf fx f ts) r0 (r0 :: rs) = .ok st) : RulesOk (ctxOf fx f ts) (r0 :: rs) := by
  have hrl : f.ruleList = r0 :: rs := congrArg (·.getD []) hrules
  intro r hrm
  have hr : r ∈ f.ruleList := hrl ▸ hrm
  refine ⟨fun alt halt u hu e => ?_, hreg.alts r hr⟩
  have hur : u ∈ ruleUses (matchesOf f ts) r := List.mem_flatMap.mpr ⟨alt, halt, hu⟩
  rcases hreg.selfH with hflag | hs
  · have hmem : u ∈ rulesUses (ctxOf fx f ts).matchesMap (r0 :: rs) := List.mem_flatMap.mpr ⟨r, hrm, hur⟩
    refine (extract_clashFree (cx := ctxOf fx f ts) hflag hext u hmem).1 ?_
    rw [e]
    exact List.mem_map_of_mem (f := (·.name)) (show r ∈ f.rules.getD [] from hr)
  · exact selfHelper_eq_false.mp hs r hr u (staticMatches_eq hts ▸ hur) e

structure RegularRun (f : File) (ts : TSt) (rules : List Rule) (st : XSt) : Prop where
  tinv : TermsInv ts
  tkeys : ∀ n, n ∈ ts.terms.keys ↔ n ∈ kSTOP :: termNamesOf f
  ninv : NtsInv none st
  xex : XExact none st
  hasAug : kAUG ∈ ntNames st.nts
  hasRules : ∀ r, r ∈ rules → r.name ∈ ntNames st.nts

theorem regular_phases {ts : TSt} {r0 : Rule} {rs : List Rule} {st : XSt} (hreg : Regular fx f)
    (hts : termPhase fx f = .ok ts) (hrules : f.rules = some (r0 :: rs))
    (hext : extract (ctxOf fx f ts) r0 (r0 :: rs) = .ok st) : RegularRun f ts (r0 :: rs) st :=
  have ⟨hT, hTk⟩ := (termPhase_sat (S := True) fx f).of_ok hts hreg.dupT
  have ⟨hN, hX, hA, hR⟩ := extract_rulesOk (hreg.rulesOk hts hrules hext) hext
  ⟨hT, hTk, hN, hX, hA, hR⟩

theorem rhsSyms_lt {p : GProd} {B : Nat} (h : ∀ a, a ∈ p.rhs → ∃ i, a.index = some i ∧ i < B) :
    ∀ s, s ∈ p.rhsSyms → s < B := by
  intro s hs
  obtain ⟨a, ha, rfl⟩ := List.mem_map.mp hs
  obtain ⟨i, hi, hlt⟩ := h a ha
  show a.index.getD 0 < B
  rw [hi]
  exact hlt

theorem assembled_inRange {terms : SMap Term} {nts : List NonTerm} {prods : List GProd} {start : NonTerm}
    {e s a : Nat} {l : Option Nat} (hstart : start ∈ nts)
    (hsym : ∀ p, p ∈ prods → ∀ a, a ∈ p.rhs → ∃ i, a.index = some i ∧ i < terms.length + nts.length)
    (hprods : ∀ nt, nt ∈ nts → ∀ p, p ∈ nt.prods → p < prods.length)
    (hidx : ∀ nt, nt ∈ nts → nt.idx < nts.length) :
    InRange { prods := prods, emptyIdx := e, stopIdx := s, augIdx := a, auglIdx := l,
              startIdx := terms.length + start.idx, terminals := sortTerms terms.values, nonterminals := sortNts nts } := by
  have hT := length_sortTerms terms
  have hN := length_sortNts nts
  refine ⟨fun p hp => ?_, fun nt hnt => hprods nt (mem_sortNts.mp hnt), ?_⟩
  · show ∀ s, s ∈ p.rhsSyms → s < (sortTerms terms.values).length + (sortNts nts).length
    rw [hT, hN]
    exact rhsSyms_lt (hsym p hp)
  · show (sortTerms terms.values).length ≤ terms.length + start.idx ∧
      terms.length + start.idx - (sortTerms terms.values).length < (sortNts nts).length
    rw [hT, hN, Nat.add_sub_cancel_left]
    exact ⟨Nat.le_add_right _ _, hidx start hstart⟩

theorem resolved_below {cx : Ctx} {r0 : Rule} {rules : List Rule} {se : RFlags} {ts : TSt} {st : XSt} {ps : List GProd}
    (hext : extract cx r0 rules = .ok st) (hres : All2 (ProdRes (matchesOf f ts) se ts.terms st.nts) st.prods ps)
    (hT : TermsInv ts) (hN : NtsInv none st) {p : GProd} (hp : p ∈ ps) {a : RAssign} (ha : a ∈ p.rhs) :
    ∃ i, a.index = some i ∧ i < ts.terms.length + st.nts.length := by
  obtain ⟨a0, h0, ra⟩ := resolved_assign hext hres hp ha
  cases hs : a0.sym with
  | name n =>
    have e := (ra.name n h0 hs).2
    unfold resName at e
    split at e
    · exact ⟨_, e, Nat.lt_add_right _ (terms_get? hT ‹_›).1⟩
    · cases hf : findNt st.nts n with
      | none => exact absurd ra.filled (by rw [e, hf]; exact Bool.false_ne_true)
      | some nt =>
        rw [hf] at e
        refine ⟨_, e, ?_⟩
        show nt.idx + ts.terms.length < ts.terms.length + st.nts.length
        rw [Nat.add_comm]
        exact Nat.add_lt_add_left ((hN.pendOk : st.nts.length = st.nextNt) ▸ hN.bound nt (findNt_some hf).1) _
  | str s =>
    obtain ⟨tn, j, hg, e⟩ := ra.str s h0 hs
    obtain ⟨kv, hkv, _, ei, _⟩ := matchesOf_get? hg
    exact ⟨j, e, Nat.lt_add_right _ (ei ▸ hT.count ▸ hT.bound kv hkv)⟩

/-- What a successful `build` went through, phase by phase.  There is a rule list: `assemble` found `AUG`. -/
structure Phases (fx : Fixes) (f : File) (g : Grammar) where
  ts : TSt
  st : XSt
  r0 : Rule
  rs : List Rule
  ps1 : List GProd
  m : Marks
  aug : NonTerm
  start : NonTerm
  hts : termPhase fx f = .ok ts
  hrules : f.rules = some (r0 :: rs)
  hext : extract (ctxOf fx f ts) r0 (r0 :: rs) = .ok st
  hres1 : resolveInline (matchesOf f ts) st.prods = .ok ps1
  hres2 : resolveRefs fx.rflags ts.terms st.nts ps1 = .ok g.prods
  haug : findNt st.nts kAUG = some aug
  hstart : findNt st.nts r0.name = some start
  terms : g.terminals = setReachTerms m.terms 0 (sortTerms ts.terms.values)
  nonterms : g.nonterminals = setReachNts m.nts 0 (sortNts st.nts)
  eAug : g.augIdx = ts.terms.length + aug.idx
  eStart : g.startIdx = ts.terms.length + start.idx
  eAugl : g.auglIdx = (findNt st.nts kAUGL).map (fun x => ts.terms.length + x.idx)
  eEmpty : g.emptyIdx = ts.terms.length

theorem build_spec (fx : Fixes) (f : File) : Sat (Safe fx f) (fun g => Nonempty (Phases fx f g)) (build fx f) := by
  unfold build
  refine Sat.ite (fun hbig => ?_) fun _ => ?_
  · -- a literal that does not fit: a panic only in a variant without `intErr`, where `Safe` excludes it
    by_cases hi : fx.intErr = true
    · rw [hi]
      trivial
    · rw [if_neg hi] at hbig
      exact (Sat.errOrPanic fun h => Bool.false_ne_true (h.symm.trans hbig)).safe Safe.ints
  refine (termPhase_sat fx f).bind fun ts hts _ => ?_
  refine ((rulePhase_sat ts).safe fun hs => ⟨hs.rules0, hs.refs⟩).bind fun xs hxs hx => ?_
  refine (resolveInline_sat _).bind fun ps1 h1 _ => (resolveRefs_sat h1).bind fun ps2 h2 hres => ?_
  rcases hx with ⟨hnone, hflag, rfl⟩ | ⟨r0, rs, hr, hext, hname⟩
  · -- terminals only, in a variant that does not report it: `AUG` is missing
    exact (assemble_sat.safe fun hs => (hs.rules.elim hflag fun h => h hnone).elim).bind
      fun _ _ ⟨_, _, haug, _⟩ => nomatch haug
  have hinv : Safe fx f → RegularRun f ts (r0 :: rs) xs.1 := fun hs => regular_phases hs.regular hts hr hext
  refine (assemble_sat.safe fun hs => ⟨(hinv hs).hasAug, hname ▸ (hinv hs).hasRules r0 List.mem_cons_self⟩).bind
    fun g0 _ ⟨aug, start, haug, hstart, hg0⟩ => ?_
  subst hg0
  refine (markReachable_sat.safe fun hs => ?_).mono fun g ⟨m, hg⟩ => hg ▸
    ⟨{ ts, st := xs.1, r0, rs, ps1, m, aug, start, hts, hrules := hr, hext, hres1 := h1, hres2 := h2, haug,
       hstart := hname ▸ hstart, terms := rfl, nonterms := rfl, eAug := rfl, eStart := rfl, eAugl := rfl, eEmpty := rfl }⟩
  have R := hinv hs
  have hlen : ps2.length = xs.1.nextProd := hres.length_eq.symm.trans (extract_xidx hext).1
  have hlenN : xs.1.nts.length = xs.1.nextNt := R.ninv.pendOk
  exact assembled_inRange (findNt_some hstart).1 (fun p hp a => resolved_below hext hres R.tinv R.ninv hp)
    (fun nt hnt p hp => hlen ▸ R.ninv.prodsB nt hnt p hp) (fun nt hnt => hlenN ▸ R.ninv.bound nt hnt)

theorem build_phases (h : build fx f = .ok g) : Nonempty (Phases fx f g) := (build_spec fx f).of_ok h

theorem Phases.prods_res (ph : Phases fx f g) :
    All2 (ProdRes (matchesOf f ph.ts) fx.rflags ph.ts.terms ph.st.nts) ph.st.prods g.prods :=
  resolve_spec ph.hres1 ph.hres2

theorem Phases.assign (ph : Phases fx f g) {p : GProd} (hp : p ∈ g.prods) {a : RAssign} (ha : a ∈ p.rhs) :
    ∃ a0, a0.index = none ∧ ResOk (matchesOf f ph.ts) fx.rflags ph.ts.terms ph.st.nts a0 a :=
  resolved_assign ph.hext ph.prods_res hp ha

theorem build_prods_idx (h : build fx f = .ok g) : ∀ (i : Nat) p, g.prods[i]? = some p → p.idx = i := by
  obtain ⟨ph⟩ := build_phases h
  intro i p hp
  exact (IdxSeq.of_rel (ph.prods_res.imp fun _ _ => ProdRes.rel) (extract_xidx ph.hext).2 i p hp).trans (Nat.zero_add i)

/-- `res_symbol` cannot panic -/
theorem build_resolved (h : build fx f = .ok g) :
    ∀ p, p ∈ g.prods → ∀ a, a ∈ p.rhs → a.index.isSome := by
  obtain ⟨ph⟩ := build_phases h
  intro p hp a ha
  obtain ⟨_, _, ra⟩ := ph.assign hp ha
  exact ra.filled

/-! With `kindIdentErr` every production kind is a Rust identifier (the generator's `format_ident!`; repo 15a0fce); no
production references a name the variant refuses: `STOP` with `stopRefErr` (repo 3da879f), `AUG` / `AUGL` with
`reservedRefErr` (repo 898fba1). -/

def KindsOk (l : List GProd) : Prop := ∀ p, p ∈ l → ∀ k, p.kind = some k → identOk k = true

theorem KindsOk.append {l m : List GProd} (hl : KindsOk l) (hm : KindsOk m) : KindsOk (l ++ m) :=
  List.forall_mem_append.mpr ⟨hl, hm⟩

theorem build_kinds (hf : fx.kindIdentErr = true) (h : build fx f = .ok g) : KindsOk g.prods := by
  obtain ⟨ph⟩ := build_phases h
  intro p hp
  obtain ⟨q, hq, _, rfl, _⟩ := ph.prods_res.mem_right p hp
  exact (extract_rawProd ph.hext q hq).2 hf

theorem build_noName {fx : Fixes} {f : File} {g : Grammar} {n : Name} (hb : Banned fx.rflags n)
    (h : build fx f = .ok g) : ∀ p, p ∈ g.prods → ∀ a, a ∈ p.rhs → a.sym ≠ .name n := by
  obtain ⟨ph⟩ := build_phases h
  intro p hp a ha hs
  obtain ⟨a0, h0, ra⟩ := ph.assign hp ha
  -- the rule phase made `a0` without index, and resolution left its name alone
  exact (ra.name n h0 (ra.rel.2.1 ▸ hs)).1 hb

end Rustemo.Front
