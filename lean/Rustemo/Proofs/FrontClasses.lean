import Rustemo.Proofs.FrontSugar
/-!
`Clean` and the syntactic part of `Safe` follow from the decidable class predicates of `Wf.lean`, which the driver
reports (`front class`), being false: a case in no class is a case the theorems apply to (`Safe` itself:
`C16_safe_of_classes` in `Props/C09`).
-/
namespace Rustemo.Front

theorem uses_inj_of_sepClash {fx : Fixes} {f : File} (h : f.sepClash fx = false) :
    ∀ u v, u ∈ f.uses fx → v ∈ f.uses fx → u.helper fx = v.helper fx → u = v := by
  intro u v hu hv e
  unfold File.sepClash at h
  by_cases huv : u = v
  · exact huv
  · exfalso
    have : ((f.uses fx).any fun u => (f.uses fx).any fun v => u.helper fx == v.helper fx && u != v) = true := by
      apply List.any_eq_true.mpr
      refine ⟨u, hu, ?_⟩
      apply List.any_eq_true.mpr
      refine ⟨v, hv, ?_⟩
      simp [e, huv]
    rw [this] at h
    cases h

theorem apart_of_helperCapture {fx : Fixes} {f : File} (h : f.helperCapture fx = false) :
    ∀ u, u ∈ f.uses fx → u.helper fx ∉ ruleNamesOf f ∧ u.helper fx ∉ kSTOP :: termNamesOf f := by
  intro u hu
  have hno := List.any_eq_false.mp h (u.helper fx) (List.mem_map_of_mem hu)
  rw [Bool.not_eq_true, Bool.or_eq_false_iff] at hno
  exact ⟨fun hc => Bool.false_ne_true (hno.1.symm.trans (List.contains_iff_mem.mpr hc)),
    fun hc => Bool.false_ne_true (hno.2.symm.trans (List.contains_iff_mem.mpr hc))⟩

theorem alts_of_emptyAlts {f : File} (h : (f.ruleList.any fun r => r.alts.isEmpty) = false) :
    ∀ r, r ∈ f.ruleList → r.alts ≠ [] := by
  intro r hr e
  have := List.any_eq_false.mp h r hr
  rw [e] at this
  simp at this

theorem flag_or_of_class {flag c : Bool} (h : (!flag && c) = false) : flag = true ∨ c = false := by
  cases flag with
  | true => exact Or.inl rfl
  | false => exact Or.inr h

theorem clean_of_classes {fx : Fixes} {f : File}
    (h1 : (f.ruleList.any fun r => r.alts.isEmpty) = false) (h2 : (!fx.dupNameErr && f.dupTerminal) = false)
    (h3 : f.sepClash fx = false) (h4 : (!fx.helperClashErr && f.helperCapture fx) = false)
    (h5 : (!fx.reservedErr && f.reservedRule) = false) :
    Clean fx f := by
  refine ⟨alts_of_emptyAlts h1, flag_or_of_class h2, uses_inj_of_sepClash h3,
    (flag_or_of_class h4).imp id apart_of_helperCapture, (flag_or_of_class h5).imp id fun h5' n hn => ?_⟩
  unfold File.reservedRule at h5'
  have := List.any_eq_false.mp h5' n hn
  simp only [List.contains_cons, List.contains_nil, Bool.or_false, Bool.or_eq_true, beq_iff_eq, not_or] at this
  exact ⟨this.1, this.2.1, this.2.2⟩

theorem refSafe_of_classes {fx : Fixes} {f : File}
    (hg : (!fx.groupErr && f.allRefs.any SymRef.isGroup) = false)
    (hy : (!fx.greedyErr && f.allRefs.any SymRef.isGreedy) = false)
    (hm : (!fx.modifiersErr && f.allRefs.any SymRef.badModifiers) = false) :
    ∀ r, r ∈ f.ruleList → RuleSafe fx r := by
  intro r hr alt halt a ha
  have hmem : a.symRef ∈ f.allRefs := by
    unfold File.allRefs File.allAssigns File.allAlts
    apply List.mem_map.mpr
    exact ⟨a, List.mem_flatMap.mpr ⟨alt, List.mem_flatMap.mpr ⟨r, hr, halt⟩, ha⟩, rfl⟩
  exact ⟨(flag_or_of_class hg).imp id fun h => by simpa using List.any_eq_false.mp h _ hmem,
    (flag_or_of_class hy).imp id fun h => by simpa using List.any_eq_false.mp h _ hmem,
    (flag_or_of_class hm).imp id fun h => by simpa using List.any_eq_false.mp h _ hmem⟩

end Rustemo.Front
