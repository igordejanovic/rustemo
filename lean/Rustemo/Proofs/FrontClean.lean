import Rustemo.Proofs.FrontLoop
/-!
The rule phase of a file whose uses name their helpers unambiguously and apart from the rule names (`UsesOk`): the
alternatives (`UsersOk`), the helper rules (`HelpersOk`) and `AUG`, by one induction (`extract_clean`).
-/
namespace Rustemo.Front

/-- `nt` is the helper rule of `u` as `create_optional` / `create_one` / `create_zero` make it; `pa`, `pb` (in `l`) are
its two productions -/
structure HelperShape (fx : Fixes) (u : Use) (nt : NonTerm) (l : List GProd) (pa pb : GProd) : Prop where
  memA : pa ∈ l
  memB : pb ∈ l
  prods : nt.prods = [pa.idx, pb.idx]
  rhsA : pa.rhs = (u.names0 fx).map resolving
  rhsB : pb.rhs = u.names1.map resolving
  ann : nt.annotation = u.ann

theorem HelperShape.mono {fx : Fixes} {u : Use} {nt : NonTerm} {l l' : List GProd} {pa pb : GProd}
    (h : HelperShape fx u nt l pa pb) (hl : ∀ p, p ∈ l → p ∈ l') : HelperShape fx u nt l' pa pb :=
  { h with memA := hl pa h.memA, memB := hl pb h.memB }

structure UsesOk (fx : Fixes) (U : List Use) (ruleNames : List Name) : Prop where
  inj : ∀ u v, u ∈ U → v ∈ U → u.helper fx = v.helper fx → u = v
  apart : ∀ u, u ∈ U → u.helper fx ∉ ruleNames

theorem UsesOk.avoids {cx : Ctx} {U : List Use} {rn : List Name} (hU : UsesOk cx.fx U rn) {n : Name} (hn : n ∈ rn)
    {alt : Alt} (hsub : ∀ u, u ∈ altUses cx.matchesMap alt → u ∈ U) : AltAvoids cx alt n :=
  fun u hu e => hU.apart u (hsub u hu) (e ▸ hn)

def HelpersOk (fx : Fixes) (U : List Use) (nts : List NonTerm) (l : List GProd) : Prop :=
  ∀ nt, nt ∈ nts → ∀ u, u ∈ U → nt.name = u.helper fx → ∃ pa pb, HelperShape fx u nt l pa pb

theorem closed_helpers (fx : Fixes) (U : List Use) (rn : List Name) (hU : UsesOk fx U rn) (v : Use) (hv : v ∈ U) :
    Closed fx (fun s => HelpersOk fx U s.1.nts (s.1.prods ++ s.2)) v := by
  intro s hs habs
  rw [createUse_absent fx v habs]
  intro nt hnt u hu hname
  rcases List.mem_append.mp hnt with hm | hm
  · obtain ⟨pa, pb, h⟩ := hs nt hm u hu hname
    refine ⟨pa, pb, h.mono fun p hp => ?_⟩
    show p ∈ s.1.prods ++ (s.2 ++ _)
    rcases List.mem_append.mp hp with h | h
    · exact List.mem_append_left _ h
    · exact List.mem_append_right _ (List.mem_append_left _ h)
  · simp at hm
    subst hm
    have huv : u = v := hU.inj u v hu hv hname.symm
    subst huv
    refine ⟨{ idx := s.1.nextProd, nonterminal := s.1.nextNt, ntidx := 0, rhs := (u.names0 fx).map resolving },
            { idx := s.1.nextProd + 1, nonterminal := s.1.nextNt, ntidx := 1, rhs := u.names1.map resolving },
            ?_, ?_, rfl, rfl, rfl, rfl⟩
    · show _ ∈ s.1.prods ++ (s.2 ++ _)
      simp
    · show _ ∈ s.1.prods ++ (s.2 ++ _)
      simp

/-- a helper name is none of the builder's own names: those are capital letters only, a helper name
contains `p`, `1` or `0` -/
theorem helper_not_reserved (fx : Fixes) (u : Use) (t : Name) (ht : t = kEMPTY ∨ t = kAUG ∨ t = kAUGL) :
    u.helper fx ≠ t := by
  have hcap : ∀ c, c ∈ t → 65 ≤ c ∧ c ≤ 90 := by
    rcases ht with rfl | rfl | rfl <;> decide
  have hsuf : ∃ c, c ∈ repSuffix u.kind.op ∧ ¬(65 ≤ c ∧ c ≤ 90) := by
    cases u.kind
    · exact ⟨112, by decide, by decide⟩
    · exact ⟨49, by decide, by decide⟩
    · exact ⟨48, by decide, by decide⟩
  obtain ⟨c, hc, hn⟩ := hsuf
  intro e
  apply hn (hcap c _)
  rw [← e]
  unfold Use.helper helperName
  exact List.mem_append_left _ (List.mem_append_right _ hc)

/-- `p` is the production of the processed alternative `d` for the nonterminal with index `ntIdx` -/
def IsUser (cx : Ctx) (ntIdx : Nat) (d : Done) (p : GProd) : Prop :=
  rhsView p.rhs = codeAltSyms cx.fx cx.matchesMap d.2.2 ∧
  ∃ rhs, p = mkProd p.idx ntIdx d.2.1 rhs (inherit cx.fx (metaOf d.1.metas) (metaOf d.2.2.metas))

def doneOf (n : Name) (done : List Done) : List Done := done.filter (fun d => d.1.name == n)

structure UsersOk (cx : Ctx) (rn : List Name) (done : List Done) (nts : List NonTerm) (prods : List GProd) : Prop where
  lists : ∀ nt, nt ∈ nts → nt.name ∈ rn →
    All2 (fun i d => ∃ p, prods[i]? = some p ∧ p.idx = i ∧ IsUser cx nt.idx d p) nt.prods (doneOf nt.name done)
  present : ∀ d, d ∈ done → d.1.name ∈ ntNames nts

theorem closed_users (cx : Ctx) (U : List Use) (rn : List Name) (hU : UsesOk cx.fx U rn) (done : List Done)
    (P0 : List GProd) (v : Use) (hv : v ∈ U) :
    Closed cx.fx (fun s => UsersOk cx rn done s.1.nts P0) v := by
  intro s hs habs
  rw [createUse_absent cx.fx v habs]
  constructor
  · intro nt hnt hn
    rcases List.mem_append.mp hnt with hm | hm
    · exact hs.lists nt hm hn
    · rw [List.mem_singleton.mp hm] at hn
      exact absurd hn (hU.apart v hv)
  · intro d hd
    exact ntNames_append .. ▸ List.mem_append_left _ (hs.present d hd)

theorem doneOf_snoc_same (done : List Done) (d : Done) : doneOf d.1.name (done ++ [d]) = doneOf d.1.name done ++ [d] := by
  unfold doneOf
  rw [List.filter_append]
  simp

theorem doneOf_snoc_other (done : List Done) (d : Done) {n : Name} (h : d.1.name ≠ n) :
    doneOf n (done ++ [d]) = doneOf n done := by
  unfold doneOf
  rw [List.filter_append]
  have : (d.1.name == n) = false := by simpa using h
  simp [this]

section AltDid
variable {cx : Ctx} {U : List Use} {rn : List Name} (hU : UsesOk cx.fx U rn) {rule : Rule} {ntIdx j : Nat} {alt : Alt}
  {st st' : XSt} {rhs : List RAssign} {s : Acc} {pend : Option (Name × Nat)} {done : List Done}
  (d : AltDid cx rule ntIdx j alt st rhs s st') (c : AltCall cx pend st rule ntIdx alt) (hr : rule.name ∈ rn)
  (hsub : ∀ u, u ∈ altUses cx.matchesMap alt → u ∈ U)
include hU d c hr hsub

theorem AltDid.helpersOk (hh : HelpersOk cx.fx U st.nts st.prods) : HelpersOk cx.fx U st'.nts st'.prods := by
  have hP := d.pres (P := fun s => HelpersOk cx.fx U s.1.nts (s.1.prods ++ s.2))
    (fun u hu => closed_helpers cx.fx U rn hU u (hsub u hu)) (by simpa using hh)
  intro nt hnt u hu hname
  -- a helper is not the rule's entry (`apart`), and the other entries are the old ones
  rcases (d.mid c).mem_registerAlt (d.nts ▸ hnt) with ⟨hm, _, _⟩ | ⟨hyn, _⟩
  · obtain ⟨pa, pb, h⟩ := hP nt hm u hu hname
    refine ⟨pa, pb, h.mono fun p hp => ?_⟩
    rw [d.prods_of_acc]
    rcases List.mem_append.mp hp with h | h
    · exact List.mem_append_left _ (List.mem_append_left _ h)
    · exact List.mem_append_right _ h
  · exact absurd (hname ▸ hyn ▸ hr) (hU.apart u hu)

theorem AltDid.usersOk (hx : XIdx st) (hu : UsersOk cx rn done st.nts st.prods) :
    UsersOk cx rn (done ++ [(rule, j, alt)]) st'.nts st'.prods := by
  have hUs := d.pres (P := fun s => UsersOk cx rn done s.1.nts st.prods)
    (fun u huu => closed_users cx U rn hU done st.prods u (hsub u huu)) hu
  let p := mkProd st.nextProd ntIdx j rhs (inherit cx.fx (metaOf rule.metas) (metaOf alt.metas))
  have hpUser : IsUser cx ntIdx (rule, j, alt) p := ⟨d.view, rhs, rfl⟩
  have hpAt : st'.prods[st.nextProd]? = some p := by
    rw [d.prods_eq, List.append_assoc, List.getElem?_append_right (by rw [hx.1]; exact Nat.le_refl _)]
    simp [hx.1, p]
  have hold : ∀ (i : Nat) q, st.prods[i]? = some q → st'.prods[i]? = some q := by
    intro i q hq
    rw [d.prods_eq, List.append_assoc]
    exact getElem?_append_of_some hq
  have hlift : ∀ (nt : NonTerm) (l : List Nat) (ds : List Done),
      All2 (fun i e => ∃ q, st.prods[i]? = some q ∧ q.idx = i ∧ IsUser cx nt.idx e q) l ds →
      All2 (fun i e => ∃ q, st'.prods[i]? = some q ∧ q.idx = i ∧ IsUser cx nt.idx e q) l ds :=
    fun nt l ds hh => All2.imp (fun i _ ⟨q, hq, r⟩ => ⟨q, hold i q hq, r⟩) hh
  refine ⟨fun y hy hyn => ?_, d.entries c hu.present⟩
  rcases (d.mid c).mem_registerAlt (d.nts ▸ hy) with
    ⟨hm, hne, _⟩ | ⟨hyn', hyi, ⟨x, hxm, hxn, hxi, hpr⟩ | ⟨_, hno, hpr⟩⟩
  · rw [doneOf_snoc_other done (rule, j, alt) (fun e => hne e.symm)]
    exact hlift y _ _ (hUs.lists y hm hyn)
  · rw [hyn', doneOf_snoc_same done (rule, j, alt), hpr, hyi.trans hxi.symm]
    exact All2.snoc (hlift x _ _ (hxn ▸ hUs.lists x hxm (hxn ▸ hr))) ⟨p, hpAt, rfl, hxi ▸ hpUser⟩
  · -- a new entry: no alternative of a rule of this name was processed before
    have hnone : doneOf rule.name done = [] :=
      List.filter_eq_nil_iff.mpr fun e he hen => hno (beq_iff_eq.mp hen ▸ hUs.present e he)
    rw [hyn', doneOf_snoc_same done (rule, j, alt), hnone, hpr, hyi]
    exact .cons ⟨p, hpAt, rfl, hpUser⟩ .nil

end AltDid

/-- the AUG entry and its production stay what `create_aug_nt_and_production` made them -/
def AugOk (p0 : GProd) (nts : List NonTerm) (prods : List GProd) : Prop :=
  findNt nts kAUG = some { idx := 1, name := kAUG, prods := [0] } ∧ prods[0]? = some p0

theorem AltDid.augOk {cx : Ctx} {rule : Rule} {ntIdx j : Nat} {alt : Alt} {st st' : XSt} {rhs : List RAssign} {s : Acc}
    {p0 : GProd} (d : AltDid cx rule ntIdx j alt st rhs s st') (hne : rule.name ≠ kAUG)
    (ha : AugOk p0 st.nts st.prods) : AugOk p0 st'.nts st'.prods := by
  refine ⟨(d.find ha.1).trans (congrArg some (if_neg fun e => hne (eq_of_beq e).symm)), ?_⟩
  rw [d.prods_eq, List.append_assoc]
  exact getElem?_append_of_some ha.2

theorem extract_clean {cx : Ctx} {U : List Use} {rn : List Name} (hU : UsesOk cx.fx U rn)
    {r0 : Rule} {rules : List Rule} {st : XSt} (hw : ∀ r, r ∈ rules → r.name ∈ rn ∧ r.alts ≠ [])
    (hs : ∀ u, u ∈ rulesUses cx.matchesMap rules → u ∈ U)
    (hres : ∀ n, n ∈ rn → n ≠ kEMPTY ∧ n ≠ kAUG ∧ n ≠ kAUGL)
    (h : extract cx r0 rules = .ok st) :
    UsersOk cx rn (allDone rules) st.nts st.prods ∧ HelpersOk cx.fx U st.nts st.prods ∧
      AugOk { idx := 0, nonterminal := 1, rhs := [resolving r0.name] } st.nts st.prods := by
  have hsa : ∀ r, r ∈ rules → ∀ a, a ∈ r.alts → ∀ u, u ∈ altUses cx.matchesMap a → u ∈ U :=
    fun r hr a ha u hu => hs u (List.mem_flatMap.mpr ⟨r, hr, List.mem_flatMap.mpr ⟨a, ha, hu⟩⟩)
  have hok : RulesOk cx rules := fun r hr => ⟨fun a ha => hU.avoids (hw r hr).1 (hsa r hr a ha), (hw r hr).2⟩
  refine ((extract_sat (Q := fun _ done st => XIdx st ∧ UsersOk cx rn done st.nts st.prods ∧
      HelpersOk cx.fx U st.nts st.prods ∧ AugOk _ st.nts st.prods) (fun st0 I => ?_)
    (.of_step (fun _ _ hq => hq) fun hr _ ha c d hq =>
      ⟨d.xidx hq.1, d.usersOk hU (c hok) (hw _ hr).1 (hsa _ hr _ ha) hq.1 hq.2.1,
        d.helpersOk hU (c hok) (hw _ hr).1 (hsa _ hr _ ha) hq.2.2.1,
        d.augOk (hres _ (hw _ hr).1).2.1 hq.2.2.2⟩)).of_ok h).2.2
  -- the builder's own entries are neither rules nor helpers
  have hown := fun nt (hnt : nt ∈ st0.nts) => I.names _ (List.mem_map_of_mem hnt)
  refine ⟨I.xidx, ⟨fun nt hnt hn => ?_, fun _ he => absurd he List.not_mem_nil⟩,
    fun nt hnt u hu hname => absurd hname.symm (helper_not_reserved cx.fx u nt.name (hown nt hnt)), I.aug, I.prod0⟩
  have := hres nt.name hn
  rcases hown nt hnt with e | e | e
  · exact absurd e this.1
  · exact absurd e this.2.1
  · exact absurd e this.2.2

end Rustemo.Front
