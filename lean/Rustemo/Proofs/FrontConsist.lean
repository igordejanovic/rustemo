import Rustemo.Proofs.FrontBuild
/-!
`Facts`: the intermediate results of a successful build of a `Regular` file with the invariants they satisfy.  From it
`Consistent` (every index of the built grammar is a position) and the way from a name to its symbol in the built grammar.
-/
namespace Rustemo.Front

structure Consistent (g : Grammar) : Prop where
  prods : ∀ (i : Nat) p, g.prods[i]? = some p → p.idx = i
  terms : ∀ (i : Nat) t, g.terminals[i]? = some t → t.idx = i
  nts : ∀ (i : Nat) n, g.nonterminals[i]? = some n → n.idx = i
  lists : ∀ n, n ∈ g.nonterminals → n.prods = idxsOf g.prods n.idx
  owner : ∀ p, p ∈ g.prods → p.nonterminal < g.nonterminals.length
  syms : ∀ p, p ∈ g.prods → ∀ s, s ∈ p.rhsSyms → s < g.terminals.length + g.nonterminals.length

theorem Consistent.at_idx {g : Grammar} (hc : Consistent g) {p : GProd} (hp : p ∈ g.prods) : g.prods[p.idx]? = some p := by
  obtain ⟨i, hi⟩ := List.getElem?_of_mem hp
  rw [hc.prods i p hi]
  exact hi

theorem Consistent.hasExactly {g : Grammar} (hc : Consistent g) {nt : NonTerm} (hnt : nt ∈ g.nonterminals)
    {ps : List GProd} (hps : All2 (fun i p => g.prods[i]? = some p) nt.prods ps) :
    HasExactly g nt.idx (ps.map GProd.rhsSyms) := by
  have hmem : ∀ p, p ∈ g.prods → (p.idx ∈ nt.prods ↔ p.nonterminal = nt.idx) := fun p hp => by
    rw [hc.lists nt hnt]
    unfold idxsOf
    constructor
    · intro hi
      obtain ⟨q, hq, e⟩ := List.mem_map.mp hi
      obtain ⟨hq, hn⟩ := List.mem_filter.mp hq
      have := (hc.at_idx hq).symm.trans (e ▸ hc.at_idx hp)
      exact Option.some.inj this ▸ eq_of_beq hn
    · exact fun hn => List.mem_map.mpr ⟨p, List.mem_filter.mpr ⟨hp, beq_iff_eq.mpr hn⟩, rfl⟩
  constructor
  · intro p hp hn
    obtain ⟨q, hq, e⟩ := hps.mem_left _ ((hmem p hp).mpr hn)
    exact List.mem_map.mpr ⟨q, hq, congrArg _ (Option.some.inj (e.symm.trans (hc.at_idx hp)))⟩
  · intro r hr
    obtain ⟨q, hq, rfl⟩ := List.mem_map.mp hr
    obtain ⟨i, hi, e⟩ := hps.mem_right q hq
    have hqm := List.mem_of_getElem? e
    have hqi : q.idx = i := hc.prods i q e
    exact ⟨q, hqm, (hmem q hqm).mp (hqi ▸ hi), rfl⟩

def IdxBelow (B : Nat) (a : RAssign) : Prop := ∀ i, a.index = some i → i < B

structure Facts (fx : Fixes) (f : File) (g : Grammar) where
  ts : TSt
  st : XSt
  r0 : Rule
  rs : List Rule
  m : Marks
  hts : termPhase fx f = .ok ts
  hrules : f.rules = some (r0 :: rs)
  hext : extract (ctxOf fx f ts) r0 (r0 :: rs) = .ok st
  tinv : TermsInv ts
  tkeys : ∀ n, n ∈ ts.terms.keys ↔ n ∈ kSTOP :: termNamesOf f
  ninv : NtsInv none st
  xex : XExact none st
  xidx : XIdx st
  rel : All2 ProdRel st.prods g.prods
  resolved : ∀ p, p ∈ g.prods → ∀ a, a ∈ p.rhs → a.index.isSome
  terms : g.terminals = setReachTerms m.terms 0 (sortTerms ts.terms.values)
  nonterms : g.nonterminals = setReachNts m.nts 0 (sortNts st.nts)
  aug : NonTerm
  start : NonTerm
  haug : findNt st.nts kAUG = some aug
  hstart : findNt st.nts r0.name = some start
  eAug : g.augIdx = ts.terms.length + aug.idx
  eStart : g.startIdx = ts.terms.length + start.idx
  eAugl : g.auglIdx = (findNt st.nts kAUGL).map (fun x => ts.terms.length + x.idx)
  eEmpty : g.emptyIdx = ts.terms.length
  below : ∀ p, p ∈ g.prods → ∀ a, a ∈ p.rhs → IdxBelow (ts.terms.length + st.nts.length) a
  ps1 : List GProd
  hres1 : resolveInline (matchesOf f ts) st.prods = .ok ps1
  hres2 : resolveRefs fx.rflags ts.terms st.nts ps1 = .ok g.prods

theorem build_facts {fx : Fixes} {f : File} {g : Grammar} (hr : Regular fx f) (h : build fx f = .ok g) :
    Nonempty (Facts fx f g) := by
  obtain ⟨ph⟩ := build_phases h
  have R := regular_phases hr ph.hts ph.hrules ph.hext
  exact ⟨{ ph, R with
    xidx := extract_xidx ph.hext, rel := ph.prods_res.imp fun _ _ => ProdRes.rel, resolved := build_resolved h,
    below := fun p hp a ha i hi => by
      obtain ⟨j, hj, hlt⟩ := resolved_below ph.hext ph.prods_res R.tinv R.ninv hp ha
      exact Option.some.inj (hi.symm.trans hj) ▸ hlt }⟩

/-- what `Facts` repeats of `Phases`: the lemmas about `Phases` serve both -/
def Facts.phases {fx : Fixes} {f : File} {g : Grammar} (F : Facts fx f g) : Phases fx f g := { F with }

theorem Facts.nT_eq {fx : Fixes} {f : File} {g : Grammar} (F : Facts fx f g) : g.nT = F.ts.terms.length := by
  unfold Grammar.nT
  rw [F.terms, length_setReachTerms, length_sortTerms]

theorem idxsOf_rel {l l' : List GProd} (hr : All2 ProdRel l l') (i : Nat) : idxsOf l' i = idxsOf l i := by
  induction hr with
  | nil => rfl
  | cons hab _ ih =>
    obtain ⟨rhs', e, _⟩ := hab
    subst e
    unfold idxsOf at *
    simp only [List.filter_cons]
    split
    · simp only [List.map_cons]
      rw [ih]
    · exact ih

theorem build_consistent {fx : Fixes} {f : File} {g : Grammar} (hr : Regular fx f) (h : build fx f = .ok g) :
    Consistent g := by
  obtain ⟨F⟩ := build_facts hr h
  have hlenN : g.nonterminals.length = F.st.nts.length := by
    rw [F.nonterms, length_setReachNts, length_sortNts]
  have hlenT : g.terminals.length = F.ts.terms.length := F.nT_eq
  have hcount : F.st.nts.length = F.st.nextNt := F.ninv.pendOk
  constructor
  · exact build_prods_idx h
  · intro i t ht
    rw [F.terms, setReachTerms_getElem?] at ht
    obtain ⟨x, hx, rfl⟩ := Option.map_eq_some_iff.mp ht
    exact sortTerms_pos F.tinv i x hx
  · intro i n hn
    rw [F.nonterms, setReachNts_getElem?] at hn
    obtain ⟨x, hx, rfl⟩ := Option.map_eq_some_iff.mp hn
    exact sortNts_pos F.ninv i x hx
  · intro n hn
    obtain ⟨i, hi⟩ := List.getElem?_of_mem hn
    rw [F.nonterms, setReachNts_getElem?] at hi
    obtain ⟨x, hx, rfl⟩ := Option.map_eq_some_iff.mp hi
    have hxm : x ∈ F.st.nts := mem_sortNts.mp (List.mem_of_getElem? hx)
    rw [idxsOf_rel F.rel]
    exact F.xex.exact x hxm
  · intro p hp
    obtain ⟨i, hi⟩ := List.getElem?_of_mem hp
    obtain ⟨q, hq, rhs', e, _⟩ := All2.get_right F.rel i p hi
    rw [hlenN, hcount, e]
    exact F.xex.owned q (List.mem_of_getElem? hq)
  · intro p hp
    rw [hlenN, hlenT]
    exact rhsSyms_lt fun a => resolved_below F.hext F.phases.prods_res F.tinv F.ninv hp

def IsSym (g : Grammar) (n : Name) (s : Nat) : Prop :=
  (s < g.nT ∧ ∃ t, g.terminals[s]? = some t ∧ t.name = n) ∨
  (g.nT ≤ s ∧ ∃ nt, g.nonterminals[s - g.nT]? = some nt ∧ nt.name = n)

theorem Facts.nt_at {fx : Fixes} {f : File} {g : Grammar} (F : Facts fx f g) {n : Name} {nt : NonTerm}
    (h : findNt F.st.nts n = some nt) :
    ∃ y : NonTerm, g.nonterminals[y.idx]? = some y ∧ y.idx = nt.idx ∧ y.name = n ∧ y.prods = nt.prods ∧
      y.annotation = nt.annotation := by
  have hm : nt ∈ sortNts F.st.nts := mem_sortNts.mpr (findNt_some h).1
  obtain ⟨j, hj⟩ := List.getElem?_of_mem hm
  have hpos := sortNts_pos F.ninv j nt hj
  subst hpos
  refine ⟨{ nt with reachable := F.m.nts.contains (0 + nt.idx) }, ?_, rfl, (findNt_some h).2, rfl, rfl⟩
  show g.nonterminals[nt.idx]? = _
  rw [F.nonterms, setReachNts_getElem?, hj]
  rfl

theorem Facts.term_at_mem {fx : Fixes} {f : File} {g : Grammar} (F : Facts fx f g) {kv : Name × Term}
    (hmem : kv ∈ F.ts.terms) :
    ∃ y, g.terminals[kv.2.idx]? = some y ∧ y.name = kv.1 ∧ y.recog = kv.2.recog ∧ kv.2.idx < g.nT := by
  have hm : kv.2 ∈ sortTerms F.ts.terms.values := by
    unfold sortTerms
    rw [mem_sortByKey]
    exact List.mem_map.mpr ⟨kv, hmem, rfl⟩
  obtain ⟨j, hj⟩ := List.getElem?_of_mem hm
  have hpos := sortTerms_pos F.tinv j kv.2 hj
  subst hpos
  rw [F.terms, setReachTerms_getElem?, hj, F.nT_eq, F.tinv.count]
  exact ⟨_, rfl, F.tinv.named _ hmem, rfl, F.tinv.bound _ hmem⟩

theorem Facts.resName_isSym {fx : Fixes} {f : File} {g : Grammar} (F : Facts fx f g) {n : Name} {s : Nat}
    (h : resName F.ts.terms F.st.nts n = some s) : IsSym g n s := by
  unfold resName at h
  cases ht : F.ts.terms.get? n with
  | some t =>
    rw [ht] at h
    cases h
    obtain ⟨y, hy, hn, _, hlt⟩ := F.term_at_mem (SMap.mem_of_get? ht)
    exact Or.inl ⟨hlt, y, hy, hn⟩
  | none =>
    rw [ht] at h
    cases hf : findNt F.st.nts n with
    | none =>
      rw [hf] at h
      cases h
    | some nt =>
      rw [hf] at h
      simp only [Option.map_some] at h
      cases h
      obtain ⟨y, hy, hyi, hn, _⟩ := F.nt_at hf
      refine Or.inr ⟨F.nT_eq ▸ Nat.le_add_left _ _, y, ?_, hn⟩
      rw [F.nT_eq, Nat.add_sub_cancel, ← hyi]
      exact hy

theorem Facts.resName_nt {fx : Fixes} {f : File} {g : Grammar} (F : Facts fx f g) {n : Name} {nt : NonTerm}
    (hn : n ∉ kSTOP :: termNamesOf f) (hf : findNt F.st.nts n = some nt) :
    resName F.ts.terms F.st.nts n = some (g.nT + nt.idx) := by
  unfold resName
  rw [SMap.get?_none_iff.mpr fun hk => hn ((F.tkeys n).mp hk), hf, F.nT_eq, Nat.add_comm]
  rfl

theorem mem_file_uses {fx : Fixes} {f : File} {u : Use} :
    u ∈ f.uses fx ↔ u ∈ rulesUses (staticMatches fx f) f.ruleList := by
  unfold File.uses File.sugarRefs File.allAssigns File.allAlts rulesUses ruleUses altUses
  simp only [List.mem_flatMap, List.mem_map, List.mem_filter]
  constructor
  · rintro ⟨r, ⟨a, ⟨⟨alt, ⟨rule, hrule, halt⟩, ha⟩, hf⟩, rfl⟩, hu⟩
    exact ⟨rule, hrule, alt, halt, a, ⟨ha, hf⟩, hu⟩
  · rintro ⟨rule, hrule, alt, halt, a, ⟨ha, hf⟩, hu⟩
    exact ⟨a.symRef, ⟨a, ⟨⟨alt, ⟨rule, hrule, halt⟩, ha⟩, hf⟩, rfl⟩, hu⟩

theorem Facts.ruleList {fx : Fixes} {f : File} {g : Grammar} (F : Facts fx f g) : f.ruleList = F.r0 :: F.rs := by
  simp [File.ruleList, F.hrules]

theorem Facts.mem_uses {fx : Fixes} {f : File} {g : Grammar} (F : Facts fx f g) {u : Use} :
    u ∈ f.uses fx ↔ u ∈ rulesUses (ctxOf fx f F.ts).matchesMap (F.r0 :: F.rs) := by
  rw [mem_file_uses, staticMatches_eq F.hts, F.ruleList]
  rfl

theorem Facts.mem_ruleNames {fx : Fixes} {f : File} {g : Grammar} (F : Facts fx f g) {n : Name} :
    n ∈ ruleNamesOf f ↔ ∃ r, r ∈ F.r0 :: F.rs ∧ r.name = n := by
  unfold ruleNamesOf
  rw [F.hrules]
  exact List.mem_map

theorem Facts.ruleName_mem {fx : Fixes} {f : File} {g : Grammar} (F : Facts fx f g) {r : Rule}
    (h : r ∈ F.r0 :: F.rs) : r.name ∈ ruleNamesOf f :=
  F.mem_ruleNames.mpr ⟨r, h, rfl⟩

end Rustemo.Front
