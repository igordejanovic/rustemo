import Rustemo.Proofs.FrontNts
import Rustemo.Proofs.FrontIdx
/-!
`nt.productions` lists, in order, exactly the indices of the productions whose `nonterminal` is
`nt.idx` — although helper rules are created (and their productions numbered) in the middle of the
alternative that uses them, while that alternative's own production is pushed first.
-/
namespace Rustemo.Front

def idxsOf (l : List GProd) (i : Nat) : List Nat := (l.filter (fun p => p.nonterminal == i)).map (·.idx)

theorem idxsOf_append (l m : List GProd) (i : Nat) : idxsOf (l ++ m) i = idxsOf l i ++ idxsOf m i := by
  unfold idxsOf
  rw [List.filter_append, List.map_append]

theorem idxsOf_none {l : List GProd} {i : Nat} (h : ∀ p, p ∈ l → p.nonterminal ≠ i) : idxsOf l i = [] := by
  unfold idxsOf
  rw [List.filter_eq_nil_iff.mpr]
  · rfl
  · intro p hp
    simpa using h p hp

theorem idxsOf_single (p : GProd) (i : Nat) : idxsOf [p] i = if p.nonterminal = i then [p.idx] else [] := by
  unfold idxsOf
  by_cases h : p.nonterminal = i <;> simp [h]

def Exact (nts : List NonTerm) (prods : List GProd) : Prop := ∀ nt, nt ∈ nts → nt.prods = idxsOf prods nt.idx

def Owned (prods : List GProd) (N : Nat) : Prop := ∀ p, p ∈ prods → p.nonterminal < N

theorem Owned.append {l m : List GProd} {N : Nat} (hl : Owned l N) (hm : Owned m N) : Owned (l ++ m) N :=
  List.forall_mem_append.mpr ⟨hl, hm⟩

theorem Owned.mono {l : List GProd} {N M : Nat} (h : Owned l N) (hle : N ≤ M) : Owned l M :=
  fun p hp => Nat.lt_of_lt_of_le (h p hp) hle

theorem Exact.snoc {nts : List NonTerm} {prods ps : List GProd} {nt : NonTerm} (he : Exact nts prods)
    (hnew : ∀ x, x ∈ nts → x.idx ≠ nt.idx) (hfree : ∀ p, p ∈ prods → p.nonterminal ≠ nt.idx)
    (hps : ∀ p, p ∈ ps → p.nonterminal = nt.idx) (hl : nt.prods = ps.map (·.idx)) :
    Exact (nts ++ [nt]) (prods ++ ps) := by
  intro y hy
  rw [idxsOf_append]
  rcases List.mem_append.mp hy with hm | hm
  · rw [he y hm, idxsOf_none fun p hp e => hnew y hm (e.symm.trans (hps p hp)), List.append_nil]
  · rw [List.mem_singleton.mp hm, idxsOf_none hfree, hl, List.nil_append]
    unfold idxsOf
    rw [List.filter_eq_self.mpr fun p hp => by simpa using hps p hp]


/-- state while one alternative is processed; `P0`, `N0` = productions / nonterminal counter at its start -/
structure AccExact (P0 : List GProd) (N0 : Nat) (s : Acc) : Prop where
  exact : Exact s.1.nts (P0 ++ s.2)
  pending : ∀ p, p ∈ s.2 → N0 ≤ p.nonterminal ∧ p.nonterminal < s.1.nextNt
  mono : N0 ≤ s.1.nextNt

theorem closed_exact (fx : Fixes) (pend : Option (Name × Nat)) (P0 : List GProd) (N0 : Nat) (u : Use)
    (hown : Owned P0 N0) (hp : ∀ n r, pend = some (n, r) → u.helper fx ≠ n) :
    Closed fx (fun s => NtsInv pend s.1 ∧ AccExact P0 N0 s) u := by
  intro s ⟨hi, he⟩ habs
  refine ⟨closed_ntsInv fx pend u hp s hi habs, ?_⟩
  rw [createUse_absent fx u habs]
  refine ⟨?_, List.forall_mem_append.mpr ⟨fun p hp => ⟨(he.pending p hp).1, Nat.lt_succ_of_lt (he.pending p hp).2⟩,
    List.forall_mem_cons.mpr ⟨⟨he.mono, Nat.lt_succ_self _⟩, List.forall_mem_singleton.mpr ⟨he.mono, Nat.lt_succ_self _⟩⟩⟩,
    Nat.le_succ_of_le he.mono⟩
  show Exact (s.1.nts ++ [_]) (P0 ++ (s.2 ++ _))
  rw [← List.append_assoc]
  refine he.exact.snoc (fun x hx => Nat.ne_of_lt (hi.bound x hx)) (fun p hp => Nat.ne_of_lt ?_)
    (List.forall_mem_cons.mpr ⟨rfl, List.forall_mem_singleton.mpr rfl⟩) rfl
  rcases List.mem_append.mp hp with hp | hp
  · exact Nat.lt_of_lt_of_le (hown p hp) he.mono
  · exact (he.pending p hp).2

/-- exactness between alternatives; with a reservation `(n, r)` no production belongs to `r` yet -/
structure XExact (pend : Option (Name × Nat)) (st : XSt) : Prop where
  exact : Exact st.nts st.prods
  owned : Owned st.prods st.nextNt
  fresh : ∀ n r, pend = some (n, r) → ∀ p, p ∈ st.prods → p.nonterminal ≠ r

theorem AltDid.xexact {cx : Ctx} {rule : Rule} {ntIdx j : Nat} {alt : Alt} {st st' : XSt} {rhs : List RAssign} {s : Acc}
    {pend : Option (Name × Nat)} (d : AltDid cx rule ntIdx j alt st rhs s st') (c : AltCall cx pend st rule ntIdx alt)
    (hx : XExact pend st) : XExact none st' := by
  have he0 : AccExact st.prods st.nextNt (({ st with nextProd := st.nextProd + 1 } : XSt), []) :=
    ⟨by simpa using hx.exact, by simp, Nat.le_refl _⟩
  obtain ⟨hI, hE⟩ := d.pres (P := fun s => NtsInv pend s.1 ∧ AccExact st.prods st.nextNt s)
    (fun u hu => closed_exact cx.fx pend st.prods st.nextNt u hx.owned (c.helper_ne hu)) ⟨c.inv.reserveProd, he0⟩
  have hpendNo : ∀ p, p ∈ s.2 → p.nonterminal ≠ ntIdx :=
    fun p hp => Nat.ne_of_gt (Nat.lt_of_lt_of_le c.idx_lt (hE.pending p hp).1)
  have hprods : ∀ i, idxsOf st'.prods i =
      if i = ntIdx then idxsOf st.prods i ++ [st.nextProd] else idxsOf (st.prods ++ s.2) i := by
    intro i
    rw [d.prods_eq, idxsOf_append, idxsOf_append, idxsOf_single, idxsOf_append]
    show _ ++ (if ntIdx = i then [st.nextProd] else []) ++ _ = _
    by_cases hi' : i = ntIdx
    · subst hi'
      rw [if_pos rfl, if_pos rfl, idxsOf_none hpendNo, List.append_nil]
    · rw [if_neg hi', if_neg fun e => hi' e.symm, List.append_nil]
  refine ⟨fun y hy => ?_, ?_, nofun⟩
  · rw [hprods]
    rcases (d.mid c).mem_registerAlt (d.nts ▸ hy) with
      ⟨hm, _, hne⟩ | ⟨_, hyi, ⟨x, hxm, _, hxi, hpr⟩ | ⟨hq, _, hpr⟩⟩
    · rw [if_neg hne]
      exact hE.exact y hm
    · rw [hyi, if_pos rfl, hpr, hE.exact x hxm, idxsOf_append, hxi, idxsOf_none hpendNo, List.append_nil]
    · rw [hyi, if_pos rfl, hpr, idxsOf_none (hx.fresh rule.name ntIdx hq)]
      rfl
  · show Owned st'.prods st'.nextNt
    rw [d.prods_eq, d.nextNt]
    exact ((hx.owned.mono hE.mono).append (List.forall_mem_singleton.mpr (Nat.lt_of_lt_of_le c.idx_lt hE.mono))).append
      fun p hp => (hE.pending p hp).2

theorem createAug_exact {a b : Name} {st : XSt} (hi : NtsInv none st) (hx : XExact none st)
    (habs : a ∉ ntNames st.nts) : XExact none (createAug a b st) := by
  rw [createAug_absent habs]
  exact ⟨hx.exact.snoc (fun x hx' => Nat.ne_of_lt (hi.bound x hx')) (fun p hp => Nat.ne_of_lt (hx.owned p hp))
      (List.forall_mem_singleton.mpr rfl) rfl,
    (hx.owned.mono (Nat.le_succ _)).append (List.forall_mem_singleton.mpr (Nat.lt_succ_self _)), nofun⟩

theorem xst0_exact : XExact none xst0 := by
  refine ⟨?_, ?_, fun n r e => by cases e⟩
  · intro nt hnt
    simp [xst0] at hnt
    subst hnt
    rfl
  · intro p hp
    simp [xst0] at hp

end Rustemo.Front
