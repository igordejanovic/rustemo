import Rustemo.Model.Front
/-!
# Example ASTs (witnesses of the findings, non-vacuity instances) used by `Props/C09.lean`

Each `def` is the File AST of the grammar text in its doc comment (as `tools/gramtext.py` renders it).
-/
namespace Rustemo.Front.Ex

def tA : TermRule := { name := nm "Ta", recog := some (.str (nm "a")) }
def tB : TermRule := { name := nm "Tb", recog := some (.str (nm "b")) }
def tC : TermRule := { name := nm "Tc", recog := some (.str (nm "c")) }

/-- a plain reference -/
def rf (n : String) : Assign := .ref { gsym := some (.name (nm n)), rep := none }
/-- a reference with repetition sugar -/
def rp (n : String) (op : RepOp) (sep : Option String) : Assign :=
  .ref { gsym := some (.name (nm n)), rep := some { op := op, mods := sep.map (fun s => [nm s]) } }
def alt (as : List Assign) (ms : List MetaItem := []) : Alt := { assigns := as, metas := ms }
def rule (n : String) (alts : List Alt) (ms : List MetaItem := []) : Rule := { name := nm n, alts := alts, metas := ms }
def file (rs : List Rule) (ts : List TermRule := [tA, tB, tC]) : File := { rules := some rs, terms := some ts }

/-- `E {right}: E Tb E {left} | Ta;` (F2) -/
def fF2 : File := file [rule "E" [alt [rf "E", rf "Tb", rf "E"] [.kw .left], alt [rf "Ta"]] [.kw .right]]

/-- `E {left}: E Tb E {right} | Ta;` (the direction the repository's own test checks) -/
def fF2ok : File := file [rule "E" [alt [rf "E", rf "Tb", rf "E"] [.kw .right], alt [rf "Ta"]] [.kw .left]]

/-- `S: Ta+[Tb] Tc Ta+;` (F5) -/
def fF5 : File := file [rule "S" [alt [rp "Ta" .oneOrMore (some "Tb"), rf "Tc", rp "Ta" .oneOrMore none]]]

/-- `S: A+ A1; A1: Tb; A: Ta;` (F5b: a user rule named like the helper) -/
def fF5b : File := file [rule "S" [alt [rp "A" .oneOrMore none, rf "A1"]], rule "A1" [alt [rf "Tb"]],
  rule "A" [alt [rf "Ta"]]]

/-- `S: A1 B; A1: Tb A+; A: Ta; B: Ta;` (a rule that is its own helper; a later rule is referenced) -/
def fSelf : File := file [rule "S" [alt [rf "A1", rf "B"]], rule "A1" [alt [rf "Tb", rp "A" .oneOrMore none]],
  rule "A" [alt [rf "Ta"]], rule "B" [alt [rf "Ta"]]]

/-- `A1: Tb A+; A: Ta;` (a rule that is its own helper, without a later reference) -/
def fSelf2 : File := file [rule "A1" [alt [rf "Tb", rp "A" .oneOrMore none]], rule "A" [alt [rf "Ta"]]]

/-- `S: a=EMPTY Ta;` (F18) -/
def fF18 : File := file [rule "S" [alt [.plain (nm "a") { gsym := some (.name kEMPTY), rep := none }, rf "Ta"]]]

/-- `S {99999999999}: Ta;` (F9) -/
def fBigInt : File := file [rule "S" [alt [rf "Ta"]] [.prio 99999999999]]

/-- `terminals Ta: 'a';` (F9) -/
def fTermsOnly : File := { rules := none, terms := some [tA] }

/-- `S: (Ta Tb) Ta;` (F9) -/
def fGroup : File := file [rule "S" [alt [.ref { gsym := none, rep := none }, rf "Ta"]]]

/-- `S: (Ta Tb)+ Ta;` (F9) -/
def fGroupRep : File :=
  file [rule "S" [alt [.ref { gsym := none, rep := some { op := .oneOrMore, mods := none } }, rf "Ta"]]]

/-- `S: Ta*! Tb;` (F9) -/
def fGreedy : File := file [rule "S" [alt [rp "Ta" .zeroOrMoreGreedy none, rf "Tb"]]]

/-- `S: Ta+[Tb, Tc];` (F9) -/
def fMods : File :=
  file [rule "S" [alt [.ref { gsym := some (.name (nm "Ta")), rep := some { op := .oneOrMore, mods := some [nm "Tb", nm "Tc"] } }]]]

/-- `S: Ta; terminals Ta: 'a'; Ta: 'b';` (duplicate terminal) -/
def fDupTerm : File := file [rule "S" [alt [rf "Ta"]]] [tA, { name := nm "Ta", recog := some (.str (nm "b")) }]

/-- `S: Ta; terminals Ta: 'a'; Ta: 'b'; Ta: 'c'; Ta: 'd'; Ta: 'e';` (five times the same terminal) -/
def fDupTerm5 : File := file [rule "S" [alt [rf "Ta"]]] [tA, tA, tA, tA, tA]

/-- an AST no text produces: an empty rule list -/
def fNoRule : File := { rules := some [], terms := some [tA] }

/-- an AST no text produces: the first rule has no alternative and is named like a terminal -/
def fNoAlt : File := { rules := some [{ name := nm "Ta", alts := [] }], terms := some [tA] }

/-- a regular grammar with all kinds of sugar:
`S: A? Tb*[Tc] x=Ta+ | 'c' A?; A: Ta Tb+[Tc] {left, 5} | EMPTY;` -/
def fGood : File := file
  [rule "S" [alt [rp "A" .optional none, rp "Tb" .zeroOrMore (some "Tc"),
                  .plain (nm "x") { gsym := some (.name (nm "Ta")), rep := some { op := .oneOrMore, mods := none } }],
             alt [.ref { gsym := some (.str (nm "c")), rep := none }, rp "A" .optional none]],
   rule "A" [alt [rf "Ta", rp "Tb" .oneOrMore (some "Tc")] [.kw .left, .prio 5],
             alt [.ref { gsym := some (.name kEMPTY), rep := none }]] [.kw .nops]]

/-- `S: Ta {A.b};` (a production kind that is no identifier) -/
def fKind : File := file [rule "S" [alt [rf "Ta"] [.kind (nm "A.b")]]]

/-- `S {fn}: Ta;` (an inherited kind that is a Rust keyword) -/
def fKindKw : File := file [rule "S" [alt [rf "Ta"]] [.kind (nm "fn")]]

/-- `S: Ta STOP;` -/
def fStop : File := file [rule "S" [alt [rf "Ta", rf "STOP"]]]
/-- `S: Ta STOP*;` (the reference is in the helper rule `STOP1: STOP1 STOP | STOP`) -/
def fStopSugar : File := file [rule "S" [alt [rf "Ta", rp "STOP" .zeroOrMore none]]]
/-- `S: Ta+[STOP];` -/
def fStopSep : File := file [rule "S" [alt [rp "Ta" .oneOrMore (some "STOP")]]]
/-- `S: x=STOP Ta;` -/
def fStopNamed : File := file [rule "S" [alt [.plain (nm "x") { gsym := some (.name kSTOP), rep := none }, rf "Ta"]]]

/-- the variant of `/repo` at HEAD 3da879f (= `Front.repoVariant` when this was written): everything repaired
except the separator in helper names (F5), the integer literal (F9), helper-name clashes (F5b) and the reserved
names (N3, N3b) -/
def v3da879f : Fixes :=
  { emptyErr := true, assocOne := true, groupErr := true, greedyErr := true, modifiersErr := true,
    noRulesErr := true, dupNameErr := true, kindIdentErr := true, stopRefErr := true }

/-- `S: Ta; AUG: Tb;` (N3: a rule named like the builder's own nonterminal) -/
def fReserved : File := file [rule "S" [alt [rf "Ta"]], rule "AUG" [alt [rf "Tb"]]]

/-- `S: Ta+ Tb;` with a terminal `Ta1: 'z'` (F5b: the terminal captures the sugar) -/
def fTermCapture : File := file [rule "S" [alt [rp "Ta" .oneOrMore none, rf "Tb"]]]
  [tA, tB, { name := nm "Ta1", recog := some (.str (nm "z")) }]

/-- `S: X A1; A1: Tb; X: A+; A: Ta;` (F5b: the user rule is declared BEFORE the sugar use) -/
def fF5bBefore : File := file [rule "S" [alt [rf "X", rf "A1"]], rule "A1" [alt [rf "Tb"]],
  rule "X" [alt [rp "A" .oneOrMore none]], rule "A" [alt [rf "Ta"]]]

/-- `S: Ta AUG;` (a reference to the augmented nonterminal: hung the table builder before repo 898fba1) -/
def fAugRef : File := file [rule "S" [alt [rf "Ta", rf "AUG"]]]
/-- `S: Ta AUG*;`, `S: Ta+[AUGL];`, `S: x=AUG Ta;` -/
def fAugSugar : File := file [rule "S" [alt [rf "Ta", rp "AUG" .zeroOrMore none]]]
def fAugSep : File := file [rule "S" [alt [rp "Ta" .oneOrMore (some "AUGL")]]]
def fAugNamed : File := file [rule "S" [alt [.plain (nm "x") { gsym := some (.name kAUG), rep := none }, rf "Ta"]]]

/-- the variant of `/repo` after C09-fix-8 and C09-fix-9 (= `Front.repoVariant` when this was written):
everything repaired except the separator in helper names (F5), the integer literal (F9) and references to
`AUG` / `AUGL` (N3b) -/
def vFix9 : Fixes := { v3da879f with reservedErr := true, helperClashErr := true }

def useOpt : Use := { base := nm "A", kind := .opt, sep := none }
def useOne : Use := { base := nm "Ta", kind := .one, sep := none }
def useOneSep : Use := { base := nm "Tb", kind := .one, sep := some (nm "Tc") }
def useZero : Use := { base := nm "Tb", kind := .zero, sep := some (nm "Tc") }

end Rustemo.Front.Ex
