import Rustemo.Model.Front.Doc
import Rustemo.Proofs.FrontSat
/-!
Everything `desugar_regex` does to the builder state is `ensureUses` on the uses of the reference: a sequence of
`createUse` calls, each on a helper name that is absent.  So the state after a right-hand side is `ensureUses` on
`altUses`, and a predicate `Closed` under those calls survives (`ensureUses_pres`).  The words in which the later modules and
`Props/C09` state what the rule phase has done are defined here too: `RefSafe`, `rhsView`, `codeAltSyms`, `Done`, `allDone`.
-/
namespace Rustemo.Front

variable {cx : Ctx} {rule : Rule} {st st' : XSt}

structure RefSafe (fx : Fixes) (r : SymRef) : Prop where
  group : fx.groupErr = true ∨ r.isGroup = false
  greedy : fx.greedyErr = true ∨ r.isGreedy = false
  mods : fx.modifiersErr = true ∨ r.badModifiers = false

def AltSafe (fx : Fixes) (alt : Alt) : Prop := ∀ a, a ∈ alt.assigns → RefSafe fx a.symRef

def RuleSafe (fx : Fixes) (r : Rule) : Prop := ∀ a, a ∈ r.alts → AltSafe fx a

def ntNames (nts : List NonTerm) : List Name := nts.map (·.name)
def ntIdxs (nts : List NonTerm) : List Nat := nts.map (·.idx)

section Names
variable {nts : List NonTerm} {n : Name}

theorem ntNames_append (l m : List NonTerm) : ntNames (l ++ m) = ntNames l ++ ntNames m := List.map_append

theorem ntIdxs_append (l m : List NonTerm) : ntIdxs (l ++ m) = ntIdxs l ++ ntIdxs m := List.map_append

theorem findNt_some {nt : NonTerm} (h : findNt nts n = some nt) : nt ∈ nts ∧ nt.name = n := by
  unfold findNt at h
  have h2 := List.find?_some h
  exact ⟨List.mem_of_find?_eq_some h, eq_of_beq h2⟩

/-! "The map has an entry of name `n`" is `n ∈ ntNames nts` in every statement; the model's two ways of asking are
translated here. -/

theorem hasNt_true : hasNt nts n = true ↔ n ∈ ntNames nts := by
  unfold hasNt findNt ntNames
  rw [List.find?_isSome, List.mem_map]
  exact ⟨fun ⟨x, hx, e⟩ => ⟨x, hx, eq_of_beq e⟩, fun ⟨x, hx, e⟩ => ⟨x, hx, beq_iff_eq.mpr e⟩⟩

theorem findNt_of_mem (h : n ∈ ntNames nts) : ∃ nt, findNt nts n = some nt :=
  Option.isSome_iff_exists.mp (hasNt_true.mpr h)

theorem mem_of_findNt {nt : NonTerm} (h : findNt nts n = some nt) : n ∈ ntNames nts :=
  hasNt_true.mp (congrArg Option.isSome h)

theorem findNt_eq_none : findNt nts n = none ↔ n ∉ ntNames nts :=
  ⟨fun h hm => (findNt_of_mem hm).elim fun _ e => (nomatch h.symm.trans e),
    fun h => Option.not_isSome_iff_eq_none.mp fun e => h (hasNt_true.mp e)⟩

end Names

section NtMap
variable {nts : List NonTerm}

/-- `nonterminals.entry(name).or_insert_with(|| NonTerminal { idx, annotation, .. })` followed by `productions.push(k)`:
the map after an alternative of the rule `name` is registered -/
def registerAlt (name : Name) (ntIdx : Nat) (ann : Option Name) (k : Nat) (nts : List NonTerm) : List NonTerm :=
  if hasNt nts name then pushProd name k nts
  else nts ++ [{ idx := ntIdx, name := name, annotation := ann, prods := [k] }]

theorem insertNt_absent {nt : NonTerm} (h : nt.name ∉ ntNames nts) : insertNt nt nts = nts ++ [nt] := by
  unfold insertNt
  rw [if_neg fun e => h (hasNt_true.mp e)]

theorem findNt_append_left {n : Name} {nt : NonTerm} (x : List NonTerm)
    (h : findNt nts n = some nt) : findNt (nts ++ x) n = some nt := by
  unfold findNt at *
  rw [List.find?_append, h]
  rfl

theorem findNt_append_right {n : Name} (x : List NonTerm)
    (h : findNt nts n = none) : findNt (nts ++ x) n = findNt x n := by
  unfold findNt at *
  rw [List.find?_append, h]
  rfl

theorem map_pushProd {β : Type} (f : NonTerm → β) (hf : ∀ x p, f { x with prods := p } = f x) (n : Name) (k : Nat)
    (nts : List NonTerm) : (pushProd n k nts).map f = nts.map f := by
  unfold pushProd
  rw [List.map_map]
  refine List.map_congr_left fun x _ => ?_
  dsimp only [Function.comp]
  split
  · exact hf x _
  · rfl

theorem ntNames_pushProd (n : Name) (k : Nat) (nts : List NonTerm) : ntNames (pushProd n k nts) = ntNames nts :=
  map_pushProd _ (fun _ _ => rfl) n k nts

theorem ntIdxs_pushProd (n : Name) (k : Nat) (nts : List NonTerm) : ntIdxs (pushProd n k nts) = ntIdxs nts :=
  map_pushProd _ (fun _ _ => rfl) n k nts

theorem mem_pushProd_eq {n : Name} {k : Nat} {y : NonTerm} (h : y ∈ pushProd n k nts) :
    ∃ x, x ∈ nts ∧ y = if x.name == n then { x with prods := x.prods ++ [k] } else x := by
  obtain ⟨x, hx, e⟩ := List.mem_map.mp h
  exact ⟨x, hx, e.symm⟩

theorem findNt_pushProd {n m : Name} {k : Nat} {nt : NonTerm} (h : findNt nts m = some nt) :
    findNt (pushProd n k nts) m = some (if nt.name == n then { nt with prods := nt.prods ++ [k] } else nt) := by
  unfold findNt pushProd at *
  have hf : ((fun x : NonTerm => x.name == m) ∘ fun x => if x.name == n then { x with prods := x.prods ++ [k] } else x) =
      fun x => x.name == m := funext fun x => by
    dsimp only [Function.comp]
    split <;> rfl
  rw [List.find?_map, hf, h]
  rfl

theorem registerAlt_of_mem {name : Name} {i k : Nat} {ann : Option Name} (h : name ∈ ntNames nts) :
    registerAlt name i ann k nts = pushProd name k nts :=
  if_pos (hasNt_true.mpr h)

theorem registerAlt_of_not_mem {name : Name} {i k : Nat} {ann : Option Name} (h : name ∉ ntNames nts) :
    registerAlt name i ann k nts = nts ++ [{ idx := i, name := name, annotation := ann, prods := [k] }] :=
  if_neg fun e => h (hasNt_true.mp e)

theorem findNt_registerAlt {name n : Name} {k i : Nat} {ann : Option Name} {nt : NonTerm} (h : findNt nts n = some nt) :
    findNt (registerAlt name i ann k nts) n =
      some (if nt.name == name then { nt with prods := nt.prods ++ [k] } else nt) := by
  by_cases hn : name ∈ ntNames nts
  · rw [registerAlt_of_mem hn]
    exact findNt_pushProd h
  · have hne : ¬ (nt.name == name) = true := fun e => hn (eq_of_beq e ▸ List.mem_map_of_mem (findNt_some h).1)
    rw [registerAlt_of_not_mem hn, findNt_append_left _ h, if_neg hne]

end NtMap

def Closed (fx : Fixes) (P : Acc → Prop) (u : Use) : Prop :=
  ∀ s, P s → u.helper fx ∉ ntNames s.1.nts → P (createUse fx u s)

/-- the names in the two productions of the helper of a use: `X | EMPTY`, `H [sep] X | X`, `X1 | EMPTY` -/
def Use.names0 (fx : Fixes) (u : Use) : List Name :=
  match u.kind with
  | .opt => [u.base]
  | .one =>
    match u.sep with
    | none => [u.helper fx, u.base]
    | some sp => [u.helper fx, sp, u.base]
  | .zero => [helperName fx u.base .oneOrMore u.sep]

def Use.names1 (u : Use) : List Name :=
  match u.kind with
  | .opt => []
  | .one => [u.base]
  | .zero => []

def Use.ann (u : Use) : Option Name :=
  match u.kind with
  | .opt => none
  | _ => some kVec

theorem clashCheck_ok {cx : Ctx} {n : Name} {x : Unit} (_h : clashCheck cx n = .ok x) : True := trivial

theorem createUse_spec (fx : Fixes) (u : Use) (s : Acc) :
    createUse fx u s =
      createHelper (u.helper fx) u.ann ((u.names0 fx).map resolving) (u.names1.map resolving) s := by
  unfold createUse Use.ann Use.names0 Use.names1
  cases u.kind with
  | opt => rfl
  | zero => rfl
  | one => cases u.sep <;> rfl

theorem not_mem_of_guard {l : List Name} {n : Name} {b : Bool} (h : ¬ (b && l.contains n) = true) (hb : b = true) :
    n ∉ l :=
  fun hm => h (by rw [hb, List.contains_iff_mem.mpr hm]; rfl)

/-- what `check_generated_name` leaves of a helper name in a variant that has the check -/
def ClashFree (cx : Ctx) (n : Name) : Prop := cx.fx.helperClashErr = true → n ∉ cx.ruleNames ∧ n ∉ cx.termNames

theorem clashCheck_sat {S : Prop} (cx : Ctx) (n : Name) : Sat S (fun _ => ClashFree cx n) (clashCheck cx n) := by
  unfold clashCheck
  refine Sat.guard fun h => Sat.ok fun hf => ?_
  rw [hf, Bool.true_and, Bool.or_eq_true, not_or] at h
  exact ⟨fun hm => h.1 (List.contains_iff_mem.mpr hm), fun hm => h.2 (List.contains_iff_mem.mpr hm)⟩

theorem ensureUse_sat {S : Prop} (u : Use) (s : Acc) :
    Sat S (fun s' => ClashFree cx (u.helper cx.fx) ∧
      s' = if hasNt s.1.nts (u.helper cx.fx) then s else createUse cx.fx u s) (ensureUse cx u s) := by
  unfold ensureUse
  exact (clashCheck_sat cx _).bind fun _ _ h => Sat.ok ⟨h, rfl⟩

theorem ensureUses_sat {S : Prop} (us : List Use) (s : Acc) : Sat S (fun _ => True) (ensureUses cx us s) := by
  induction us generalizing s with
  | nil => trivial
  | cons u us ih => exact (ensureUse_sat u s).bind fun s1 _ _ => ih s1

theorem ensureUses_append (us vs : List Use) (s : Acc) :
    ensureUses cx (us ++ vs) s = (ensureUses cx us s).bind (ensureUses cx vs) := by
  induction us generalizing s with
  | nil => rfl
  | cons u us ih =>
    show (ensureUse cx u s).bind _ = ((ensureUse cx u s).bind _).bind _
    rw [Outcome.bind_assoc]
    exact congrArg _ (funext ih)

theorem ensureUses_pres {P : Acc → Prop} {us : List Use} {s s' : Acc}
    (hc : ∀ u, u ∈ us → Closed cx.fx P u) (hs : P s) (h : ensureUses cx us s = .ok s') : P s' := by
  induction us generalizing s with
  | nil =>
    cases h
    exact hs
  | cons u us ih =>
    obtain ⟨s1, h1, h2⟩ := Outcome.bind_eq_ok.mp h
    refine ih (fun v hv => hc v (List.mem_cons_of_mem _ hv)) ?_ h2
    rw [((ensureUse_sat (S := True) u s).of_ok h1).2]
    split
    · exact hs
    · exact hc u List.mem_cons_self s hs fun e => ‹¬ _› (hasNt_true.mpr e)

theorem modifierOf_sat {fx : Fixes} {r : SymRef} {o : RepOper} (hr : r.rep = some o) :
    Sat (fx.modifiersErr = true ∨ r.badModifiers = false) (fun sep => r.sep = sep) (modifierOf fx o.mods) := by
  unfold SymRef.badModifiers SymRef.sep
  simp only [hr]
  generalize o.mods = ms
  match ms with
  | none => exact Sat.ok rfl
  | some [m] => exact Sat.guard fun _ => Sat.ok rfl
  | some [] => exact Sat.errOrPanic fun h => nomatch h
  | some (_ :: _ :: _) => exact Sat.errOrPanic fun h => by simp at h

theorem refType_sat {r : SymRef} :
    Sat (cx.fx.groupErr = true ∨ r.isGroup = false) (fun x => r.baseName cx.matchesMap = some x) (refType cx r.gsym) := by
  unfold SymRef.isGroup SymRef.baseName
  cases r.gsym with
  | none => exact Sat.errOrPanic fun h => nomatch h
  | some g =>
    cases g with
    | name n => exact Sat.ok rfl
    | str s =>
      show Sat _ (fun x => (cx.matchesMap.get? s).map (·.1) = some x) (match cx.matchesMap.get? s with
        | some (tn, _) => Outcome.ok tn
        | none => Outcome.err (Diag.undefSugar s))
      cases cx.matchesMap.get? s with
      | none => trivial
      | some p => exact Sat.ok rfl

theorem desugarOp_sat {op : RepOp} (x : Name) (sep : Option Name) (s : Acc) :
    Sat (cx.fx.greedyErr = true ∨ op.greedy = false)
      (fun r => op.greedy = false ∧ r.1 = opName cx.fx x sep op ∧ ensureUses cx (opUses x sep op) s = .ok r.2)
      (desugarOp cx op x sep s) := by
  cases op with
  | zeroOrMore | oneOrMore | optional => exact (ensureUses_sat _ s).bind fun _ h _ => Sat.ok ⟨rfl, rfl, h⟩
  | zeroOrMoreGreedy | oneOrMoreGreedy | optionalGreedy =>
    exact Sat.errOrPanic fun h => nomatch h

theorem refHelper_eq {fx : Fixes} {mm : SMap (Name × Nat)} {r : SymRef} {o : RepOper} {x : Name}
    (hr : r.rep = some o) (hb : r.baseName mm = some x) (hg : o.op.greedy = false) :
    Doc.refHelper fx mm r = some (opName fx x r.sep o.op) := by
  unfold Doc.refHelper
  rw [hr, hb]
  obtain ⟨op, _⟩ := o
  cases op <;> first | rfl | cases hg

theorem desugar_sat (r : SymRef) (s : Acc) :
    Sat (RefSafe cx.fx r) (fun res => res.1 = Doc.refSym cx.fx cx.matchesMap r ∧ (res.1 = none → r.gsym = none) ∧
      ensureUses cx (r.uses cx.matchesMap) s = .ok res.2) (desugar cx r s) := by
  unfold desugar Doc.refSym SymRef.uses
  cases hr : r.rep with
  | none => exact Sat.ok ⟨rfl, id, rfl⟩
  | some o =>
    refine ((modifierOf_sat hr).safe RefSafe.mods).bind fun sep _ hsep => ?_
    subst hsep
    refine (refType_sat.safe RefSafe.group).bind fun x _ hb => ?_
    refine ((desugarOp_sat x r.sep s).safe fun hs => ?_).bind fun res _ ⟨hg, hn, hu⟩ => ?_
    · have := hs.greedy
      unfold SymRef.isGreedy at this
      rwa [hr] at this
    · show _ = (Doc.refHelper cx.fx cx.matchesMap r).map GSym.name ∧ _ ∧
        ensureUses cx (match some o, r.baseName cx.matchesMap with | some o, some x => opUses x r.sep o.op | _, _ => []) s = _
      rw [refHelper_eq hr hb hg, hb, hn]
      exact ⟨rfl, nofun, hu⟩

theorem unwrapGsym_sat {fx : Fixes} {o : Option GSym} :
    Sat (fx.groupErr = true ∨ o ≠ none) (fun g => o = some g) (unwrapGsym fx o) := by
  cases o with
  | some g => exact Sat.ok rfl
  | none => exact Sat.errOrPanic fun h => h rfl

def rhsView (l : List RAssign) : List (Option Name × Option GSym × Bool) :=
  l.map fun a => (a.name, some a.sym, a.isBool)

theorem assignStep_sat (a : Assign) (s : Acc) :
    Sat (RefSafe cx.fx a.symRef) (fun res => ensureUses cx (a.symRef.uses cx.matchesMap) s = .ok res.2 ∧
      (res.1.name, some res.1.sym, res.1.isBool) = (a.aname, Doc.refSym cx.fx cx.matchesMap a.symRef, a.isBool) ∧
      res.1.index = none)
      (assignStep cx a s) := by
  unfold assignStep
  refine Sat.guard fun _ => Sat.guard fun _ => Sat.bind (P := fun _ => True) ?_ fun _ _ _ =>
    (desugar_sat _ s).bind fun d _ ⟨hsym, hnone, hu⟩ =>
      (unwrapGsym_sat.safe fun hs => hs.group.imp_right fun hg e => ?_).bind fun g _ hg =>
        Sat.ok ⟨hu, hg ▸ hsym ▸ rfl, rfl⟩
  · split
    · split <;> trivial
    · trivial
  · unfold SymRef.isGroup at hg
    rw [hnone e] at hg
    cases hg

theorem rhsSteps_sat (as : List Assign) (s : Acc) :
    Sat (∀ a, a ∈ as → RefSafe cx.fx a.symRef)
      (fun res => ensureUses cx (as.flatMap fun a => a.symRef.uses cx.matchesMap) s = .ok res.2 ∧
        rhsView res.1 = as.map (fun x => (x.aname, Doc.refSym cx.fx cx.matchesMap x.symRef, x.isBool)) ∧
        ∀ r, r ∈ res.1 → r.index = none)
      (rhsSteps cx as s) := by
  induction as generalizing s with
  | nil => exact Sat.ok ⟨rfl, rfl, nofun⟩
  | cons a as ih =>
    refine ((assignStep_sat a s).safe fun h => h a List.mem_cons_self).bind fun r1 _ ⟨u1, v1, i1⟩ =>
      ((ih r1.2).safe fun h b hb => h b (List.mem_cons_of_mem _ hb)).bind fun r2 _ ⟨u2, v2, i2⟩ =>
        Sat.ok ⟨?_, congr (congrArg List.cons v1) v2, List.forall_mem_cons.mpr ⟨i1, i2⟩⟩
    rw [List.flatMap_cons, ensureUses_append, u1]
    exact u2

/-- the symbols of an alternative as the CODE filters them (only the unnamed `EMPTY` is dropped) -/
def codeAltSyms (fx : Fixes) (mm : SMap (Name × Nat)) (a : Alt) : List (Option Name × Option GSym × Bool) :=
  (a.assigns.filter (fun x => !x.isUnnamedEmpty)).map fun x => (x.aname, Doc.refSym fx mm x.symRef, x.isBool)

/-- What one `altStep` did: its helpers are created from the state with the alternative's own production index
reserved (giving `s`); then its production (no symbol index yet) is pushed before theirs and entered in the rule's list. -/
structure AltDid (cx : Ctx) (rule : Rule) (ntIdx j : Nat) (alt : Alt) (st : XSt) (rhs : List RAssign) (s : Acc)
    (st' : XSt) : Prop where
  uses : ensureUses cx (altUses cx.matchesMap alt) ({ st with nextProd := st.nextProd + 1 }, []) = .ok s
  view : rhsView rhs = codeAltSyms cx.fx cx.matchesMap alt
  index : ∀ r, r ∈ rhs → r.index = none
  kind : cx.fx.kindIdentErr = true →
    ∀ k, kindOfMeta (inherit cx.fx (metaOf rule.metas) (metaOf alt.metas)) = some k → identOk k = true
  nts : st'.nts = registerAlt rule.name ntIdx rule.annotation st.nextProd s.1.nts
  prods_of_acc : st'.prods =
    s.1.prods ++ [mkProd st.nextProd ntIdx j rhs (inherit cx.fx (metaOf rule.metas) (metaOf alt.metas))] ++ s.2
  nextNt : st'.nextNt = s.1.nextNt
  nextProd : st'.nextProd = s.1.nextProd

theorem kindCheck_sat {S : Prop} (fx : Fixes) (m : Meta) :
    Sat S (fun _ => fx.kindIdentErr = true → ∀ k, kindOfMeta m = some k → identOk k = true) (kindCheck fx m) := by
  unfold kindCheck
  split
  · rename_i k hk
    refine Sat.guard fun h => Sat.ok fun hf k' hk' => ?_
    cases hk.symm.trans hk'
    rw [hf, Bool.true_and] at h
    simpa using h
  · rename_i hk
    exact Sat.ok fun _ k hk' => nomatch hk.symm.trans hk'

theorem altStep_sat (ntIdx j : Nat) (alt : Alt) (st : XSt) :
    Sat (AltSafe cx.fx alt) (fun st' => ∃ rhs s, AltDid cx rule ntIdx j alt st rhs s st')
      (altStep cx rule ntIdx j alt st) := by
  unfold altStep
  exact ((rhsSteps_sat _ _).safe fun h a ha => h a (List.mem_filter.mp ha).1).bind fun res _ ⟨hu, hv, hi⟩ =>
    (kindCheck_sat _ _).bind fun _ _ hk => Sat.ok ⟨res.1, res.2, hu, hv, hi, hk, rfl, rfl, rfl, rfl⟩

section AltDid
variable {ntIdx j : Nat} {alt : Alt} {rhs : List RAssign} {s : Acc} (d : AltDid cx rule ntIdx j alt st rhs s st')
include d

theorem AltDid.pres {P : Acc → Prop} (hc : ∀ u, u ∈ altUses cx.matchesMap alt → Closed cx.fx P u)
    (h0 : P ({ st with nextProd := st.nextProd + 1 }, [])) : P s :=
  ensureUses_pres hc h0 d.uses

/-- helper productions wait in the second component -/
theorem AltDid.acc_prods : s.1.prods = st.prods :=
  d.pres (P := fun s => s.1.prods = st.prods) (fun u _ s hs _ => (createUse_spec cx.fx u s).symm ▸ hs) rfl

theorem AltDid.prods_eq : st'.prods =
    st.prods ++ [mkProd st.nextProd ntIdx j rhs (inherit cx.fx (metaOf rule.metas) (metaOf alt.metas))] ++ s.2 :=
  d.acc_prods ▸ d.prods_of_acc

end AltDid

theorem ruleCheck_sat {S : Prop} (cx : Ctx) (r : Rule) :
    Sat S (fun _ => identOk r.name = true ∧ (cx.fx.reservedErr = true → r.name ∉ [kEMPTY, kAUG, kAUGL]) ∧
      (cx.fx.dupNameErr = true → r.name ∉ cx.termNames)) (ruleCheck cx r) := by
  unfold ruleCheck
  exact Sat.guard fun h1 => Sat.guard fun h2 => Sat.guard fun h3 =>
    Sat.ok ⟨by simpa using h1, not_mem_of_guard h2, not_mem_of_guard h3⟩

/-- (rule, position in the rule, alternative) -/
abbrev Done := Rule × Nat × Alt

def doneAlts (rule : Rule) : Nat → List Alt → List Done
  | _, [] => []
  | j, a :: as => (rule, j, a) :: doneAlts rule (j + 1) as

def allDone (rules : List Rule) : List Done := rules.flatMap fun r => doneAlts r 0 r.alts

theorem mem_doneAlts {a : Alt} {alts : List Alt} (ha : a ∈ alts) (j : Nat) : ∃ k, (rule, k, a) ∈ doneAlts rule j alts := by
  induction alts generalizing j with
  | nil => cases ha
  | cons b bs ih =>
    rcases List.mem_cons.mp ha with rfl | ha
    · exact ⟨j, List.mem_cons_self⟩
    · exact (ih ha (j + 1)).imp fun _ h => List.mem_cons_of_mem _ h

theorem mem_allDone {rules : List Rule} {r : Rule} {a : Alt} (hr : r ∈ rules) (ha : a ∈ r.alts) :
    ∃ k, (r, k, a) ∈ allDone rules :=
  (mem_doneAlts ha 0).imp fun _ h => List.mem_flatMap.mpr ⟨r, hr, h⟩

end Rustemo.Front
