import Rustemo.Proofs.FrontGen
/-!
`prods[i].idx = i`: `get_prod_idx` hands out consecutive indices; the user production of an alternative reserves its
index before the helper productions of its sugar are created and is pushed before them.
-/
namespace Rustemo.Front

variable {cx : Ctx} {rule : Rule} {st st' : XSt}

def IdxSeq (l : List GProd) (start : Nat) : Prop := ∀ i p, l[i]? = some p → p.idx = start + i

theorem IdxSeq.nil (a : Nat) : IdxSeq [] a := by
  intro i p h
  simp at h

theorem IdxSeq.append {l m : List GProd} {a : Nat} (hl : IdxSeq l a) (hm : IdxSeq m (a + l.length)) :
    IdxSeq (l ++ m) a := by
  intro i p h
  rcases Nat.lt_or_ge i l.length with hi | hi
  · exact hl i p (List.getElem?_append_left hi ▸ h)
  · rw [hm (i - l.length) p (List.getElem?_append_right hi ▸ h), Nat.add_assoc, Nat.add_sub_cancel' hi]

theorem IdxSeq.single (p : GProd) : IdxSeq [p] p.idx := by
  intro i q h
  cases i with
  | zero =>
    cases h
    rfl
  | succ i => exact nomatch h

theorem IdxSeq.append_of_eq {l m : List GProd} {a b : Nat} (hl : IdxSeq l a) (hm : IdxSeq m b)
    (e : b = a + l.length) : IdxSeq (l ++ m) a :=
  hl.append (e ▸ hm)

theorem IdxSeq.pair (p q : GProd) (h : q.idx = p.idx + 1) : IdxSeq [p, q] p.idx :=
  (IdxSeq.single p).append_of_eq (IdxSeq.single q) h

/-- `k` is the index reserved for the alternative's own production: the waiting helper productions are numbered from
`k + 1` -/
def AccIdx (k : Nat) (s : Acc) : Prop := IdxSeq s.2 (k + 1) ∧ s.1.nextProd = k + 1 + s.2.length

theorem closed_accIdx (fx : Fixes) (k : Nat) (u : Use) : Closed fx (AccIdx k) u := by
  intro s ⟨h3, h4⟩ _
  rw [createUse_spec]
  refine ⟨h3.append_of_eq (IdxSeq.pair _ _ rfl) h4, ?_⟩
  show s.1.nextProd + 2 = k + 1 + (s.2 ++ [_, _]).length
  rw [List.length_append, h4]
  rfl

def XIdx (st : XSt) : Prop := st.prods.length = st.nextProd ∧ IdxSeq st.prods 0

theorem AltDid.xidx {nt j : Nat} {alt : Alt} {rhs : List RAssign} {s : Acc}
    (d : AltDid cx rule nt j alt st rhs s st') (hx : XIdx st) : XIdx st' := by
  obtain ⟨a3, a4⟩ := d.pres (fun u _ => closed_accIdx cx.fx st.nextProd u) ⟨IdxSeq.nil _, rfl⟩
  constructor
  · rw [d.prods_eq, d.nextProd, List.length_append, List.length_append, hx.1, a4]
    rfl
  · rw [d.prods_eq]
    refine (hx.2.append_of_eq (IdxSeq.single _) ?_).append_of_eq a3 ?_
    · show st.nextProd = 0 + st.prods.length
      rw [hx.1, Nat.zero_add]
    · rw [List.length_append, hx.1, Nat.zero_add]
      rfl

theorem createAug_xidx {a b : Name} {st : XSt} (hx : XIdx st) : XIdx (createAug a b st) := by
  constructor
  · show (st.prods ++ [_]).length = st.nextProd + 1
    rw [List.length_append, hx.1]
    rfl
  · exact hx.2.append_of_eq (IdxSeq.single _) (by show st.nextProd = 0 + _; rw [hx.1, Nat.zero_add])

theorem xst0_xidx : XIdx xst0 := ⟨rfl, IdxSeq.nil _⟩

/-- a production as the rule phase leaves it (helper rules, `AUG` and `AUGL` have no kind) -/
def RawProd (cx : Ctx) (p : GProd) : Prop :=
  (∀ a, a ∈ p.rhs → a.index = none) ∧ (cx.fx.kindIdentErr = true → ∀ k, p.kind = some k → identOk k = true)

theorem rawProd_names (cx : Ctx) (i nt j : Nat) (ns : List Name) :
    RawProd cx { idx := i, nonterminal := nt, ntidx := j, rhs := ns.map resolving } := by
  refine ⟨fun a ha => ?_, fun _ _ hk => nomatch hk⟩
  obtain ⟨_, _, rfl⟩ := List.mem_map.mp ha
  rfl

theorem closed_rawProd (cx : Ctx) (u : Use) : Closed cx.fx (fun s => ∀ p, p ∈ s.2 → RawProd cx p) u := by
  intro s hs _
  rw [createUse_spec]
  exact List.forall_mem_append.mpr ⟨hs, List.forall_mem_cons.mpr ⟨rawProd_names cx _ _ _ (u.names0 cx.fx),
    List.forall_mem_singleton.mpr (rawProd_names cx _ _ _ u.names1)⟩⟩

theorem AltDid.rawProd {nt j : Nat} {alt : Alt} {rhs : List RAssign} {s : Acc}
    (d : AltDid cx rule nt j alt st rhs s st') (hx : ∀ p, p ∈ st.prods → RawProd cx p) :
    ∀ p, p ∈ st'.prods → RawProd cx p := by
  rw [d.prods_eq]
  exact List.forall_mem_append.mpr ⟨List.forall_mem_append.mpr ⟨hx, List.forall_mem_singleton.mpr ⟨d.index, d.kind⟩⟩,
    d.pres (fun u _ => closed_rawProd cx u) (fun _ hp => absurd hp List.not_mem_nil)⟩

theorem createAug_rawProd {a b : Name} {st : XSt} (hs : ∀ p, p ∈ st.prods → RawProd cx p) :
    ∀ p, p ∈ (createAug a b st).prods → RawProd cx p :=
  List.forall_mem_append.mpr ⟨hs, List.forall_mem_singleton.mpr (rawProd_names cx _ _ _ [b])⟩

end Rustemo.Front
