import Rustemo.Model.Front.Doc
/-! `Derives g H w` for a nonterminal `H` that has exactly the right-hand sides documented for a repetition helper. -/
namespace Rustemo.Front

variable {g : Grammar}

theorem SeqOf.mono {D D' : Nat → List Nat → Prop} (h : ∀ X u, D X u → D' X u) {Xs w : List Nat}
    (hs : SeqOf D Xs w) : SeqOf D' Xs w := by
  induction Xs generalizing w with
  | nil => exact hs
  | cons X Xs ih =>
    obtain ⟨u, v, e, hd, hs⟩ := hs
    exact ⟨u, v, e, h _ _ hd, ih hs⟩

theorem DerivesN.succ (g : Grammar) {n X : Nat} {w : List Nat} (h : DerivesN g n X w) : DerivesN g (n + 1) X w := by
  induction n generalizing X w with
  | zero => exact h.elim
  | succ n ih =>
    rcases h with h | ⟨p, hp, hl, hs⟩
    · exact Or.inl h
    · exact Or.inr ⟨p, hp, hl, SeqOf.mono (fun _ _ hd => ih hd) hs⟩

theorem DerivesN.mono (g : Grammar) {n m X w} (hnm : n ≤ m) (h : DerivesN g n X w) : DerivesN g m X w := by
  induction hnm with
  | refl => exact h
  | step _ ih => exact DerivesN.succ g ih

theorem Derives.term {X : Nat} (h : X < g.nT) : Derives g X [X] :=
  ⟨1, Or.inl ⟨h, rfl⟩⟩

theorem SeqOf.bound {Xs w : List Nat} (hs : SeqOf (Derives g) Xs w) :
    ∃ n, SeqOf (DerivesN g n) Xs w := by
  induction Xs generalizing w with
  | nil => exact ⟨0, hs⟩
  | cons X Xs ih =>
    obtain ⟨u, v, e, ⟨n, hd⟩, hs⟩ := hs
    obtain ⟨m, hm⟩ := ih hs
    exact ⟨max n m, u, v, e, DerivesN.mono g (Nat.le_max_left _ _) hd,
      SeqOf.mono (fun _ _ hx => DerivesN.mono g (Nat.le_max_right _ _) hx) hm⟩

theorem derives_nonterm_iff {X : Nat} {w : List Nat} (hX : g.nT ≤ X) :
    Derives g X w ↔ ∃ p, p ∈ g.prods ∧ g.nT + p.nonterminal = X ∧ DerivesSeq g p.rhsSyms w := by
  constructor
  · rintro ⟨n, h⟩
    cases n with
    | zero => exact h.elim
    | succ n =>
      rcases h with ⟨hlt, _⟩ | ⟨p, hp, hl, hs⟩
      · exact absurd hlt (Nat.not_lt.mpr hX)
      · exact ⟨p, hp, hl, SeqOf.mono (fun _ _ hd => ⟨n, hd⟩) hs⟩
  · rintro ⟨p, hp, hl, hs⟩
    obtain ⟨n, hn⟩ := SeqOf.bound hs
    exact ⟨n + 1, Or.inr ⟨p, hp, hl, hn⟩⟩

theorem derives_term_iff {g : Grammar} {X : Nat} {w : List Nat} (hX : X < g.nT) :
    Derives g X w ↔ w = [X] := by
  constructor
  · rintro ⟨n, h⟩
    cases n with
    | zero => exact h.elim
    | succ n =>
      rcases h with ⟨_, e⟩ | ⟨p, _, hl, _⟩
      · exact e
      · omega
  · rintro rfl
    exact Derives.term hX

theorem derivesSeq_nil {g : Grammar} {w : List Nat} : DerivesSeq g [] w ↔ w = [] := Iff.rfl

theorem derivesSeq_cons {g : Grammar} {X : Nat} {Xs : List Nat} {w : List Nat} :
    DerivesSeq g (X :: Xs) w ↔ ∃ u v, w = u ++ v ∧ Derives g X u ∧ DerivesSeq g Xs v := Iff.rfl

theorem derivesSeq_single {X : Nat} {w : List Nat} : DerivesSeq g [X] w ↔ Derives g X w := by
  constructor
  · rintro ⟨u, v, e, hd, hv⟩
    have : v = [] := hv
    subst this
    simpa [e] using hd
  · intro h
    exact ⟨w, [], by simp, h, rfl⟩

theorem derivesSeq_append {Xs Ys : List Nat} {w : List Nat} :
    DerivesSeq g (Xs ++ Ys) w ↔ ∃ u v, w = u ++ v ∧ DerivesSeq g Xs u ∧ DerivesSeq g Ys v := by
  induction Xs generalizing w with
  | nil =>
    constructor
    · intro h
      exact ⟨[], w, rfl, rfl, h⟩
    · rintro ⟨u, v, e, hu, hv⟩
      have : u = [] := hu
      subst this
      exact e ▸ hv
  | cons X Xs ih =>
    constructor
    · rintro ⟨u, v, e, hd, hs⟩
      obtain ⟨u', v', e', hu', hv'⟩ := ih.mp hs
      exact ⟨u ++ u', v', by rw [e, e', List.append_assoc], ⟨u, u', rfl, hd, hu'⟩, hv'⟩
    · rintro ⟨uu, v, e, ⟨u, u', e', hd, hu'⟩, hv⟩
      exact ⟨u, u' ++ v, by rw [e, e', List.append_assoc], hd, ih.mpr ⟨u', v, rfl, hu', hv⟩⟩

theorem HasExactly.derives {h : Nat} {rs : List (List Nat)} {r w : List Nat}
    (hx : HasExactly g h rs) (hr : r ∈ rs) (hs : DerivesSeq g r w) : Derives g (g.nT + h) w := by
  obtain ⟨p, hp, hh, e⟩ := hx.2 r hr
  exact (derives_nonterm_iff (Nat.le_add_right _ _)).mpr ⟨p, hp, congrArg (g.nT + ·) hh, e ▸ hs⟩

/-- `H: X | EMPTY` (the helper of `X?`, and of `X*` with `X` its one-or-more helper) -/
theorem derives_opt {h X : Nat} (hx : HasExactly g h [[X], []]) (w : List Nat) :
    Derives g (g.nT + h) w ↔ w = [] ∨ Derives g X w := by
  constructor
  · intro hd
    obtain ⟨p, hp, hl, hs⟩ := (derives_nonterm_iff (Nat.le_add_right _ _)).mp hd
    rcases List.mem_cons.mp (hx.1 p hp (Nat.add_left_cancel hl)) with hr | hr
    · exact Or.inr (derivesSeq_single.mp (hr ▸ hs))
    · rw [List.mem_singleton.mp hr] at hs
      exact Or.inl hs
  · rintro (rfl | hd)
    · exact hx.derives (List.mem_cons_of_mem _ List.mem_cons_self) rfl
    · exact hx.derives List.mem_cons_self (derivesSeq_single.mpr hd)

def joinPairs (u0 : List Nat) (pairs : List (List Nat × List Nat)) : List Nat :=
  u0 ++ (pairs.map fun q => q.1 ++ q.2).flatten

theorem joinPairs_snoc (u0 : List Nat) (pairs : List (List Nat × List Nat)) (s u : List Nat) :
    joinPairs u0 (pairs ++ [(s, u)]) = joinPairs u0 pairs ++ s ++ u := by
  simp [joinPairs, List.append_assoc]

/-- `H: H sep… X | X` (left recursive, `sep…` a possibly empty sequence of separator symbols) -/
theorem derives_one {h X : Nat} {sep : List Nat}
    (hx : HasExactly g h [(g.nT + h) :: (sep ++ [X]), [X]]) (w : List Nat) :
    Derives g (g.nT + h) w ↔
      ∃ u0 pairs, Derives g X u0 ∧ (∀ q, q ∈ pairs → DerivesSeq g sep q.1 ∧ Derives g X q.2) ∧
        w = joinPairs u0 pairs := by
  constructor
  · rintro ⟨n, hn⟩
    induction n generalizing w with
    | zero => exact hn.elim
    | succ n ih =>
      rcases hn with ⟨hlt, _⟩ | ⟨p, hp, hl, hs⟩
      · exact absurd hlt (Nat.not_lt.mpr (Nat.le_add_right _ _))
      · rcases List.mem_cons.mp (hx.1 p hp (Nat.add_left_cancel hl)) with hr | hr
        · -- `H sep… X`: the pairs of the shorter derivation of `H`, and one more
          rw [hr] at hs
          obtain ⟨w1, w2, e, hH, hrest⟩ := hs
          obtain ⟨u0, pairs, hu0, hpairs, e1⟩ := ih w1 hH
          obtain ⟨s, u, e2, hsd, hud⟩ :=
            derivesSeq_append.mp (SeqOf.mono (D' := Derives g) (fun _ _ hd => ⟨n, hd⟩) hrest)
          refine ⟨u0, pairs ++ [(s, u)], hu0, fun q hq => ?_, ?_⟩
          · rcases List.mem_append.mp hq with hq | hq
            · exact hpairs q hq
            · rw [List.mem_singleton.mp hq]
              exact ⟨hsd, derivesSeq_single.mp hud⟩
          · rw [joinPairs_snoc, e, e1, e2, List.append_assoc]
        · rw [List.mem_singleton.mp hr] at hs
          have hd : DerivesSeq g [X] w := SeqOf.mono (fun _ _ hd => ⟨n, hd⟩) hs
          exact ⟨w, [], derivesSeq_single.mp hd, fun _ hq => (nomatch hq), (List.append_nil w).symm⟩
  · rintro ⟨u0, pairs, hu0, hpairs, rfl⟩
    -- build from the left: H ⇒ u0, then append one (s, u) at a time
    have step : ∀ (pairs : List (List Nat × List Nat)) (w0 : List Nat),
        Derives g (g.nT + h) w0 → (∀ q, q ∈ pairs → DerivesSeq g sep q.1 ∧ Derives g X q.2) →
        Derives g (g.nT + h) (w0 ++ (pairs.map fun q => q.1 ++ q.2).flatten) := by
      intro pairs
      induction pairs with
      | nil =>
        intro w0 h0 _
        exact (List.append_nil w0).symm ▸ h0
      | cons q qs ih =>
        intro w0 h0 hq
        have hq0 := hq q List.mem_cons_self
        have h1 : Derives g (g.nT + h) (w0 ++ (q.1 ++ q.2)) :=
          hx.derives List.mem_cons_self ⟨w0, q.1 ++ q.2, rfl, h0,
            derivesSeq_append.mpr ⟨q.1, q.2, rfl, hq0.1, derivesSeq_single.mpr hq0.2⟩⟩
        have := ih (w0 ++ (q.1 ++ q.2)) h1 (fun q' hq' => hq q' (List.mem_cons_of_mem _ hq'))
        rwa [List.append_assoc] at this
    exact step pairs u0
      (hx.derives (List.mem_cons_of_mem _ List.mem_cons_self) (derivesSeq_single.mpr hu0)) hpairs

/-- `A+` without separator -/
theorem derives_one_nosep {h X : Nat}
    (hx : HasExactly g h [[g.nT + h, X], [X]]) (w : List Nat) :
    Derives g (g.nT + h) w ↔ ∃ ws : List (List Nat), ws ≠ [] ∧ (∀ u, u ∈ ws → Derives g X u) ∧ w = ws.flatten := by
  have hx' : HasExactly g h [(g.nT + h) :: (([] : List Nat) ++ [X]), [X]] := by simpa using hx
  rw [derives_one hx']
  constructor
  · rintro ⟨u0, pairs, hu0, hpairs, rfl⟩
    refine ⟨u0 :: pairs.map (·.2), by simp, ?_, ?_⟩
    · intro u hu
      rcases List.mem_cons.mp hu with rfl | hu
      · exact hu0
      · obtain ⟨q, hq, rfl⟩ := List.mem_map.mp hu
        exact (hpairs q hq).2
    · have : ∀ q, q ∈ pairs → q.1 = [] := fun q hq => (hpairs q hq).1
      have e : (pairs.map fun q => q.1 ++ q.2) = pairs.map (·.2) :=
        List.map_congr_left (fun q hq => by simp [this q hq])
      simp [joinPairs, e]
  · rintro ⟨ws, hne, hws, rfl⟩
    cases ws with
    | nil => exact absurd rfl hne
    | cons u0 us =>
      refine ⟨u0, us.map (fun u => ([], u)), hws u0 (by simp), ?_, ?_⟩
      · intro q hq
        obtain ⟨u, hu, rfl⟩ := List.mem_map.mp hq
        exact ⟨rfl, hws u (by simp [hu])⟩
      · simp [joinPairs, List.map_map, Function.comp_def]

/-- `A+[Sep]` -/
theorem derives_one_sep {h X S : Nat}
    (hx : HasExactly g h [[g.nT + h, S, X], [X]]) (w : List Nat) :
    Derives g (g.nT + h) w ↔
      ∃ u0 pairs, Derives g X u0 ∧ (∀ q, q ∈ pairs → Derives g S q.1 ∧ Derives g X q.2) ∧
        w = joinPairs u0 pairs := by
  have hx' : HasExactly g h [(g.nT + h) :: ([S] ++ [X]), [X]] := by simpa using hx
  rw [derives_one hx']
  constructor
  · rintro ⟨u0, pairs, hu0, hp, e⟩
    exact ⟨u0, pairs, hu0, fun q hq => ⟨derivesSeq_single.mp (hp q hq).1, (hp q hq).2⟩, e⟩
  · rintro ⟨u0, pairs, hu0, hp, e⟩
    exact ⟨u0, pairs, hu0, fun q hq => ⟨derivesSeq_single.mpr (hp q hq).1, (hp q hq).2⟩, e⟩

end Rustemo.Front
