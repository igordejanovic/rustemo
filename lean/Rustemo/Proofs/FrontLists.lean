import Rustemo.Model.Front.Build
import Rustemo.Proofs.ListFacts
/-! `sortByKey`: a list with pairwise different keys `< length` is sorted into "position = key" (`sortByKey_pos`). -/
namespace Rustemo.Front

section
variable {α : Type}

theorem insertByKey_perm (key : α → Nat) (t : α) : ∀ l : List α, (insertByKey key t l).Perm (t :: l)
  | [] => .refl _
  | y :: ys => by
    unfold insertByKey
    split
    · exact .refl _
    · exact ((insertByKey_perm key t ys).cons y).trans (.swap ..)

theorem sortByKey_perm (key : α → Nat) : ∀ l : List α, (sortByKey key l).Perm l
  | [] => .refl _
  | y :: ys => (insertByKey_perm key y _).trans ((sortByKey_perm key ys).cons y)

theorem mem_sortByKey (key : α → Nat) (x : α) (l : List α) : x ∈ sortByKey key l ↔ x ∈ l :=
  (sortByKey_perm key l).mem_iff

theorem length_sortByKey (key : α → Nat) (l : List α) : (sortByKey key l).length = l.length :=
  (sortByKey_perm key l).length_eq

def StrictSorted (key : α → Nat) (l : List α) : Prop := l.Pairwise (fun a b => key a < key b)

theorem insertByKey_strict (key : α → Nat) (t : α) (l : List α) (hs : StrictSorted key l)
    (hne : ∀ x, x ∈ l → key x ≠ key t) : StrictSorted key (insertByKey key t l) := by
  induction l with
  | nil => exact List.pairwise_singleton _ _
  | cons y ys ih =>
    unfold insertByKey
    have hs' := List.pairwise_cons.mp hs
    split
    · rename_i hle
      have hlt : key t < key y := Nat.lt_of_le_of_ne hle (fun e => hne y List.mem_cons_self e.symm)
      refine List.pairwise_cons.mpr ⟨fun z hz => ?_, hs⟩
      rcases List.mem_cons.mp hz with rfl | hz
      · exact hlt
      · exact Nat.lt_trans hlt (hs'.1 z hz)
    · rename_i hgt
      refine List.pairwise_cons.mpr ⟨fun z hz => ?_, ih hs'.2 (fun x hx => hne x (List.mem_cons_of_mem _ hx))⟩
      rcases List.mem_cons.mp ((insertByKey_perm key t ys).mem_iff.mp hz) with rfl | hz
      · exact Nat.lt_of_not_le hgt
      · exact hs'.1 z hz

theorem sortByKey_strict (key : α → Nat) (l : List α) (hn : (l.map key).Nodup) :
    StrictSorted key (sortByKey key l) := by
  induction l with
  | nil => exact List.Pairwise.nil
  | cons y ys ih =>
    have hn' := List.nodup_cons.mp (hn : (key y :: ys.map key).Nodup)
    refine insertByKey_strict key y _ (ih hn'.2) fun x hx e => ?_
    exact hn'.1 (e ▸ List.mem_map_of_mem ((mem_sortByKey key x ys).mp hx))

/-- in a strictly increasing list inside `[lo, hi)` the key at position `i` has `i` keys below it and
`length - i - 1` above -/
theorem strict_bounds (key : α → Nat) (l : List α) (lo hi : Nat) (hs : StrictSorted key l)
    (hb : ∀ x, x ∈ l → lo ≤ key x ∧ key x < hi) (i : Nat) (x : α) (h : l[i]? = some x) :
    lo + i ≤ key x ∧ key x + l.length ≤ hi + i := by
  induction l generalizing lo i x with
  | nil => exact nomatch h
  | cons y ys ih =>
    have hs' := List.pairwise_cons.mp hs
    have hy := hb y List.mem_cons_self
    have ih := ih (key y + 1) hs'.2 (fun z hz => ⟨hs'.1 z hz, (hb z (List.mem_cons_of_mem _ hz)).2⟩)
    cases i with
    | zero =>
      cases h
      refine ⟨hy.1, ?_⟩
      -- the next element, if there is one, bounds the rest
      cases ys with
      | nil => exact hy.2
      | cons z zs =>
        have := ih 0 z rfl
        simp only [List.length_cons] at this ⊢
        omega
    | succ i =>
      have := ih i x h
      rw [List.length_cons]
      omega

theorem sortByKey_pos (key : α → Nat) (l : List α) (hn : (l.map key).Nodup) (hb : ∀ x, x ∈ l → key x < l.length)
    (i : Nat) (x : α) (h : (sortByKey key l)[i]? = some x) : key x = i := by
  have := strict_bounds key (sortByKey key l) 0 l.length (sortByKey_strict key l hn)
    (fun z hz => ⟨Nat.zero_le _, hb z ((mem_sortByKey key z l).mp hz)⟩) i x h
  rw [length_sortByKey] at this
  omega
end

theorem mem_sortNts {x : NonTerm} {l : List NonTerm} : x ∈ sortNts l ↔ x ∈ l := mem_sortByKey _ _ _

theorem length_sortNts (l : List NonTerm) : (sortNts l).length = l.length := length_sortByKey _ _

theorem length_sortTerms (terms : SMap Term) : (sortTerms terms.values).length = terms.length :=
  (length_sortByKey _ _).trans (List.length_map _)

end Rustemo.Front
