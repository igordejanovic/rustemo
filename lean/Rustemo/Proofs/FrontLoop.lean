import Rustemo.Proofs.FrontExact
/-!
The walk of the rule phase.  What a predicate on the extraction state owes the rule loop is the record `LoopStep`; one
induction (`ruleSteps_sat`) serves every predicate, and every fact about the state `extract` returns is an instance of it
from the initial state (`extract_sat`).
-/
namespace Rustemo.Front

variable {cx : Ctx} {rule : Rule} {st st' : XSt} {pend : Option (Name × Nat)}

/-- no rule's own sugar generates its name, and every rule has an alternative: then each index handed out gets its
entry (`NtsInv`) -/
def RulesOk (cx : Ctx) (rules : List Rule) : Prop := ∀ r, r ∈ rules → RuleAvoids cx r ∧ r.alts ≠ []

/-- What a predicate `Q pend done st` on the extraction state owes the rule loop over the rule list `rules` (`done`: the
alternatives processed so far, `pend`: the index reserved for a rule that has no entry yet).  The step is given the passed
`ruleCheck`, what the call did (`AltDid`) and, for a rule list that is `RulesOk`, the soundness of the state it was made in
(`AltCall`); on another rule list a reserved index may stay without entry. -/
structure LoopStep (cx : Ctx) (rules : List Rule) (Q : Option (Name × Nat) → List Done → XSt → Prop) : Prop where
  reserve : ∀ done st n, Q none done st → Q (some (n, st.nextNt)) done { st with nextNt := st.nextNt + 1 }
  gap : ∀ r, r ∈ rules → r.alts = [] → ∀ done st, Q none done st → Q none done { st with nextNt := st.nextNt + 1 }
  step : ∀ {r a pend done nt j st rhs s st'}, r ∈ rules → ruleCheck cx r = .ok () → a ∈ r.alts →
    (RulesOk cx rules → AltCall cx pend st r nt a) → AltDid cx r nt j a st rhs s st' → Q pend done st →
    Q none (done ++ [(r, j, a)]) st'

/-- a predicate that reads no reservation owes the step and that it survives an index being taken -/
theorem LoopStep.of_step {rules : List Rule} {Q : List Done → XSt → Prop}
    (hnt : ∀ done st, Q done st → Q done { st with nextNt := st.nextNt + 1 })
    (step : ∀ {r a pend done nt j st rhs s st'}, r ∈ rules → ruleCheck cx r = .ok () → a ∈ r.alts →
      (RulesOk cx rules → AltCall cx pend st r nt a) → AltDid cx r nt j a st rhs s st' → Q done st →
      Q (done ++ [(r, j, a)]) st') : LoopStep cx rules fun _ done st => Q done st :=
  ⟨fun done st _ => hnt done st, fun _ _ _ => hnt, step⟩

section Loop
variable {rules : List Rule} {Q : Option (Name × Nat) → List Done → XSt → Prop} (L : LoopStep cx rules Q)
include L

theorem altSteps_sat {nt : Nat} (a : Alt) (as : List Alt) {j : Nat} {done : List Done} (hr : rule ∈ rules)
    (hc : ruleCheck cx rule = .ok ()) (hsub : ∀ b, b ∈ a :: as → b ∈ rule.alts)
    (hi : RulesOk cx rules → NtsInv pend st ∧ PendFor pend st rule.name nt) (hq : Q pend done st) :
    Sat (∀ b, b ∈ a :: as → AltSafe cx.fx b)
      (fun st' => (RulesOk cx rules → NtsInv none st' ∧ PendFor none st' rule.name nt) ∧
        Q none (done ++ doneAlts rule j (a :: as)) st')
      (altSteps cx rule nt j (a :: as) st) := by
  have call : ∀ {a pend st}, a ∈ rule.alts → (RulesOk cx rules → NtsInv pend st ∧ PendFor pend st rule.name nt) →
      RulesOk cx rules → AltCall cx pend st rule nt a := fun ha hi w => ⟨(hi w).1, (hi w).2, (w rule hr).1 _ ha⟩
  induction as generalizing a j st done pend with
  | nil =>
    have ha := hsub a List.mem_cons_self
    exact ((altStep_sat nt j a st).safe fun h => h a List.mem_cons_self).bind fun st1 _ ⟨rhs, s, d⟩ =>
      Sat.ok ⟨fun w => d.after (call ha hi w), L.step hr hc ha (call ha hi) d hq⟩
  | cons b bs ih =>
    have ha := hsub a List.mem_cons_self
    exact ((altStep_sat nt j a st).safe fun h => h a List.mem_cons_self).bind fun st1 _ ⟨rhs, s, d⟩ =>
      ((ih b (fun x hx => hsub x (List.mem_cons_of_mem _ hx)) (fun w => d.after (call ha hi w))
        (L.step hr hc ha (call ha hi) d hq)).safe fun h x hx => h x (List.mem_cons_of_mem _ hx)).mono
        fun _ h => ⟨h.1, by rw [List.append_assoc] at h; exact h.2⟩

theorem ruleStep_sat {done : List Done} (hr : rule ∈ rules) (hi : RulesOk cx rules → NtsInv none st)
    (hq : Q none done st) :
    Sat (RuleSafe cx.fx rule)
      (fun st' => (RulesOk cx rules → NtsInv none st') ∧ Q none (done ++ doneAlts rule 0 rule.alts) st')
      (ruleStep cx rule st) := by
  unfold ruleStep
  refine (ruleCheck_sat cx rule).bind fun _ hc _ => ?_
  unfold RuleSafe
  cases halts : rule.alts with
  | nil =>
    -- no alternative: the index, if one was taken, stays without entry
    have hno : ¬ RulesOk cx rules := fun w => (w rule hr).2 halts
    split
    · exact Sat.ok ⟨fun w => absurd w hno, (List.append_nil done).symm ▸ hq⟩
    · exact Sat.ok ⟨fun w => absurd w hno, (List.append_nil done).symm ▸ L.gap rule hr halts done st hq⟩
  | cons a as =>
    split
    · rename_i nt hf
      exact (altSteps_sat L a as hr hc (fun _ hb => halts ▸ hb) (fun w => ⟨hi w, nt, hf, rfl⟩) hq).mono
        fun _ h => ⟨fun w => (h.1 w).1, h.2⟩
    · rename_i hf
      exact (altSteps_sat L a as hr hc (fun _ hb => halts ▸ hb) (fun w => ⟨(hi w).reserve hf, rfl⟩)
        (L.reserve done st rule.name hq)).mono fun _ h => ⟨fun w => (h.1 w).1, h.2⟩

theorem ruleSteps_sat {rs : List Rule} {done : List Done} (hsub : ∀ r, r ∈ rs → r ∈ rules)
    (hi : RulesOk cx rules → NtsInv none st) (hq : Q none done st) :
    Sat (∀ r, r ∈ rs → RuleSafe cx.fx r)
      (fun st' => (RulesOk cx rules → NtsInv none st') ∧ Q none (done ++ allDone rs) st') (ruleSteps cx rs st) := by
  induction rs generalizing st done with
  | nil => exact Sat.ok ⟨hi, (List.append_nil done).symm ▸ hq⟩
  | cons r rs ih =>
    exact ((ruleStep_sat L (hsub r List.mem_cons_self) hi hq).safe fun h => h r List.mem_cons_self).bind fun st1 _ h1 =>
      ((ih (fun x hx => hsub x (List.mem_cons_of_mem _ hx)) h1.1 h1.2).safe
        fun h x hx => h x (List.mem_cons_of_mem _ hx)).mono fun _ h => ⟨h.1, by rw [List.append_assoc] at h; exact h.2⟩

end Loop

/-- the state the rule loop starts in: `EMPTY`, `AUG` and, with a layout rule, `AUGL` -/
structure Init (r0 : Rule) (st : XSt) : Prop where
  ntsInv : NtsInv none st
  xidx : XIdx st
  xexact : XExact none st
  rawProd : ∀ cx p, p ∈ st.prods → RawProd cx p
  names : ∀ n, n ∈ ntNames st.nts → n = kEMPTY ∨ n = kAUG ∨ n = kAUGL
  aug : findNt st.nts kAUG = some { idx := 1, name := kAUG, prods := [0] }
  prod0 : st.prods[0]? = some { idx := 0, nonterminal := 1, rhs := [resolving r0.name] }

theorem extract_init (cx : Ctx) (r0 : Rule) (rules : List Rule) :
    ∃ st0, Init r0 st0 ∧ extract cx r0 rules = ruleSteps cx rules st0 := by
  unfold extract
  have n1 : NtsInv none (createAug kAUG r0.name xst0) := createAug_ntsInv xst0_ntsInv aug_no_self
  have x1 : XExact none (createAug kAUG r0.name xst0) := createAug_exact xst0_ntsInv xst0_exact aug_no_self
  have i1 : XIdx (createAug kAUG r0.name xst0) := createAug_xidx xst0_xidx
  have f1 : ∀ cx p, p ∈ (createAug kAUG r0.name xst0).prods → RawProd cx p :=
    fun cx => createAug_rawProd fun _ hp => absurd hp List.not_mem_nil
  split
  · refine ⟨_, ⟨createAug_ntsInv n1 (aug_no_augl _), createAug_xidx i1, createAug_exact n1 x1 (aug_no_augl _),
      fun cx => createAug_rawProd (f1 cx), ?_, rfl, rfl⟩, rfl⟩
    intro n hn
    rw [createAug_absent (aug_no_augl _), ntNames_append, aug_names] at hn
    simpa [ntNames] using hn
  · refine ⟨_, ⟨n1, i1, x1, f1, ?_, rfl, rfl⟩, rfl⟩
    intro n hn
    rw [aug_names] at hn
    rcases List.mem_cons.mp hn with e | hn
    · exact Or.inl e
    · exact Or.inr (Or.inl (List.mem_singleton.mp hn))

theorem extract_sat {cx : Ctx} {r0 : Rule} {rules : List Rule} {Q : Option (Name × Nat) → List Done → XSt → Prop}
    (h0 : ∀ st, Init r0 st → Q none [] st) (L : LoopStep cx rules Q) :
    Sat (∀ r, r ∈ rules → RuleSafe cx.fx r) (fun st' => (RulesOk cx rules → NtsInv none st') ∧ Q none (allDone rules) st')
      (extract cx r0 rules) := by
  obtain ⟨st0, I, e⟩ := extract_init cx r0 rules
  rw [e]
  exact ruleSteps_sat L (done := []) (fun _ hr => hr) (fun _ => I.ntsInv) (h0 st0 I)

section Instances
variable {cx : Ctx} {r0 : Rule} {rules : List Rule} {st : XSt}

theorem extract_xidx (h : extract cx r0 rules = .ok st) : XIdx st :=
  ((extract_sat (Q := fun _ _ st => XIdx st) (fun _ I => I.xidx)
    (.of_step (fun _ _ hq => hq) fun _ _ _ _ d hq => d.xidx hq)).of_ok h).2

theorem extract_rawProd (h : extract cx r0 rules = .ok st) : ∀ p, p ∈ st.prods → RawProd cx p :=
  ((extract_sat (Q := fun _ _ st => ∀ p, p ∈ st.prods → RawProd cx p) (fun _ I => I.rawProd cx)
    (.of_step (fun _ _ hq => hq) fun _ _ _ _ d hq => d.rawProd hq)).of_ok h).2

theorem extract_uses (h : extract cx r0 rules = .ok st) (u : Use) (hu : u ∈ rulesUses cx.matchesMap rules) :
    ClashFree cx (u.helper cx.fx) ∧ u.helper cx.fx ∈ ntNames st.nts := by
  obtain ⟨r, hr, hu⟩ := List.mem_flatMap.mp hu
  obtain ⟨alt, halt, hu⟩ := List.mem_flatMap.mp hu
  obtain ⟨k, hk⟩ := mem_allDone hr halt
  refine ((extract_sat (Q := fun _ done s => ∀ e, e ∈ done → ∀ u, u ∈ altUses cx.matchesMap e.2.2 →
    ClashFree cx (u.helper cx.fx) ∧ u.helper cx.fx ∈ ntNames s.nts)
    (fun _ _ _ he => absurd he List.not_mem_nil)
    (.of_step (fun _ _ hq => hq) fun _ _ _ _ d hq e he v hv => ?_)).of_ok h).2 (r, k, alt) hk u hu
  rcases List.mem_append.mp he with he | he
  · exact ⟨(hq e he v hv).1, d.keeps (hq e he v hv).2⟩
  · rw [List.mem_singleton.mp he] at hv
    exact d.uses_entered v hv

/-! With `helperClashErr` (C09-fix-9): no helper name of a use that reaches the builder is the name of a rule or of a
terminal — the classes `helperCapture` / `selfHelper` are diagnostics, not hypotheses. -/

theorem extract_clashFree (hf : cx.fx.helperClashErr = true) (h : extract cx r0 rules = .ok st) :
    ∀ u, u ∈ rulesUses cx.matchesMap rules → u.helper cx.fx ∉ cx.ruleNames ∧ u.helper cx.fx ∉ cx.termNames :=
  fun u hu => (extract_uses h u hu).1 hf

/-- the checks at the top of the rule loop, for a rule that reached them with an alternative -/
theorem extract_checked (h : extract cx r0 rules = .ok st) {r : Rule} (hr : r ∈ rules) (ha : r.alts ≠ []) :
    identOk r.name = true ∧ (cx.fx.reservedErr = true → r.name ∉ [kEMPTY, kAUG, kAUGL]) ∧
      (cx.fx.dupNameErr = true → r.name ∉ cx.termNames) := by
  obtain ⟨a, ha⟩ := List.exists_mem_of_ne_nil _ ha
  obtain ⟨k, hk⟩ := mem_allDone hr ha
  exact (ruleCheck_sat (S := True) cx r).of_ok
    (((extract_sat (Q := fun _ done _ => ∀ e, e ∈ done → ruleCheck cx e.1 = .ok ())
      (fun _ _ _ he => absurd he List.not_mem_nil) (.of_step (fun _ _ hq => hq) fun _ hc _ _ _ hq e he =>
        (List.mem_append.mp he).elim (hq e) fun he => List.mem_singleton.mp he ▸ hc)).of_ok h).2 _ hk)

theorem extract_rulesOk (hw : RulesOk cx rules) (h : extract cx r0 rules = .ok st) :
    NtsInv none st ∧ XExact none st ∧ kAUG ∈ ntNames st.nts ∧ ∀ r, r ∈ rules → r.name ∈ ntNames st.nts := by
  obtain ⟨hN, hX, hA, hP⟩ := (extract_sat (Q := fun pend done st => XExact pend st ∧ kAUG ∈ ntNames st.nts ∧
      ∀ e, e ∈ done → e.1.name ∈ ntNames st.nts)
    (fun _ I => ⟨I.xexact, mem_of_findNt I.aug, fun _ he => absurd he List.not_mem_nil⟩)
    { reserve := fun _ st _ ⟨hx, hq⟩ => ⟨⟨hx.exact, fun p hp => Nat.lt_succ_of_lt (hx.owned p hp),
        fun _ _ e p hp => by cases e; exact Nat.ne_of_lt (hx.owned p hp)⟩, hq⟩
      gap := fun r hr he => absurd he (hw r hr).2
      step := fun _ _ _ c d hq => ⟨d.xexact (c hw) hq.1, d.keeps hq.2.1, d.entries (c hw) hq.2.2⟩ }).of_ok h
  refine ⟨hN hw, hX, hA, fun r hr => ?_⟩
  obtain ⟨a, ha⟩ := List.exists_mem_of_ne_nil _ (hw r hr).2
  obtain ⟨k, hk⟩ := mem_allDone hr ha
  exact hP _ hk

end Instances

variable {fx : Fixes} {f : File} {S : Prop}

theorem rulePhase_sat (ts : TSt) :
    Sat (f.rules ≠ some [] ∧ ∀ r, r ∈ f.ruleList → RuleSafe fx r)
      (fun xs => (f.rules = none ∧ ¬ fx.noRulesErr = true ∧ xs = ({ nts := [], prods := [], nextNt := 0, nextProd := 0 }, [])) ∨
        ∃ r0 rs, f.rules = some (r0 :: rs) ∧ extract (ctxOf fx f ts) r0 (r0 :: rs) = .ok xs.1 ∧ xs.2 = r0.name)
      (rulePhase fx f ts) := by
  unfold rulePhase
  split
  · exact Sat.guard fun hn => Sat.ok (Or.inl ⟨‹_›, hn, rfl⟩)
  · exact fun hs => hs.1 ‹_›
  · rename_i r0 rs hr
    refine ((extract_sat (Q := fun _ _ _ => True) (fun _ _ => trivial)
      (.of_step (fun _ _ _ => trivial) fun _ _ _ _ _ _ => trivial)).safe fun hs r hrm => hs.2 r ?_).bind
        fun st hst _ => Sat.ok (Or.inr ⟨r0, rs, hr, hst, rfl⟩)
    exact (congrArg (·.getD []) hr : f.ruleList = r0 :: rs) ▸ hrm

end Rustemo.Front
