import Rustemo.Model.Front.Doc
/-!
The laws of `SMap`, the model of the builder's `BTreeMap`s, and meta-data inheritance through them: `inherit` is a fold
of `inheritStep`, so the value of a key after inheritance is the production's own, else the rule's unless `blocked`
(`inherit_get?`).
-/
namespace Rustemo.Front

namespace SMap
variable {α : Type}

@[simp] theorem get?_nil (k : Name) : SMap.get? ([] : SMap α) k = none := rfl

theorem get?_cons (k' : Name) (v : α) (m : SMap α) (k : Name) :
    SMap.get? ((k', v) :: m) k = if k' = k then some v else SMap.get? m k := rfl

theorem get?_insert_self (k : Name) (v : α) : ∀ m : SMap α, (SMap.insert k v m).get? k = some v
  | [] => by simp [SMap.insert, get?_cons]
  | (k', v') :: m => by
    unfold SMap.insert
    by_cases h1 : k = k'
    · simp [h1, get?_cons]
    · by_cases h2 : Name.lt k k' = true
      · simp [h1, h2, get?_cons]
      · have h3 : ¬ k' = k := fun e => h1 e.symm
        simp [h1, h2, get?_cons, h3, get?_insert_self k v m]

theorem get?_insert_ne {k j : Name} (v : α) (h : k ≠ j) : ∀ m : SMap α, (SMap.insert k v m).get? j = m.get? j
  | [] => by simp [SMap.insert, get?_cons, h]
  | (k', v') :: m => by
    unfold SMap.insert
    by_cases h1 : k = k'
    · subst h1
      simp [get?_cons, h]
    · by_cases h2 : Name.lt k k' = true
      · simp [h1, h2, get?_cons, h]
      · simp [h1, h2, get?_cons, get?_insert_ne v h m]

theorem get?_insert (k j : Name) (v : α) (m : SMap α) :
    (SMap.insert k v m).get? j = if k = j then some v else m.get? j := by
  by_cases h : k = j
  · subst h; simp [get?_insert_self]
  · simp [h, get?_insert_ne v h]

theorem contains_eq (m : SMap α) (k : Name) : m.contains k = (m.get? k).isSome := rfl

theorem contains_insert (k j : Name) (v : α) (m : SMap α) :
    (SMap.insert k v m).contains j = (decide (k = j) || m.contains j) := by
  simp only [contains_eq, get?_insert]
  by_cases h : k = j <;> simp [h]

theorem get?_erase_ne {k j : Name} (h : k ≠ j) : ∀ m : SMap α, (m.erase k).get? j = m.get? j
  | [] => rfl
  | (k', v') :: m => by
    unfold SMap.erase
    by_cases h1 : k' = k
    · subst h1
      simp [get?_cons, h]
    · simp [h1, get?_cons, get?_erase_ne h m]

theorem mem_of_get? {k : Name} {v : α} {m : SMap α} (h : m.get? k = some v) : (k, v) ∈ m := by
  induction m with
  | nil => exact nomatch h
  | cons kv m ih =>
    obtain ⟨k', v'⟩ := kv
    rw [get?_cons] at h
    split at h
    · rename_i h1
      cases h
      exact h1 ▸ List.mem_cons_self
    · exact List.mem_cons_of_mem _ (ih h)

theorem get?_none_iff {k : Name} {m : SMap α} : m.get? k = none ↔ k ∉ m.keys := by
  induction m with
  | nil => exact ⟨fun _ h => (nomatch h), fun _ => rfl⟩
  | cons kv m ih =>
    obtain ⟨k', v'⟩ := kv
    show (if k' = k then some v' else SMap.get? m k) = none ↔ k ∉ k' :: SMap.keys m
    rw [List.mem_cons, not_or]
    by_cases h1 : k' = k
    · rw [if_pos h1]
      exact ⟨fun h => (nomatch h), fun h => absurd h1.symm h.1⟩
    · rw [if_neg h1, ih]
      exact ⟨fun h => ⟨fun e => h1 e.symm, h⟩, fun h => h.2⟩

theorem mem_insert {k : Name} {v : α} {a : Name × α} {m : SMap α} (h : a ∈ SMap.insert k v m) :
    a = (k, v) ∨ a ∈ m := by
  induction m with
  | nil => exact Or.inl (List.mem_singleton.mp h)
  | cons kv m ih =>
    unfold SMap.insert at h
    split at h
    · rcases List.mem_cons.mp h with h | h
      · exact Or.inl h
      · exact Or.inr (List.mem_cons_of_mem _ h)
    · split at h
      · exact List.mem_cons.mp h
      · rcases List.mem_cons.mp h with h | h
        · exact Or.inr (h ▸ List.mem_cons_self)
        · exact (ih h).imp_right (List.mem_cons_of_mem _)
theorem insert_perm {k : Name} {v : α} : ∀ {m : SMap α}, k ∉ m.keys → (SMap.insert k v m).Perm ((k, v) :: m)
  | [], _ => .refl _
  | (k', v') :: m, h => by
    have h1 : k ≠ k' := fun e => h (e ▸ List.mem_cons_self)
    unfold SMap.insert
    rw [if_neg h1]
    split
    · exact .refl _
    · exact ((insert_perm fun e => h (List.mem_cons_of_mem _ e)).cons _).trans (.swap ..)

end SMap

def blocked (fx : Fixes) (am : Meta) (k : Name) : Bool :=
  fx.assocOne && isAssocKey k && (am.contains kLeft || am.contains kRight)

def inheritStep (fx : Fixes) (altMeta : Meta) (m : Meta) (kv : Name × ConstVal) : Meta :=
  if (m.get? kv.1).isSome || blocked fx altMeta kv.1 then m else m.insert kv.1 kv.2

theorem inherit_eq (fx : Fixes) (rm am : Meta) : inherit fx rm am = rm.foldl (inheritStep fx am) am := by
  unfold inherit
  congr 1
  funext m kv
  unfold inheritStep blocked
  rw [← SMap.contains_eq]
  cases m.contains kv.1 <;> simp

theorem inheritStep_get? (fx : Fixes) (am m : Meta) (kv : Name × ConstVal) (k : Name) :
    (inheritStep fx am m kv).get? k =
      (m.get? k).or (if kv.1 = k ∧ blocked fx am k = false then some kv.2 else none) := by
  unfold inheritStep
  by_cases hk : kv.1 = k
  · subst hk
    cases hm : m.get? kv.1 <;> cases hb : blocked fx am kv.1 <;> simp [hm, SMap.get?_insert_self]
  · cases hb : ((m.get? kv.1).isSome || blocked fx am kv.1) <;> simp [hk, SMap.get?_insert_ne _ hk]

theorem foldl_inherit_get? (fx : Fixes) (am : Meta) (k : Name) (rm m : Meta) :
    SMap.get? (rm.foldl (inheritStep fx am) m) k = (m.get? k).or (if blocked fx am k then none else rm.get? k) := by
  induction rm generalizing m with
  | nil => cases h : m.get? k <;> simp [h]
  | cons kv rm ih =>
    rw [List.foldl_cons, ih, inheritStep_get?, SMap.get?_cons]
    cases m.get? k <;> cases blocked fx am k <;> by_cases hk : kv.1 = k <;> simp [hk]

theorem inherit_get? (fx : Fixes) (rm am : Meta) (k : Name) :
    (inherit fx rm am).get? k =
      match am.get? k with
      | some v => some v
      | none => if blocked fx am k then none else rm.get? k := by
  rw [inherit_eq, foldl_inherit_get?]
  cases am.get? k <;> rfl

theorem inherit_contains (fx : Fixes) (rm am : Meta) (k : Name) :
    (inherit fx rm am).contains k = (am.contains k || (!blocked fx am k && rm.contains k)) := by
  simp only [SMap.contains_eq, inherit_get?]
  cases am.get? k <;> cases blocked fx am k <;> simp

theorem kLeft_ne_kRight : kLeft ≠ kRight := by decide

theorem assocOfMeta_congr {m m' : Meta} (hl : m.contains kLeft = m'.contains kLeft)
    (hr : m.contains kRight = m'.contains kRight) : assocOfMeta m = assocOfMeta m' := by
  unfold assocOfMeta
  rw [hl, hr]

theorem isAssocKey_left : isAssocKey kLeft = true := by
  unfold isAssocKey
  rw [beq_self_eq_true]
  rfl

theorem isAssocKey_right : isAssocKey kRight = true := by
  unfold isAssocKey
  rw [beq_self_eq_true, Bool.or_true]

theorem inherit_contains_assoc (fx : Fixes) (rm am : Meta) {k : Name} (hk : isAssocKey k = true) :
    (inherit fx rm am).contains k =
      (am.contains k || (!(fx.assocOne && (am.contains kLeft || am.contains kRight)) && rm.contains k)) := by
  rw [inherit_contains]
  unfold blocked
  rw [hk, Bool.and_true]

/-- syntactic form of the F2 class: the production says `left` (only) and the rule says `right` -/
def assocClash (rm am : Meta) : Bool := am.contains kLeft && !am.contains kRight && rm.contains kRight

end Rustemo.Front
