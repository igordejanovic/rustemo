import Rustemo.Proofs.FrontGen
import Rustemo.Proofs.FrontLists
/-!
The point of `NtsInv pend st`: every index handed out by `get_nonterm_idx` belongs to exactly one entry, except the
one reserved (`pend`) for the rule whose first alternative is being processed.  This needs that no helper created
meanwhile has the rule's name (class `helperCapture`); a rule named like its own helper (`A1: … A+ …`) leaves its
index unassigned for good.
-/
namespace Rustemo.Front

variable {cx : Ctx} {rule : Rule} {st st' : XSt}
  {nts : List NonTerm} {pend : Option (Name × Nat)}

/-- `pend = some (n, r)`: rule name `n` has no entry yet, index `r` is reserved for it -/
structure NtsInv (pend : Option (Name × Nat)) (st : XSt) : Prop where
  names : (ntNames st.nts).Nodup
  idxs : (ntIdxs st.nts).Nodup
  bound : ∀ nt, nt ∈ st.nts → nt.idx < st.nextNt
  prodsB : ∀ nt, nt ∈ st.nts → ∀ p, p ∈ nt.prods → p < st.nextProd
  pendOk : match pend with
    | none => st.nts.length = st.nextNt
    | some (n, r) => st.nts.length + 1 = st.nextNt ∧ r < st.nextNt ∧ n ∉ ntNames st.nts ∧ r ∉ ntIdxs st.nts

theorem NtsInv.nextNt_not_mem {st : XSt} (hi : NtsInv pend st) : st.nextNt ∉ ntIdxs st.nts := by
  intro hm
  obtain ⟨x, hx, e⟩ := List.mem_map.mp hm
  exact Nat.lt_irrefl _ (e ▸ hi.bound x hx)

theorem NtsInv.snoc {pend pend' : Option (Name × Nat)} {nt : NonTerm} (hi : NtsInv pend st)
    (hnts : st'.nts = st.nts ++ [nt]) (hname : nt.name ∉ ntNames st.nts) (hidx : nt.idx ∉ ntIdxs st.nts)
    (hnn : st.nextNt ≤ st'.nextNt) (hb : nt.idx < st'.nextNt) (hnp : st.nextProd ≤ st'.nextProd)
    (hp : ∀ p, p ∈ nt.prods → p < st'.nextProd)
    (hpend : match pend' with
      | none => st'.nts.length = st'.nextNt
      | some (n, r) => st'.nts.length + 1 = st'.nextNt ∧ r < st'.nextNt ∧ n ∉ ntNames st'.nts ∧ r ∉ ntIdxs st'.nts) :
    NtsInv pend' st' := by
  have hmem : ∀ x, x ∈ st'.nts → x ∈ st.nts ∨ x = nt := fun x hx => by
    rw [hnts] at hx
    rcases List.mem_append.mp hx with h | h
    · exact Or.inl h
    · exact Or.inr (List.mem_singleton.mp h)
  refine ⟨?_, ?_, fun x hx => ?_, fun x hx p hpx => ?_, hpend⟩
  · rw [hnts, ntNames_append]
    exact (List.perm_append_singleton _ _).nodup_iff.mpr (List.nodup_cons.mpr ⟨hname, hi.names⟩)
  · rw [hnts, ntIdxs_append]
    exact (List.perm_append_singleton _ _).nodup_iff.mpr (List.nodup_cons.mpr ⟨hidx, hi.idxs⟩)
  · rcases hmem x hx with h | rfl
    · exact Nat.lt_of_lt_of_le (hi.bound x h) hnn
    · exact hb
  · rcases hmem x hx with h | rfl
    · exact Nat.lt_of_lt_of_le (hi.prodsB x h p hpx) hnp
    · exact hp p hpx

theorem NtsInv.pushProd {n : Name} {k : Nat} (hi : NtsInv none st)
    (hnts : st'.nts = pushProd n k st.nts) (hnn : st'.nextNt = st.nextNt) (hnp : st.nextProd ≤ st'.nextProd)
    (hk : k < st'.nextProd) : NtsInv none st' := by
  refine ⟨?_, ?_, fun nt hnt => ?_, fun nt hnt p hp => ?_, ?_⟩
  · rw [hnts, ntNames_pushProd]
    exact hi.names
  · rw [hnts, ntIdxs_pushProd]
    exact hi.idxs
  · obtain ⟨x, hx, rfl⟩ := mem_pushProd_eq (hnts ▸ hnt)
    rw [hnn]
    split <;> exact hi.bound x hx
  · obtain ⟨x, hx, rfl⟩ := mem_pushProd_eq (hnts ▸ hnt)
    have hold := fun q hq => Nat.lt_of_lt_of_le (hi.prodsB x hx q hq) hnp
    split at hp
    · rcases List.mem_append.mp hp with hp | hp
      · exact hold p hp
      · exact List.mem_singleton.mp hp ▸ hk
    · exact hold p hp
  · show st'.nts.length = st'.nextNt
    rw [hnts, hnn]
    unfold Front.pushProd
    rw [List.length_map]
    exact hi.pendOk

theorem NtsInv.reserve {st : XSt} {n : Name} (hi : NtsInv none st) (hf : findNt st.nts n = none) :
    NtsInv (some (n, st.nextNt)) ({ st with nextNt := st.nextNt + 1 } : XSt) :=
  ⟨hi.names, hi.idxs, fun nt hnt => Nat.lt_succ_of_lt (hi.bound nt hnt), hi.prodsB,
    congrArg (· + 1) (hi.pendOk : st.nts.length = st.nextNt), Nat.lt_succ_self _, findNt_eq_none.mp hf, hi.nextNt_not_mem⟩

theorem NtsInv.reserveProd {st : XSt} (hi : NtsInv pend st) : NtsInv pend ({ st with nextProd := st.nextProd + 1 } : XSt) :=
  ⟨hi.names, hi.idxs, hi.bound, fun nt hnt p hp => Nat.lt_succ_of_lt (hi.prodsB nt hnt p hp), hi.pendOk⟩

theorem sortNts_pos {st : XSt} (hi : NtsInv none st) (i : Nat) (nt : NonTerm)
    (h : (sortNts st.nts)[i]? = some nt) : nt.idx = i := by
  apply sortByKey_pos NonTerm.idx st.nts hi.idxs _ i nt h
  intro x hx
  have := hi.bound x hx
  have e : st.nts.length = st.nextNt := hi.pendOk
  omega

theorem createUse_absent (fx : Fixes) (u : Use) {s : Acc} (habs : u.helper fx ∉ ntNames s.1.nts) :
    createUse fx u s =
      ({ s.1 with
          nts := s.1.nts ++ [{ idx := s.1.nextNt, name := u.helper fx, annotation := u.ann,
                               prods := [s.1.nextProd, s.1.nextProd + 1] }],
          nextNt := s.1.nextNt + 1, nextProd := s.1.nextProd + 2 },
       s.2 ++ [{ idx := s.1.nextProd, nonterminal := s.1.nextNt, ntidx := 0, rhs := (u.names0 fx).map resolving },
               { idx := s.1.nextProd + 1, nonterminal := s.1.nextNt, ntidx := 1, rhs := u.names1.map resolving }]) := by
  rw [createUse_spec]
  show (({ s.1 with nts := insertNt _ s.1.nts, nextNt := _, nextProd := _ } : XSt), _) = _
  rw [insertNt_absent habs]

theorem createAug_absent {a b : Name} {st : XSt} (habs : a ∉ ntNames st.nts) :
    createAug a b st =
      { nts := st.nts ++ [{ idx := st.nextNt, name := a, prods := [st.nextProd] }],
        prods := st.prods ++ [{ idx := st.nextProd, nonterminal := st.nextNt, rhs := [resolving b] }],
        nextNt := st.nextNt + 1, nextProd := st.nextProd + 1 } := by
  show ({ nts := insertNt _ st.nts, prods := _, nextNt := _, nextProd := _ } : XSt) = _
  rw [insertNt_absent habs]

theorem NtsInv.newEntry {nt : NonTerm} {K : Nat} {P : List GProd} (hi : NtsInv pend st)
    (hname : nt.name ∉ ntNames st.nts) (hp : ∀ n r, pend = some (n, r) → nt.name ≠ n) (hidx : nt.idx = st.nextNt)
    (hK : st.nextProd ≤ K) (hpr : ∀ p, p ∈ nt.prods → p < K) :
    NtsInv pend { nts := st.nts ++ [nt], prods := P, nextNt := st.nextNt + 1, nextProd := K } := by
  refine hi.snoc rfl hname (hidx ▸ hi.nextNt_not_mem) (Nat.le_succ _) (hidx ▸ Nat.lt_succ_self _) hK hpr ?_
  have hlen : (st.nts ++ [nt]).length = st.nts.length + 1 := List.length_append
  have hpo := hi.pendOk
  cases pend with
  | none => exact hlen.trans (congrArg (· + 1) hpo)
  | some q =>
    obtain ⟨h1, h2, h3, h4⟩ := hpo
    refine ⟨hlen ▸ congrArg (· + 1) h1, Nat.lt_succ_of_lt h2, fun hm => ?_, fun hm => ?_⟩
    · rw [ntNames_append] at hm
      exact (List.mem_append.mp hm).elim h3 fun hm => hp _ _ rfl (List.mem_singleton.mp hm).symm
    · rw [ntIdxs_append] at hm
      exact (List.mem_append.mp hm).elim h4 fun hm => Nat.lt_irrefl _ (hidx ▸ List.mem_singleton.mp hm ▸ h2)

theorem closed_ntsInv (fx : Fixes) (pend : Option (Name × Nat)) (u : Use)
    (hp : ∀ n r, pend = some (n, r) → u.helper fx ≠ n) : Closed fx (fun s => NtsInv pend s.1) u := by
  intro s hs habs
  rw [createUse_absent fx u habs]
  exact hs.newEntry habs hp rfl (Nat.le_add_right _ 2) (List.forall_mem_cons.mpr
    ⟨Nat.lt_add_of_pos_right (by decide), List.forall_mem_singleton.mpr (Nat.lt_succ_self _)⟩)

theorem closed_find (fx : Fixes) (n : Name) (nt : NonTerm) (u : Use) :
    Closed fx (fun s => findNt s.1.nts n = some nt) u := by
  intro s hs habs
  rw [createUse_absent fx u habs]
  exact findNt_append_left _ hs

theorem closed_mem (fx : Fixes) (n : Name) (u : Use) : Closed fx (fun s => n ∈ ntNames s.1.nts) u := by
  intro s hs habs
  rw [createUse_absent fx u habs]
  exact ntNames_append .. ▸ List.mem_append_left _ hs

theorem closed_nextProd (fx : Fixes) (k : Nat) (u : Use) : Closed fx (fun s => k ≤ s.1.nextProd) u := by
  intro s hs habs
  rw [createUse_absent fx u habs]
  exact Nat.le_add_right_of_le hs

def AltAvoids (cx : Ctx) (alt : Alt) (n : Name) : Prop :=
  ∀ u, u ∈ altUses cx.matchesMap alt → u.helper cx.fx ≠ n

def RuleAvoids (cx : Ctx) (rule : Rule) : Prop := ∀ a, a ∈ rule.alts → AltAvoids cx a rule.name

def PendFor (pend : Option (Name × Nat)) (st : XSt) (name : Name) (ntIdx : Nat) : Prop :=
  match pend with
  | none => ∃ nt, findNt st.nts name = some nt ∧ nt.idx = ntIdx
  | some q => q = (name, ntIdx)

/-- a call `altStep cx rule ntIdx _ alt st` in a sound state -/
structure AltCall (cx : Ctx) (pend : Option (Name × Nat)) (st : XSt) (rule : Rule) (ntIdx : Nat) (alt : Alt) : Prop where
  inv : NtsInv pend st
  pend : PendFor pend st rule.name ntIdx
  avoids : AltAvoids cx alt rule.name

section AltCall
variable {ntIdx : Nat} {alt : Alt}

theorem AltCall.helper_ne (c : AltCall cx pend st rule ntIdx alt) {u : Use} (hu : u ∈ altUses cx.matchesMap alt)
    (n : Name) (r : Nat) (e : pend = some (n, r)) : u.helper cx.fx ≠ n := by
  subst e
  cases (c.pend : (n, r) = (rule.name, ntIdx))
  exact c.avoids u hu

theorem AltCall.idx_lt (c : AltCall cx pend st rule ntIdx alt) : ntIdx < st.nextNt := by
  have hpend := c.pend
  cases pend with
  | none =>
    obtain ⟨nt0, hf0, e0⟩ := hpend
    exact e0 ▸ c.inv.bound nt0 (findNt_some hf0).1
  | some q =>
    cases (hpend : q = (rule.name, ntIdx))
    exact c.inv.pendOk.2.1

/-- the entries after the alternative is registered: the old ones of other names and indices, and the rule's -/
theorem AltCall.mem_registerAlt {k : Nat} {ann : Option Name} {y : NonTerm} (c : AltCall cx pend st rule ntIdx alt)
    (hy : y ∈ registerAlt rule.name ntIdx ann k st.nts) :
    (y ∈ st.nts ∧ y.name ≠ rule.name ∧ y.idx ≠ ntIdx) ∨
    (y.name = rule.name ∧ y.idx = ntIdx ∧
      ((∃ x, x ∈ st.nts ∧ x.name = rule.name ∧ x.idx = ntIdx ∧ y.prods = x.prods ++ [k]) ∨
       (pend = some (rule.name, ntIdx) ∧ rule.name ∉ ntNames st.nts ∧ y.prods = [k]))) := by
  have hI := c.inv
  have hp := c.pend
  cases pend with
  | some q =>
    cases (hp : q = (rule.name, ntIdx))
    obtain ⟨_, _, c3, c4⟩ := hI.pendOk
    rw [registerAlt_of_not_mem c3] at hy
    rcases List.mem_append.mp hy with hm | hm
    · exact Or.inl ⟨hm, fun e => c3 (e ▸ List.mem_map_of_mem hm), fun e => c4 (e ▸ List.mem_map_of_mem hm)⟩
    · rw [List.mem_singleton.mp hm]
      exact Or.inr ⟨rfl, rfl, Or.inr ⟨rfl, c3, rfl⟩⟩
  | none =>
    obtain ⟨nt0, hF, e0⟩ := hp
    obtain ⟨hm0, hn0⟩ := findNt_some hF
    rw [registerAlt_of_mem (mem_of_findNt hF)] at hy
    obtain ⟨x, hxm, rfl⟩ := mem_pushProd_eq hy
    by_cases hxn : x.name = rule.name
    · cases eq_of_nodup_map NonTerm.name hI.names hxm hm0 (hxn.trans hn0.symm)
      rw [if_pos (beq_iff_eq.mpr hxn)]
      exact Or.inr ⟨hxn, e0, Or.inl ⟨nt0, hm0, hxn, e0, rfl⟩⟩
    · rw [if_neg (by simpa using hxn)]
      exact Or.inl ⟨hxm, hxn, fun e => hxn (eq_of_nodup_map NonTerm.idx hI.idxs hxm hm0 (e.trans e0.symm) ▸ hn0)⟩

end AltCall

theorem ensureUses_each {us : List Use} {s s' : Acc} (h : ensureUses cx us s = .ok s') :
    ∀ u, u ∈ us → ClashFree cx (u.helper cx.fx) ∧ u.helper cx.fx ∈ ntNames s'.1.nts := by
  induction us generalizing s with
  | nil => exact fun _ hu => nomatch hu
  | cons v vs ih =>
    obtain ⟨s1, h1, h2⟩ := Outcome.bind_eq_ok.mp h
    intro u hu
    rcases List.mem_cons.mp hu with rfl | hu
    · obtain ⟨hc, rfl⟩ := (ensureUse_sat (S := True) u s).of_ok h1
      refine ⟨hc, ensureUses_pres (P := fun s => u.helper cx.fx ∈ ntNames s.1.nts) (fun w _ => closed_mem cx.fx _ w) ?_ h2⟩
      split
      · exact hasNt_true.mp ‹_›
      · rw [createUse_absent cx.fx u fun e => ‹¬ _› (hasNt_true.mpr e)]
        exact ntNames_append .. ▸ List.mem_append_right _ List.mem_cons_self
    · exact ih h2 u hu

section AltDid
variable {ntIdx j : Nat} {alt : Alt} {rhs : List RAssign} {s : Acc} (d : AltDid cx rule ntIdx j alt st rhs s st')
include d

/-- the state in which the alternative is registered is as sound as the one `altStep` was called in -/
theorem AltDid.mid (c : AltCall cx pend st rule ntIdx alt) : AltCall cx pend s.1 rule ntIdx alt := by
  refine ⟨d.pres (P := fun s => NtsInv pend s.1) (fun u hu => closed_ntsInv cx.fx pend u (c.helper_ne hu))
    c.inv.reserveProd, ?_, c.avoids⟩
  cases pend with
  | some q => exact c.pend
  | none =>
    obtain ⟨nt0, hf0, e0⟩ := c.pend
    exact ⟨nt0, d.pres (P := fun s => findNt s.1.nts rule.name = some nt0)
      (fun u _ => closed_find cx.fx rule.name nt0 u) hf0, e0⟩

theorem AltDid.after (c : AltCall cx pend st rule ntIdx alt) : NtsInv none st' ∧ PendFor none st' rule.name ntIdx := by
  obtain ⟨hI, hpend', _⟩ := d.mid c
  have hk : st.nextProd < st'.nextProd := d.nextProd ▸ d.pres (P := fun s => st.nextProd + 1 ≤ s.1.nextProd)
    (fun u _ => closed_nextProd cx.fx _ u) (Nat.le_refl _)
  cases pend with
  | some q =>
    cases (hpend' : q = (rule.name, ntIdx))
    obtain ⟨c1, c2, c3, c4⟩ := hI.pendOk
    have hnts := d.nts.trans (registerAlt_of_not_mem c3)
    constructor
    · refine hI.snoc hnts c3 c4 (Nat.le_of_eq d.nextNt.symm) (d.nextNt ▸ c2) (Nat.le_of_eq d.nextProd.symm)
        (fun p hp => ?_) ?_
      · rw [List.mem_singleton.mp hp]
        exact hk
      · show st'.nts.length = st'.nextNt
        rw [hnts, List.length_append, d.nextNt]
        exact c1
    · refine ⟨{ idx := ntIdx, name := rule.name, annotation := rule.annotation, prods := [st.nextProd] }, ?_, rfl⟩
      rw [hnts, findNt_append_right _ (findNt_eq_none.mpr c3)]
      simp [findNt]
  | none =>
    obtain ⟨nt0, hF, hidx0⟩ := hpend'
    have hnts := d.nts.trans (registerAlt_of_mem (mem_of_findNt hF))
    exact ⟨hI.pushProd hnts d.nextNt (Nat.le_of_eq d.nextProd.symm) hk, _, hnts ▸ findNt_pushProd hF,
      by split <;> exact hidx0⟩

theorem AltDid.find {n : Name} {nt : NonTerm} (hf : findNt st.nts n = some nt) :
    findNt st'.nts n = some (if nt.name == rule.name then { nt with prods := nt.prods ++ [st.nextProd] } else nt) :=
  d.nts ▸ findNt_registerAlt (d.pres (P := fun s => findNt s.1.nts n = some nt) (fun u _ => closed_find cx.fx n nt u) hf)

theorem AltDid.keeps {n : Name} (hn : n ∈ ntNames st.nts) : n ∈ ntNames st'.nts := by
  obtain ⟨nt0, hf0⟩ := findNt_of_mem hn
  exact mem_of_findNt (d.find hf0)

theorem AltDid.entries {done : List Done} (c : AltCall cx pend st rule ntIdx alt)
    (hq : ∀ e, e ∈ done → e.1.name ∈ ntNames st.nts) :
    ∀ e, e ∈ done ++ [(rule, j, alt)] → e.1.name ∈ ntNames st'.nts := by
  intro e he
  rcases List.mem_append.mp he with he | he
  · exact d.keeps (hq e he)
  · obtain ⟨_, nt, hf, _⟩ := d.after c
    rw [List.mem_singleton.mp he]
    exact mem_of_findNt hf

theorem AltDid.uses_entered (u : Use) (hu : u ∈ altUses cx.matchesMap alt) :
    ClashFree cx (u.helper cx.fx) ∧ u.helper cx.fx ∈ ntNames st'.nts := by
  obtain ⟨hc, hn⟩ := ensureUses_each d.uses u hu
  obtain ⟨nt0, hf0⟩ := findNt_of_mem hn
  exact ⟨hc, d.nts ▸ mem_of_findNt (findNt_registerAlt hf0)⟩

end AltDid

theorem createAug_ntsInv {a b : Name} {st : XSt} (hi : NtsInv none st) (habs : a ∉ ntNames st.nts) :
    NtsInv none (createAug a b st) := by
  rw [createAug_absent habs]
  exact hi.newEntry habs nofun rfl (Nat.le_succ _) (List.forall_mem_singleton.mpr (Nat.lt_succ_self _))

theorem xst0_ntsInv : NtsInv none xst0 := by
  refine ⟨by simp [xst0, ntNames], by simp [xst0, ntIdxs], ?_, ?_, rfl⟩
  · intro nt hnt
    rw [List.mem_singleton.mp hnt]
    exact Nat.zero_lt_one
  · intro nt hnt p hp
    rw [List.mem_singleton.mp hnt] at hp
    exact nomatch hp

theorem aug_no_self : kAUG ∉ ntNames xst0.nts := by decide +kernel

theorem aug_names (b : Name) : ntNames (createAug kAUG b xst0).nts = [kEMPTY, kAUG] := by
  rw [createAug_absent aug_no_self]
  rfl

theorem aug_no_augl (b : Name) : kAUGL ∉ ntNames (createAug kAUG b xst0).nts := by
  rw [aug_names]
  decide +kernel

end Rustemo.Front
