import Rustemo.Proofs.FrontLoop
/-!
The phases after the rule phase, each followed once: `assemble_sat` and `mark_reachable_symbols`, which
cannot panic on a grammar whose indices are in range (`InRange`, `markReachable_sat`).
-/
namespace Rustemo.Front

variable {fx : Fixes} {f : File} {g : Grammar} {S : Prop}

theorem assemble_sat {terms : SMap Term} {nts : List NonTerm} {prods : List GProd} {sn : Name} :
    Sat (kAUG ∈ ntNames nts ∧ sn ∈ ntNames nts)
      (fun g => ∃ aug start, findNt nts kAUG = some aug ∧ findNt nts sn = some start ∧
        g = { prods := prods, emptyIdx := terms.length, stopIdx := 0, augIdx := terms.length + aug.idx,
              auglIdx := (findNt nts kAUGL).map (fun x => terms.length + x.idx),
              startIdx := terms.length + start.idx,
              terminals := sortTerms terms.values, nonterminals := sortNts nts })
      (assemble terms nts prods sn) := by
  unfold assemble
  cases ha : findNt nts kAUG with
  | none => exact fun hs => findNt_eq_none.mp ha hs.1
  | some aug =>
    cases hn : findNt nts sn with
    | none => exact fun hs => findNt_eq_none.mp hn hs.2
    | some start => exact Sat.ok ⟨aug, start, rfl, rfl, rfl⟩

structure InRange (g : Grammar) : Prop where
  syms : ∀ p, p ∈ g.prods → ∀ s, s ∈ p.rhsSyms → s < g.terminals.length + g.nonterminals.length
  prods : ∀ nt, nt ∈ g.nonterminals → ∀ p, p ∈ nt.prods → p < g.prods.length
  start : g.terminals.length ≤ g.startIdx ∧ g.startIdx - g.terminals.length < g.nonterminals.length

theorem mem_addMark {x y : Nat} {l : List Nat} (h : x ∈ addMark y l) : x = y ∨ x ∈ l := by
  unfold addMark at h
  split at h
  · exact Or.inr h
  · rcases List.mem_append.mp h with h | h
    · exact Or.inr h
    · simp at h
      exact Or.inl h

/-- the marks stay positions of the nonterminal vector -/
def MarksKept (N : Nat) (m m' : Marks) : Prop := (∀ x, x ∈ m.nts → x < N) → ∀ x, x ∈ m'.nts → x < N

theorem markSyms_sat (nT nN : Nat) (syms : List Nat) (m : Marks) :
    Sat (∀ s, s ∈ syms → s < nT + nN) (MarksKept nN m) (markSyms nT nN syms m) := by
  induction syms generalizing m with
  | nil => exact Sat.ok id
  | cons s ss ih =>
    unfold markSyms
    have hss : (∀ x, x ∈ s :: ss → x < nT + nN) → ∀ x, x ∈ ss → x < nT + nN :=
      fun h x hx => h x (List.mem_cons_of_mem _ hx)
    refine Sat.ite (fun hle => Sat.ite (fun hlt => ((ih _).safe hss).mono fun m' h hm => h fun x hx => ?_)
      fun hge hs => hge (Nat.sub_lt_left_of_lt_add hle (hs s List.mem_cons_self))) fun _ => (ih _).safe hss
    rcases mem_addMark hx with rfl | hx
    · exact hlt
    · exact hm x hx

theorem markProds_sat (ps : List Nat) (m : Marks) :
    Sat (InRange g ∧ ∀ p, p ∈ ps → p < g.prods.length) (MarksKept g.nonterminals.length m) (markProds g ps m) := by
  induction ps generalizing m with
  | nil => exact Sat.ok id
  | cons p ps ih =>
    unfold markProds
    cases e : g.prods[p]? with
    | none => exact fun hs => Nat.not_le.mpr (hs.2 p List.mem_cons_self) (List.getElem?_eq_none_iff.mp e)
    | some pr =>
      exact ((markSyms_sat _ _ pr.rhsSyms m).safe fun hs => hs.1.syms pr (List.mem_of_getElem? e)).bind fun m1 _ h1 =>
        ((ih m1).safe fun hs => ⟨hs.1, fun q hq => hs.2 q (List.mem_cons_of_mem _ hq)⟩).mono fun _ h hm => h (h1 hm)

theorem markRound_sat (l : List Nat) (m : Marks) :
    Sat (InRange g ∧ ∀ x, x ∈ l → x < g.nonterminals.length) (MarksKept g.nonterminals.length m) (markRound g l m) := by
  induction l generalizing m with
  | nil => exact Sat.ok id
  | cons pos rest ih =>
    unfold markRound
    cases e : g.nonterminals[pos]? with
    | none => exact fun hs => Nat.not_le.mpr (hs.2 pos List.mem_cons_self) (List.getElem?_eq_none_iff.mp e)
    | some nt =>
      exact ((markProds_sat nt.prods m).safe fun hs => ⟨hs.1, hs.1.prods nt (List.mem_of_getElem? e)⟩).bind fun m1 _ h1 =>
        ((ih m1).safe fun hs => ⟨hs.1, fun x hx => hs.2 x (List.mem_cons_of_mem _ hx)⟩).mono fun _ h hm => h (h1 hm)

theorem markIter_sat (n : Nat) (m : Marks) :
    Sat (InRange g ∧ ∀ x, x ∈ m.nts → x < g.nonterminals.length) (fun _ => True) (markIter g n m) := by
  induction n generalizing m with
  | zero => trivial
  | succ n ih =>
    unfold markIter
    exact (markRound_sat m.nts m).bind fun m1 _ h1 => (ih m1).safe fun hs => ⟨hs.1, h1 hs.2⟩

theorem markReachable_sat {g0 : Grammar} :
    Sat (InRange g0) (fun g => ∃ m : Marks, g =
      { g0 with nonterminals := setReachNts m.nts 0 g0.nonterminals, terminals := setReachTerms m.terms 0 g0.terminals })
      (markReachable g0) := by
  unfold markReachable
  refine Sat.ite (fun c hg => Nat.not_lt.mpr hg.start.1 c) fun _ => Sat.ite (fun c hg => Nat.not_le.mpr hg.start.2 c) fun _ => ?_
  refine ((markIter_sat _ _).safe fun hg => ⟨hg, fun x hx => ?_⟩).bind fun m _ _ => Sat.ok ⟨m, rfl⟩
  rw [List.mem_singleton.mp hx]
  exact hg.start.2

theorem length_setReachNts (m : List Nat) : ∀ (i : Nat) (l : List NonTerm), (setReachNts m i l).length = l.length
  | _, [] => rfl
  | i, x :: xs => by
    unfold setReachNts
    simp [length_setReachNts m (i + 1) xs]

theorem length_setReachTerms (m : List Nat) : ∀ (i : Nat) (l : List Term), (setReachTerms m i l).length = l.length
  | _, [] => rfl
  | i, x :: xs => by
    unfold setReachTerms
    simp [length_setReachTerms m (i + 1) xs]

theorem setReachNts_getElem? (m : List Nat) (i : Nat) (l : List NonTerm) (k : Nat) :
    (setReachNts m i l)[k]? = l[k]?.map fun x => { x with reachable := m.contains (i + k) } := by
  induction l generalizing i k with
  | nil => rfl
  | cons _ xs ih =>
    cases k with
    | zero => rfl
    | succ k =>
      rw [setReachNts, List.getElem?_cons_succ, List.getElem?_cons_succ, ih, Nat.add_right_comm, Nat.add_assoc]

theorem setReachTerms_getElem? (m : List Nat) (i : Nat) (l : List Term) (k : Nat) :
    (setReachTerms m i l)[k]? = l[k]?.map fun x => { x with reachable := m.contains (i + k) } := by
  induction l generalizing i k with
  | nil => rfl
  | cons _ xs ih =>
    cases k with
    | zero => rfl
    | succ k =>
      rw [setReachTerms, List.getElem?_cons_succ, List.getElem?_cons_succ, ih, Nat.add_right_comm, Nat.add_assoc]

end Rustemo.Front
