import Rustemo.Proofs.FrontIdx
import Rustemo.Proofs.ListFacts
/-!
Both resolution passes map a step over the right-hand sides (`mapR`): a fact about a pass is a fact about the step.
-/
namespace Rustemo.Front

variable {nts : List NonTerm} {se : RFlags} {terms : SMap Term} {mm : SMap (Name × Nat)}

def RhsRel (a a' : RAssign) : Prop := a'.name = a.name ∧ a'.sym = a.sym ∧ a'.isBool = a.isBool

def ProdRel (p p' : GProd) : Prop := ∃ rhs', p' = { p with rhs := rhs' } ∧ All2 RhsRel p.rhs rhs'


def mapR {α β : Type} (f : α → R β) : List α → R (List β)
  | [] => .ok []
  | a :: as => (f a).bind fun x => (mapR f as).bind fun xs => .ok (x :: xs)

/-- `mapR f` over a list whose elements are `T0`-images: what `f` does to an image, it does along the list -/
theorem mapR_sat {α β γ : Type} {S : Prop} {T0 : α → β → Prop} {T : α → γ → Prop} {f : β → R γ} {l : List α}
    {l1 : List β} (h0 : All2 T0 l l1) (hf : ∀ a b, T0 a b → Sat S (T a) (f b)) : Sat S (All2 T l) (mapR f l1) := by
  induction h0 with
  | nil => exact Sat.ok .nil
  | cons hab _ ih => exact (hf _ _ hab).bind fun x _ hx => ih.bind fun xs _ hxs => Sat.ok (.cons hx hxs)

theorem mapR_ok {α β : Type} {f : α → R β} {l : List α} {l' : List β} (h : mapR f l = .ok l') :
    All2 (fun a b => f a = .ok b) l l' :=
  (mapR_sat (All2.refl (fun _ => rfl) l) fun _ _ e => by subst e; exact Sat.self).of_ok h

/-- the `.map` closure of `resolve_inline_terminals_from_productions` -/
def inlineStep (mm : SMap (Name × Nat)) (prodIdx : Nat) (a : RAssign) : R RAssign :=
  match a.sym with
  | .str s =>
    match mm.get? s with
    | some (_, idx) => .ok { a with index := some idx }
    | none => .err (.undefInline s prodIdx)
  | .name _ => .ok a

def onRhs (f : GProd → List RAssign → R (List RAssign)) (p : GProd) : R GProd :=
  (f p p.rhs).bind fun rhs => .ok { p with rhs := rhs }

theorem onRhs_ok {f : GProd → List RAssign → R (List RAssign)} {p p' : GProd} (h : onRhs f p = .ok p') :
    ∃ rhs, f p p.rhs = .ok rhs ∧ p' = { p with rhs := rhs } := by
  obtain ⟨rhs, h1, h⟩ := Outcome.bind_eq_ok.mp h
  cases h
  exact ⟨rhs, h1, rfl⟩

theorem resolveInlineRhs_eq (mm : SMap (Name × Nat)) (k : Nat) :
    resolveInlineRhs mm k = mapR (inlineStep mm k) := by
  funext l
  induction l with
  | nil => rfl
  | cons a as ih =>
    show (inlineStep mm k a).bind _ = _
    rw [ih]
    rfl

theorem resolveRhs_eq (se : RFlags) (terms : SMap Term) (nts : List NonTerm) (p : GProd) (n : Nat) :
    resolveRhs se terms nts p n = mapR (resolveSym se terms nts p n) := by
  funext l
  induction l with
  | nil => rfl
  | cons a as ih =>
    unfold resolveRhs mapR
    rw [ih]

theorem resolveInline_eq (mm : SMap (Name × Nat)) :
    ∀ ps, resolveInline mm ps = mapR (onRhs fun p => mapR (inlineStep mm p.idx)) ps
  | [] => rfl
  | p :: ps => by
    unfold resolveInline mapR onRhs
    rw [resolveInline_eq mm ps, Outcome.bind_assoc, resolveInlineRhs_eq]
    rfl

theorem resolveRefs_eq (se : RFlags) (terms : SMap Term) (nts : List NonTerm) :
    ∀ ps, resolveRefs se terms nts ps =
      mapR (onRhs fun p => mapR (resolveSym se terms nts p p.rhs.length)) ps
  | [] => rfl
  | p :: ps => by
    unfold resolveRefs mapR onRhs
    rw [resolveRefs_eq se terms nts ps, Outcome.bind_assoc, resolveRhs_eq]
    rfl

theorem inlineStep_sat {S : Prop} {k : Nat} {a : RAssign} :
    Sat S (fun a' => (∃ n, a.sym = .name n ∧ a' = a) ∨
      ∃ s tn i, a.sym = .str s ∧ mm.get? s = some (tn, i) ∧ a' = { a with index := some i }) (inlineStep mm k a) := by
  unfold inlineStep
  split
  · split
    · exact Sat.ok (Or.inr ⟨_, _, _, ‹_›, ‹_›, rfl⟩)
    · trivial
  · exact Sat.ok (Or.inl ⟨_, ‹_›, rfl⟩)

theorem resolveInline_sat {S : Prop} (ps : List GProd) : Sat S (fun _ => True) (resolveInline mm ps) := by
  rw [resolveInline_eq]
  refine (mapR_sat (T := fun _ _ => True) (All2.refl (fun _ => rfl) ps) fun p _ e => ?_).mono fun _ _ => trivial
  subst e
  exact (mapR_sat (All2.refl (fun _ => rfl) _) fun a _ e => by subst e; exact inlineStep_sat).bind fun _ _ _ => trivial

/-- names `resolve_references` refuses in the variant `se` -/
def Banned (se : RFlags) (n : Name) : Prop :=
  (se.reserved = true ∧ (n = kAUG ∨ n = kAUGL)) ∨ (se.stop = true ∧ n = kSTOP)

/-- `resolve_references` on a name: a terminal of that name first, else the nonterminal -/
def resName (terms : SMap Term) (nts : List NonTerm) (n : Name) : Option Nat :=
  match terms.get? n with
  | some t => some t.idx
  | none => (findNt nts n).map (fun nt => nt.idx + terms.length)

/-- `a`, `a'`: an assignment before and after both passes; `a.index = none` is what the rule phase leaves (`RawProd`). -/
structure ResOk (mm : SMap (Name × Nat)) (se : RFlags) (terms : SMap Term) (nts : List NonTerm) (a a' : RAssign) :
    Prop where
  rel : RhsRel a a'
  filled : a'.index.isSome
  name : ∀ n, a.index = none → a.sym = .name n → ¬Banned se n ∧ a'.index = resName terms nts n
  str : ∀ s, a.index = none → a.sym = .str s → ∃ tn i, mm.get? s = some (tn, i) ∧ a'.index = some i

/-- both passes on one assignment: an inline string gets its index in the first and is left alone by the second
(so the second never meets an unresolved string: no panic), a name is left alone by the first and looked up by the
second -/
theorem resolveSym_sat {S : Prop} {p : GProd} {k len : Nat} {a b : RAssign} (h1 : inlineStep mm k a = .ok b) :
    Sat S (ResOk mm se terms nts a) (resolveSym se terms nts p len b) := by
  unfold resolveSym
  rcases (inlineStep_sat (S := True)).of_ok h1 with ⟨m, hm, rfl⟩ | ⟨s, tn, i, hs, hg, rfl⟩
  · cases hi : b.index with
    | some i =>
      exact Sat.ok ⟨⟨rfl, rfl, rfl⟩, hi ▸ rfl, fun _ hn => (nomatch hi.symm.trans hn), fun _ hn => (nomatch hi.symm.trans hn)⟩
    | none =>
      simp only [hm]
      refine Sat.guard fun hres => Sat.guard fun hstop => ?_
      have hnb : ¬Banned se m := by
        rintro (⟨h1, h2⟩ | ⟨h1, h2⟩)
        · exact hres (by rw [h1]; rcases h2 with rfl | rfl <;> simp)
        · exact hstop (by rw [h1, h2]; simp)
      have hq : ∀ j, resName terms nts m = some j → ResOk mm se terms nts b { b with sym := .name m, index := some j } :=
        fun j hj => ⟨⟨rfl, hm.symm, rfl⟩, rfl, fun m' _ hm' => by cases hm.symm.trans hm'; exact ⟨hnb, hj.symm⟩,
          fun s _ hs => (nomatch hm.symm.trans hs)⟩
      unfold resName at hq
      cases ht : terms.get? m with
      | some t => exact Sat.ok (hq _ (by rw [ht]))
      | none =>
        cases hf : findNt nts m with
        | none => trivial
        | some nt => exact Sat.guard fun _ => Sat.ok (hq _ (by rw [ht, hf]; rfl))
  · exact Sat.ok ⟨⟨rfl, rfl, rfl⟩, rfl, fun m _ hm => (nomatch hs.symm.trans hm), fun s' _ hs' => by
      cases hs.symm.trans hs'
      exact ⟨tn, i, hg, rfl⟩⟩

def ProdRes (mm : SMap (Name × Nat)) (se : RFlags) (terms : SMap Term) (nts : List NonTerm) (p p' : GProd) : Prop :=
  ∃ rhs', p' = { p with rhs := rhs' } ∧ All2 (ResOk mm se terms nts) p.rhs rhs'

theorem ProdRes.rel {p p' : GProd} (h : ProdRes mm se terms nts p p') : ProdRel p p' :=
  h.imp fun _ h => h.imp id fun h => h.imp fun _ _ => ResOk.rel

theorem resolveRefs_sat {S : Prop} {ps ps1 : List GProd} (h1 : resolveInline mm ps = .ok ps1) :
    Sat S (All2 (ProdRes mm se terms nts) ps) (resolveRefs se terms nts ps1) := by
  rw [resolveInline_eq] at h1
  rw [resolveRefs_eq]
  refine mapR_sat (mapR_ok h1) fun p p1 hp1 => ?_
  obtain ⟨rhs1, e1, rfl⟩ := onRhs_ok hp1
  exact (mapR_sat (mapR_ok e1) fun _ _ => resolveSym_sat).bind fun rhs2 _ h => Sat.ok ⟨rhs2, rfl, h⟩

theorem resolve_spec {ps ps1 ps2 : List GProd} (h1 : resolveInline mm ps = .ok ps1)
    (h2 : resolveRefs se terms nts ps1 = .ok ps2) : All2 (ProdRes mm se terms nts) ps ps2 :=
  (resolveRefs_sat (S := True) h1).of_ok h2

theorem IdxSeq.of_rel {l l' : List GProd} {a : Nat} (hr : All2 ProdRel l l') (h : IdxSeq l a) : IdxSeq l' a := by
  intro i p' hp'
  obtain ⟨p, hp, rhs', e, _⟩ := All2.get_right hr i p' hp'
  subst e
  exact h i p hp

theorem ResOk.symbol_of_name {mm : SMap (Name × Nat)} {se : RFlags} {terms : SMap Term} {nts : List NonTerm}
    {a a' : RAssign} {n : Name} (h : ResOk mm se terms nts a a') (hi : a.index = none) (hs : a.sym = .name n) :
    resName terms nts n = some a'.symbol := by
  rw [← (h.name n hi hs).2]
  unfold RAssign.symbol
  cases hx : a'.index with
  | none => exact nomatch hx ▸ h.filled
  | some i => rfl


end Rustemo.Front
