import Rustemo.Model.Front.Build
/-!
`Sat S Q x`: one triple for the three outcomes of a model function — a value satisfies `Q`, a diagnostic is always allowed,
a panic only where the safety condition `S` fails.  One walk along a function (`Sat.bind`, `Sat.ite`, `Sat.guard`) gives both
the inversion of `f .. = .ok _` (`Sat.of_ok`) and "no panic on safe input" (`Sat.noPanic`).
-/
namespace Rustemo.Front

theorem Outcome.bind_eq_ok {α β ε : Type} {x : Outcome α ε} {f : α → Outcome β ε} {b : β} :
    x.bind f = .ok b ↔ ∃ a, x = .ok a ∧ f a = .ok b := by
  cases x with
  | ok a => simp [Outcome.bind]
  | err e => simp [Outcome.bind]
  | panic s => simp [Outcome.bind]

theorem Outcome.bind_ok_self {α ε : Type} (x : Outcome α ε) : x.bind .ok = x := by
  cases x <;> rfl

theorem Outcome.bind_assoc {α β γ ε : Type} (x : Outcome α ε) (f : α → Outcome β ε) (g : β → Outcome γ ε) :
    (x.bind f).bind g = x.bind fun a => (f a).bind g := by
  cases x <;> rfl

def Sat {α ε : Type} (S : Prop) (Q : α → Prop) : Outcome α ε → Prop
  | .ok a => Q a
  | .err _ => True
  | .panic _ => ¬ S

section Sat
variable {α β ε : Type} {S S' : Prop} {P Q : α → Prop} {x : Outcome α ε}

theorem Sat.ok {a : α} (h : Q a) : Sat S Q (.ok a : Outcome α ε) := h

theorem Sat.of_ok {a : α} (h : Sat S Q x) (hx : x = .ok a) : Q a := by
  subst hx
  exact h

theorem Sat.noPanic (h : Sat S Q x) (hs : S) : ∀ s, x ≠ .panic s := by
  intro s hx
  subst hx
  exact h hs

theorem Sat.safe (h : Sat S Q x) (hs : S' → S) : Sat S' Q x := by
  cases x with
  | ok a => exact h
  | err e => trivial
  | panic s => exact fun s' => h (hs s')

theorem Sat.bind {Q : β → Prop} {f : α → Outcome β ε} (hx : Sat S P x)
    (hf : ∀ a, x = .ok a → P a → Sat S Q (f a)) : Sat S Q (x.bind f) := by
  cases x with
  | ok a => exact hf a rfl hx
  | err e => trivial
  | panic s => exact hx

theorem Sat.mono (h : Sat S P x) (hpq : ∀ a, P a → Q a) : Sat S Q x :=
  (Outcome.bind_ok_self x ▸ h.bind fun a _ ha => Sat.ok (hpq a ha) :)

theorem Sat.self : Sat False (fun a => x = .ok a) x := by
  cases x with
  | ok a => exact rfl
  | err e => trivial
  | panic s => exact id

theorem Sat.ite {c : Prop} [Decidable c] {y : Outcome α ε} (hx : c → Sat S Q x) (hy : ¬ c → Sat S Q y) :
    Sat S Q (if c then x else y) := by
  split
  · exact hx ‹_›
  · exact hy ‹_›

theorem Sat.guard {c : Prop} [Decidable c] {e : ε} (h : ¬ c → Sat S Q x) : Sat S Q (if c then .err e else x) :=
  Sat.ite (fun _ => trivial) h

/-- the safety condition reads `flag = true ∨ c` (`RefSafe`, `Safe`) and `c` fails at this test -/
theorem Sat.errOrPanic {b : Bool} {c : Prop} {e : ε} {s : Site} (hc : ¬ c) :
    Sat (b = true ∨ c) Q (if b then .err e else .panic s : Outcome α ε) := by
  cases b with
  | true => trivial
  | false => exact fun hs => hs.elim Bool.false_ne_true hc

end Sat

end Rustemo.Front
