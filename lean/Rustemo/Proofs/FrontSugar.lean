import Rustemo.Proofs.FrontConsist
import Rustemo.Proofs.FrontClean
import Rustemo.Proofs.FrontLang
/-!
`Clean`: the hypotheses about names of the content theorems.  On a clean file the rule phase leaves the productions of the
alternatives and the helper rules of the sugar (`Clean.content`); `helper_core` carries a helper rule to the built grammar:
exactly two productions, their names resolved to symbols.
-/
namespace Rustemo.Front

/-- hypotheses about names shared by the content theorems: files outside the classes `emptyAlts`,
`dupTerminal`, `sepClash` (`inj`), `helperCapture` incl. `selfHelper` (`capture`), `reservedRule` — `dupTerminal`,
`helperCapture` and `reservedRule` only for variants that do not report them (`dupNameErr`, `helperClashErr`,
`reservedErr`) -/
structure Clean (fx : Fixes) (f : File) : Prop where
  alts : ∀ r, r ∈ f.ruleList → r.alts ≠ []
  dupT : fx.dupNameErr = true ∨ f.dupTerminal = false
  inj : ∀ u v, u ∈ f.uses fx → v ∈ f.uses fx → u.helper fx = v.helper fx → u = v
  capture : fx.helperClashErr = true ∨
    ∀ u, u ∈ f.uses fx → u.helper fx ∉ ruleNamesOf f ∧ u.helper fx ∉ kSTOP :: termNamesOf f
  reserved : fx.reservedErr = true ∨ ∀ n, n ∈ ruleNamesOf f → n ≠ kEMPTY ∧ n ≠ kAUG ∧ n ≠ kAUGL

theorem Clean.regular {fx : Fixes} {f : File} (h : Clean fx f) : Regular fx f := by
  refine ⟨h.alts, h.dupT, ?_⟩
  refine h.capture.imp id fun hcap => selfHelper_eq_false.mpr fun r hr u hu e => (hcap u ?_).1 ?_
  · exact mem_file_uses.mpr (List.mem_flatMap.mpr ⟨r, hr, hu⟩)
  · rw [e]
    exact List.mem_map_of_mem (f := (·.name)) hr

/-- the name facts the content proofs use: from the hypotheses, or from the checks a successful run of
a repaired variant has passed -/
theorem Clean.derived {fx : Fixes} {f : File} {g : Grammar} (hc : Clean fx f) (F : Facts fx f g) :
    UsesOk fx (f.uses fx) (ruleNamesOf f) ∧ (∀ u, u ∈ f.uses fx → u.helper fx ∉ kSTOP :: termNamesOf f) ∧
      (∀ n, n ∈ ruleNamesOf f → n ≠ kEMPTY ∧ n ≠ kAUG ∧ n ≠ kAUGL) := by
  have hcap : ∀ u, u ∈ f.uses fx → u.helper fx ∉ ruleNamesOf f ∧ u.helper fx ∉ kSTOP :: termNamesOf f :=
    hc.capture.elim (fun hflag u hu => extract_clashFree (cx := ctxOf fx f F.ts) hflag F.hext u (F.mem_uses.mp hu)) id
  refine ⟨⟨hc.inj, fun u hu => (hcap u hu).1⟩, fun u hu => (hcap u hu).2, ?_⟩
  rcases hc.reserved with hflag | hres
  · intro n hn
    obtain ⟨r, hr, e⟩ := F.mem_ruleNames.mp hn
    have := (extract_checked F.hext hr (hc.alts r (F.ruleList ▸ hr))).2.1 hflag
    rw [← e]
    simpa using this
  · exact hres

/-- no rule is named like a terminal: by the class (N2), or because a variant with `dupNameErr` has checked every
processed rule -/
theorem rules_not_terminals {fx : Fixes} {f : File} {g : Grammar} (hc : Clean fx f)
    (hrt : fx.dupNameErr = true ∨ f.ruleIsTerminal = false) (F : Facts fx f g) {r : Rule} (hr : r ∈ F.r0 :: F.rs) :
    r.name ∉ kSTOP :: termNamesOf f := by
  intro hk
  rcases hrt with hflag | hrt
  · exact (extract_checked F.hext hr (hc.alts _ (F.ruleList ▸ hr))).2.2 hflag hk
  · unfold File.ruleIsTerminal at hrt
    have : (ruleNamesOf f).any (fun r => (kSTOP :: termNamesOf f).contains r) = true :=
      List.any_eq_true.mpr ⟨r.name, F.ruleName_mem hr, by simpa using hk⟩
    rw [this] at hrt
    cases hrt

theorem Clean.content {fx : Fixes} {f : File} {g : Grammar} (hc : Clean fx f) (F : Facts fx f g) :
    UsersOk (ctxOf fx f F.ts) (ruleNamesOf f) (allDone (F.r0 :: F.rs)) F.st.nts F.st.prods ∧
      HelpersOk fx (f.uses fx) F.st.nts F.st.prods ∧
      AugOk { idx := 0, nonterminal := 1, rhs := [resolving F.r0.name] } F.st.nts F.st.prods :=
  extract_clean (cx := ctxOf fx f F.ts) (hc.derived F).1
    (fun r hr => ⟨F.ruleName_mem hr, hc.alts r (F.ruleList ▸ hr)⟩) (fun _ => F.mem_uses.mpr) (hc.derived F).2.2 F.hext

def symOf (terms : SMap Term) (nts : List NonTerm) (n : Name) : Nat := (resName terms nts n).getD 0

theorem syms_of_names {mm : SMap (Name × Nat)} {se : RFlags} {terms : SMap Term} {nts : List NonTerm} {ns : List Name}
    {rhs' : List RAssign} (h : All2 (ResOk mm se terms nts) (ns.map resolving) rhs') :
    rhs'.map RAssign.symbol = ns.map (symOf terms nts) ∧ ∀ n, n ∈ ns → resName terms nts n = some (symOf terms nts n) := by
  induction ns generalizing rhs' with
  | nil =>
    cases h
    exact ⟨rfl, nofun⟩
  | cons n ns ih =>
    cases h with
    | cons hr t =>
      have e : resName terms nts n = some (symOf terms nts n) := by
        unfold symOf
        rw [hr.symbol_of_name rfl rfl]
        rfl
      exact ⟨congr (congrArg List.cons (Option.some.inj ((hr.symbol_of_name rfl rfl).symm.trans e))) (ih t).1,
        List.forall_mem_cons.mpr ⟨e, (ih t).2⟩⟩

/-- `σ n`: the symbol the name `n` resolves to -/
theorem helper_core {fx : Fixes} {f : File} {g : Grammar} (hc : Clean fx f)
    (h : build fx f = .ok g) (u : Use) (hu : u ∈ f.uses fx) :
    ∃ (nt : NonTerm) (σ : Name → Nat), g.nonterminals[nt.idx]? = some nt ∧ nt.name = u.helper fx ∧
      nt.annotation = u.ann ∧ HasExactly g nt.idx [(u.names0 fx).map σ, u.names1.map σ] ∧
      σ (u.helper fx) = g.nT + nt.idx ∧ ∀ n, n ∈ u.names0 fx ++ u.names1 → IsSym g n (σ n) := by
  obtain ⟨F⟩ := build_facts hc.regular h
  have hT := (hc.derived F).2.1
  have hcons := build_consistent hc.regular h
  have hH := (hc.content F).2.1
  obtain ⟨nt0, hf0⟩ := findNt_of_mem (extract_uses F.hext u (F.mem_uses.mp hu)).2
  obtain ⟨hm0, hname0⟩ := findNt_some hf0
  obtain ⟨pa, pb, hS⟩ := hH nt0 hm0 u hu hname0
  obtain ⟨y, hy, hyi, hyn, hyp, hya⟩ := F.nt_at hf0
  have hres := F.phases.prods_res
  obtain ⟨pa', hpa', rhsa, ea, ra⟩ := All2.mem_left hres pa hS.memA
  obtain ⟨pb', hpb', rhsb, eb, rb⟩ := All2.mem_left hres pb hS.memB
  rw [hS.rhsA] at ra
  rw [hS.rhsB] at rb
  obtain ⟨sa, na⟩ := syms_of_names ra
  obtain ⟨sb, nb⟩ := syms_of_names rb
  refine ⟨y, symOf F.ts.terms F.st.nts, hy, hyn, hya.trans hS.ann, ?_, ?_,
    fun n hn => F.resName_isSym ((List.mem_append.mp hn).elim (na n) (nb n))⟩
  · have ia : pa'.idx = pa.idx := by rw [ea]
    have ib : pb'.idx = pb.idx := by rw [eb]
    have := hcons.hasExactly (List.mem_of_getElem? hy) (ps := [pa', pb'])
      (by rw [hyp, hS.prods]; exact .cons (ia ▸ hcons.at_idx hpa') (.cons (ib ▸ hcons.at_idx hpb') .nil))
    rw [ea, eb] at this
    exact sa ▸ sb ▸ this
  · unfold symOf
    rw [F.resName_nt (hT u hu) hf0, hyi]
    rfl

/-- what the production at index `i` of the built grammar has to be for the processed alternative `d`
of a rule whose nonterminal has index `k` -/
def IsAltProd (fx : Fixes) (f : File) (g : Grammar) (k : Nat) (i : Nat) (d : Done) : Prop :=
  ∃ p, g.prods[i]? = some p ∧ p.idx = i ∧ p.nonterminal = k ∧ p.ntidx = d.2.1 ∧
    rhsView p.rhs = codeAltSyms fx (staticMatches fx f) d.2.2 ∧
    (let m := inherit fx (metaOf d.1.metas) (metaOf d.2.2.metas)
     p.prio = prioOfMeta m ∧ p.kind = kindOfMeta m ∧ p.assoc = assocOfMeta m ∧
     p.nops = m.contains kNops ∧ p.nopse = m.contains kNopse ∧
     p.mdata = ((((((m.erase kPriority).erase kKind).erase kLeft).erase kRight).erase kNops).erase kNopse))

/-- "Map meta-data to production fields", field by field -/
theorem mkProd_fields (i nt j : Nat) (rhs rhs' : List RAssign) (m : Meta) :
    let p : GProd := { mkProd i nt j rhs m with rhs := rhs' }
    p.prio = prioOfMeta m ∧ p.kind = kindOfMeta m ∧ p.assoc = assocOfMeta m ∧
    p.nops = m.contains kNops ∧ p.nopse = m.contains kNopse ∧
    p.mdata = ((((((m.erase kPriority).erase kKind).erase kLeft).erase kRight).erase kNops).erase kNopse) :=
  ⟨rfl, rfl, rfl, rfl, rfl, rfl⟩

theorem rhsView_rel {l l' : List RAssign} (h : All2 RhsRel l l') : rhsView l' = rhsView l := by
  induction h with
  | nil => rfl
  | cons hr _ ih =>
    unfold rhsView at *
    simp only [List.map_cons]
    rw [ih, hr.1, hr.2.1, hr.2.2]

end Rustemo.Front
