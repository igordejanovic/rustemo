import Rustemo.Proofs.FrontMap
import Rustemo.Proofs.FrontSat
import Rustemo.Proofs.FrontLists
/-!
With pairwise different terminal names (class `dupTerminal` excluded) every index handed out by
`get_term_idx` belongs to exactly one terminal, so `terminals.len()` is the number of indices and the
sorted vector is indexed by `idx`.
-/
namespace Rustemo.Front

variable {fx : Fixes}

theorem hasDup_false : ∀ {l : List Name}, hasDup l = false → l.Nodup
  | [], _ => List.nodup_nil
  | x :: xs, h => by
    unfold hasDup at h
    simp only [Bool.or_eq_false_iff] at h
    refine List.nodup_cons.mpr ⟨?_, hasDup_false h.2⟩
    intro hm
    have : xs.contains x = true := by simpa using hm
    rw [this] at h
    exact absurd h.1 (by simp)

structure TermsInv (ts : TSt) : Prop where
  named : ∀ kv, kv ∈ ts.terms → kv.2.name = kv.1
  bound : ∀ kv, kv ∈ ts.terms → kv.2.idx < ts.next
  idxs : (ts.terms.map (fun kv => kv.2.idx)).Nodup
  count : ts.terms.length = ts.next

theorem termOfRule_sat {S : Prop} (idx : Nat) (t : TermRule) :
    Sat S (fun term => term.idx = idx ∧ term.name = t.name) (termOfRule idx t) := by
  unfold termOfRule
  refine Sat.bind (P := fun _ => True) ?_ fun _ _ _ => ?_
  · split
    · exact Sat.guard fun _ => trivial
    · trivial
  · split
    exact Sat.ok ⟨rfl, rfl⟩

theorem TermsInv.insert {st : TSt} {n : Name} {t : Term} (hi : TermsInv st) (hn : n ∉ st.terms.keys)
    (e1 : t.idx = st.next) (e2 : t.name = n) :
    TermsInv { terms := st.terms.insert n t, next := st.next + 1 } ∧
      (st.terms.insert n t).keys.Perm (n :: st.terms.keys) := by
  have hperm := SMap.insert_perm (v := t) hn
  have hmem : ∀ kv, kv ∈ SMap.insert n t st.terms → kv = (n, t) ∨ kv ∈ st.terms :=
    fun kv hkv => List.mem_cons.mp (hperm.mem_iff.mp hkv)
  refine ⟨⟨fun kv hkv => ?_, fun kv hkv => ?_, ?_, hperm.length_eq.trans (congrArg (· + 1) hi.count)⟩,
    hperm.map Prod.fst⟩
  · rcases hmem kv hkv with rfl | hkv
    · exact e2
    · exact hi.named kv hkv
  · rcases hmem kv hkv with rfl | hkv
    · exact e1 ▸ Nat.lt_succ_self _
    · exact Nat.lt_succ_of_lt (hi.bound kv hkv)
  · refine (hperm.map _).nodup_iff.mpr (List.nodup_cons.mpr ⟨fun hm => ?_, hi.idxs⟩)
    obtain ⟨kv, hkv, e⟩ := List.mem_map.mp hm
    exact Nat.lt_irrefl _ (e1 ▸ e ▸ hi.bound kv hkv)

/-- `TermsInv` is kept where every name is new: by the check of the variant, or because the names differ -/
theorem collectTerms_sat {S : Prop} (ts : List TermRule) (st : TSt) :
    Sat S (fun st' => TermsInv st → (fx.dupNameErr = true ∨ (st.terms.keys ++ ts.map (·.name)).Nodup) →
      TermsInv st' ∧ ∀ n, n ∈ st'.terms.keys ↔ n ∈ st.terms.keys ∨ n ∈ ts.map (·.name)) (collectTerms fx ts st) := by
  induction ts generalizing st with
  | nil => exact Sat.ok fun hi _ => ⟨hi, fun n => (or_iff_left (fun hn => nomatch hn)).symm⟩
  | cons t ts ih =>
    unfold collectTerms
    refine Sat.guard fun _ => Sat.guard fun hdup => (termOfRule_sat _ t).bind fun term _ ⟨e1, e2⟩ =>
      (ih _).mono fun st' h hi hq => ?_
    have habs : t.name ∉ st.terms.keys := by
      rcases hq with hf | hn
      · rw [hf, Bool.true_and, SMap.contains_eq] at hdup
        exact SMap.get?_none_iff.mp (Option.not_isSome_iff_eq_none.mp hdup)
      · exact fun hm => (List.nodup_append.mp hn).2.2 _ hm _ List.mem_cons_self rfl
    obtain ⟨hi1, hkeys⟩ := hi.insert habs e1 e2
    obtain ⟨r1, r2⟩ := h hi1
      (hq.imp id fun hn => (hkeys.append_right _).nodup_iff.mpr (List.perm_middle.nodup_iff.mp hn))
    refine ⟨r1, fun n => ?_⟩
    rw [r2 n, hkeys.mem_iff, List.map_cons, List.mem_cons, List.mem_cons, or_comm (a := n = t.name), or_assoc]

theorem tst0_inv : TermsInv { terms := [(kSTOP, stopTerm)], next := 1 } := by
  refine ⟨?_, ?_, by simp, rfl⟩
  · intro kv hkv
    simp at hkv
    subst hkv
    rfl
  · intro kv hkv
    simp at hkv
    subst hkv
    exact Nat.zero_lt_one

theorem termPhase_sat {S : Prop} (fx : Fixes) (f : File) :
    Sat S (fun ts => fx.dupNameErr = true ∨ f.dupTerminal = false →
      TermsInv ts ∧ ∀ n, n ∈ ts.terms.keys ↔ n ∈ kSTOP :: termNamesOf f) (termPhase fx f) := by
  unfold termPhase
  split
  · rename_i hf
    refine Sat.ok fun _ => ⟨tst0_inv, fun n => ?_⟩
    simp [SMap.keys, termNamesOf, hf]
  · rename_i l hf
    refine (collectTerms_sat l _).mono fun ts h hd => ?_
    have hl : termNamesOf f = l.map (·.name) := by simp [termNamesOf, hf]
    obtain ⟨r1, r2⟩ := h tst0_inv (hd.imp id fun hd => hl ▸ hasDup_false hd)
    refine ⟨r1, fun n => ?_⟩
    rw [r2 n, hl]
    simp [SMap.keys]

theorem terms_get? {ts : TSt} (hi : TermsInv ts) {n : Name} {t : Term} (h : ts.terms.get? n = some t) :
    t.idx < ts.terms.length ∧ t.name = n := by
  have hm := SMap.mem_of_get? h
  exact ⟨by rw [hi.count]; exact hi.bound _ hm, hi.named _ hm⟩

theorem sortTerms_pos {ts : TSt} (hi : TermsInv ts) (i : Nat) (t : Term)
    (h : (sortTerms ts.terms.values)[i]? = some t) : t.idx = i := by
  apply sortByKey_pos Term.idx ts.terms.values _ _ i t h
  · have : ts.terms.values.map Term.idx = ts.terms.map (fun kv => kv.2.idx) := by
      unfold SMap.values
      rw [List.map_map]
      rfl
    rw [this]
    exact hi.idxs
  · intro x hx
    unfold SMap.values at hx ⊢
    obtain ⟨kv, hkv, e⟩ := List.mem_map.mp hx
    rw [List.length_map, hi.count, ← e]
    exact hi.bound kv hkv

theorem buildMatches_get? (terms : SMap Term) {s tn : Name} {i : Nat}
    (h : (buildMatches terms).get? s = some (tn, i)) :
    ∃ kv, kv ∈ terms ∧ kv.2.name = tn ∧ kv.2.idx = i ∧ kv.2.recog = some (.str s) := by
  refine List.foldlRecOn (motive := fun m : SMap (Name × Nat) => ∀ a, a ∈ m →
      ∃ kv, kv ∈ terms ∧ kv.2.name = a.2.1 ∧ kv.2.idx = a.2.2 ∧ kv.2.recog = some (.str a.1))
    terms _ (b := []) (fun _ ha => nomatch ha) (fun m hm kv hkv a ha => ?_) (s, (tn, i)) (SMap.mem_of_get? h)
  split at ha
  · rename_i s' hs'
    rcases SMap.mem_insert ha with rfl | ha
    · exact ⟨kv, hkv, rfl, rfl, hs'⟩
    · exact hm a ha
  · exact hm a ha

theorem matchesOf_get? {f : File} {ts : TSt} {s tn : Name} {i : Nat} (h : (matchesOf f ts).get? s = some (tn, i)) :
    ∃ kv, kv ∈ ts.terms ∧ kv.2.name = tn ∧ kv.2.idx = i ∧ kv.2.recog = some (.str s) := by
  unfold matchesOf at h
  split at h
  · cases h
  · exact buildMatches_get? ts.terms h

end Rustemo.Front
