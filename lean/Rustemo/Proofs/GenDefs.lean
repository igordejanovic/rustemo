import Rustemo.Model.Gen
/-!
What the statements of `Props/C08` say beyond `Model/Gen`: the place of a production among the `ProdKind` variants, the answer
`goto` owes the table, and the `Table` a layout's code denotes (its answers to all queries in the declared ranges, decoded
and tabulated), on which the LR runtime can be run.
-/
namespace Rustemo
namespace Gen

def skippedBefore (g : Grammar) (p : Nat) : Nat := ((List.range p).filter (skipped g)).length

def gotoSpec (t : Table) (s n : Nat) (r : Res Nat) : Prop :=
  match t.gotoNt s n with
  | some s' => r = .ok s'
  | none => r.isPanic = true

/-- the `ProdKind` value `k` back to the production it was generated for -/
def decode (g : Grammar) : CAct → Option Action
  | .shift s => some (.shift s)
  | .reduce k l => ((userProds g)[k]?).map (fun p => Action.reduce p l)
  | .accept => some .accept
  | .error => none

def okOr {α : Type} (d : α) : Res α → α
  | .ok a => a
  | _ => d

def okOpt {α : Type} : Res α → Option α
  | .ok a => some a
  | _ => none

def tableOf (ns na nn : Nat) (act : Nat → Nat → List Action) (goto : Nat → Nat → Option Nat)
    (exp : Nat → List (Nat × Bool)) (layout : Option Nat) : Table :=
  { states := ((List.range ns).map (fun s =>
      ({ symbol := 0, items := [],
         actions := ((List.range na).map (act s)).toArray,
         gotos := ((List.range nn).map (goto s)).toArray,
         sorted := exp s } : State))).toArray
    layoutState := layout }

def arraysTable (g : Grammar) (t : Table) : Table :=
  let c := arraysCore g t
  let e := enums g t
  tableOf c.stateCount c.terminalCount c.nonterminalCount
    (fun s a => (okOr [] (c.actionsQ e s a)).filterMap (decode g))
    (fun s n => okOpt (c.gotoQ e s n))
    (fun s => okOr [] (c.expectedQ e s))
    (okOr none e.layoutQ)

/-- `functions.rs` declares no `NONTERMINAL_COUNT`: the `NonTermKind` variants are counted instead -/
def functionsTable (g : Grammar) (t : Table) : Table :=
  let c := functionsCore g t
  let e := enums g t
  tableOf c.stateCount c.terminalCount (enums g t).nonterms.length
    (fun s a => (okOr [] (c.actionsQ e s a)).filterMap (decode g))
    (fun s n => okOpt (c.gotoQ e s n))
    (fun s => okOr [] (c.expectedQ e s))
    (okOr none e.layoutQ)

end Gen
end Rustemo
