import Rustemo.Proofs.GenDefs
import Rustemo.Proofs.GenWF
/-!
Each layout's `actions`, `goto` and `expected_token_kinds` answer as the table does (`Faithful`).  The layouts differ in the
lookup only: Arrays indexes padded array literals, Functions runs a `match` with one arm per kept entry of the state's row
(`row_arms_select`); the cell or goto entry found is read back by the same lemmas of `GenWF` in both.
-/
namespace Rustemo
namespace Gen

theorem kindIdx_add_skipped {g : Grammar} {p : Nat} (hp : p ∈ userProds g) :
    kindIdx g p + skippedBefore g p = p := by
  obtain ⟨hlt, hsk⟩ := mem_userProds.mp hp
  unfold kindIdx userProds skippedBefore
  rw [idxOf_filter_range (fun p => !skipped g p) g.prods.size p hlt (by simp [hsk])]
  have := List.length_eq_countP_add_countP (fun p => !skipped g p) (l := List.range p)
  simpa [List.countP_eq_length_filter] using this.symm

theorem kindIdx_inj {g : Grammar} {p q : Nat} (hp : p ∈ userProds g) (hq : q ∈ userProds g)
    (h : kindIdx g p = kindIdx g q) : p = q := by
  have h1 := userProds_getElem?_kindIdx hp
  have h2 := userProds_getElem?_kindIdx hq
  rw [h, h2] at h1
  exact (Option.some.inj h1).symm

theorem fromQ_eq {g : Grammar} {t : Table} (w : WFP g t) {p : Nat} (hp : p ∈ userProds g) :
    (enums g t).fromQ (kindIdx g p) = .ok (prodNt g p) := by
  obtain ⟨hres, hsome, _⟩ := arms_select (names := (enums g t).prods) (xs := userProds g)
    (mk := fun p => (prodKindName g p, ntName g (prodNt g p))) (idx := kindIdx g)
    (fun q hq => resolve_prod w hq) (fun q hq r hr => kindIdx_inj hq hr)
  have hfa : (enums g t).fromArms =
      (userProds g).map fun p => (prodKindName g p, ntName g (prodNt g p)) := rfl
  simp [Enums.fromQ, hfa, hres, hsome p hp, resolve_nonterm w (prodOk_out (w.prods p hp)).2]

theorem layoutQ_eq {g : Grammar} {t : Table} (w : WFP g t) :
    (enums g t).layoutQ = .ok t.layoutState := by
  unfold Enums.layoutQ
  cases h : t.layoutState with
  | none => simp [enums, h]
  | some s =>
    have hs : s < t.states.size := by simpa [layoutOk, h] using w.layout
    have := resolve_state w hs
    simp only [enums] at this
    simp [enums, h, this]

theorem enum_lengths {g : Grammar} {t : Table} (w : WFP g t) :
    (enums g t).states.length = t.states.size ∧ (enums g t).tokens.length = g.nterms ∧
    (enums g t).nonterms.length = g.nnonterms ∧ (enums g t).prods.length = (userProds g).length := by
  simp [enums, w.terms, w.nts]

theorem gotoSpec_agree {t : Table} {s n : Nat} {r1 r2 : Res Nat} (h1 : gotoSpec t s n r1)
    (h2 : gotoSpec t s n r2) : r1.agree r2 := by
  unfold gotoSpec at h1 h2
  cases hg : t.gotoNt s n with
  | some s' => rw [hg] at h1 h2; simp only at h1 h2; rw [h1, h2]; rfl
  | none =>
    rw [hg] at h1 h2
    cases r1 <;> cases r2 <;> simp_all [Res.isPanic, Res.agree]

/-- The `actions`, `goto` and `expected_token_kinds` of a generated `ParserDefinition`, as functions of discriminants,
    answer every query inside the declared ranges as the table `t` does. -/
structure Faithful (g : Grammar) (t : Table) (aq : Nat → Nat → Res (List CAct)) (gq : Nat → Nat → Res Nat)
    (eq : Nat → Res (List (Nat × Bool))) : Prop where
  actions : ∀ {s a}, s < t.states.size → a < g.nterms → aq s a = .ok ((t.cell s a).map (encode g))
  goto : ∀ {s n}, s < t.states.size → n < g.nnonterms → gotoSpec t s n (gq s n)
  expected : ∀ {s}, s < t.states.size → eq s = .ok (t.sorted s)

theorem Faithful.agree {g : Grammar} {t : Table} {aq aq' gq gq' eq eq'} (f : Faithful g t aq gq eq)
    (f' : Faithful g t aq' gq' eq') {s a n : Nat} (hs : s < t.states.size) (ha : a < g.nterms)
    (hn : n < g.nnonterms) :
    (aq s a).agree (aq' s a) ∧ (gq s n).agree (gq' s n) ∧ (eq s).agree (eq' s) :=
  ⟨by rw [f.actions hs ha, f'.actions hs ha]; rfl, gotoSpec_agree (f.goto hs hn) (f'.goto hs hn),
    by rw [f.expected hs, f'.expected hs]; rfl⟩

theorem arrays_faithful {g : Grammar} {t : Table} (w : WFP g t) :
    Faithful g t ((arraysCore g t).actionsQ (enums g t)) ((arraysCore g t).gotoQ (enums g t))
      ((arraysCore g t).expectedQ (enums g t)) where
  actions {s a} hs ha := by
    obtain ⟨ha', hcell, hok⟩ := w.cellAt hs ha
    simp only [ArrCode.actionsQ, arraysCore, getElem?_toList_map _ _ hs, getElem?_toList_map _ _ ha',
      evalCell_arrCell w _ hok]
    rw [takeWhile_pad CAct.notError CAct.error rfl _ _ (fun x hx => by
      obtain ⟨y, _, rfl⟩ := List.mem_map.mp hx
      exact encode_notError g y), hcell]
  goto {s n} hs hn := by
    obtain ⟨hn', hgoto, hstate⟩ := w.gotoAt hs hn
    simp only [gotoSpec, ArrCode.gotoQ, arraysCore, getElem?_toList_map _ _ hs,
      getElem?_toList_map _ _ hn', hgoto]
    cases hx : (t.states[s]).gotos[n] with
    | none => simp [arrGotoEntry, Res.isPanic]
    | some s' => simp [arrGotoEntry, hstate s' hx]
  expected := expectedOf_rows w

theorem le_listMax : ∀ (l : List Nat) (x : Nat), x ∈ l → x ≤ listMax l
  | [], _, h => by simp at h
  | y :: rest, x, h => by
    show x ≤ max y (listMax rest)
    rcases List.mem_cons.mp h with rfl | h
    · exact Nat.le_max_left _ _
    · exact Nat.le_trans (le_listMax rest x h) (Nat.le_max_right _ _)

/-- so `max_actions - l` in `arrays.rs` never underflows -/
theorem le_maxActions {t : Table} {st : State} {cell : List Action}
    (hst : st ∈ t.states.toList) (hc : cell ∈ st.actions.toList) : cell.length ≤ maxActions t := by
  unfold maxActions
  exact Nat.le_trans (le_listMax _ _ (List.mem_map_of_mem hc))
    (le_listMax _ _ (List.mem_map.mpr ⟨st, hst, rfl⟩))

theorem arrCell_length {g : Grammar} {t : Table} {st : State} {cell : List Action}
    (hst : st ∈ t.states.toList) (hc : cell ∈ st.actions.toList) :
    (arrCell g t (maxActions t) cell).length = maxActions t := by
  have := le_maxActions hst hc
  simp [arrCell]
  omega

theorem tokenKindsRow_length {g : Grammar} {t : Table} (w : WFP g t) {st : State}
    (hst : st ∈ t.states.toList) :
    (tokenKindsRow g (maxRecognizers t) st).length = maxRecognizers t := by
  have := (w.states st hst).sortedLen
  simp [tokenKindsRow]
  omega

/-- every array literal of the Arrays layout has exactly the length its type declares -/
theorem arrays_dimensions {g : Grammar} {t : Table} (w : WFP g t) :
    let c := arraysCore g t
    c.actions.length = c.stateCount ∧ c.gotos.length = c.stateCount ∧ c.tokenKinds.length = c.stateCount ∧
    (∀ row ∈ c.actions, row.length = c.terminalCount ∧ ∀ cell ∈ row, cell.length = c.maxActions) ∧
    (∀ row ∈ c.gotos, row.length = c.nonterminalCount) ∧
    (∀ row ∈ c.tokenKinds, row.length = c.maxRecognizers) := by
  refine ⟨by simp [arraysCore], by simp [arraysCore], by simp [arraysCore], ?_, ?_, ?_⟩
  · intro row hrow
    simp only [arraysCore] at hrow ⊢
    obtain ⟨st, hst, rfl⟩ := List.mem_map.mp hrow
    refine ⟨by simp [(w.states st hst).aw], ?_⟩
    intro cell hcell
    obtain ⟨c0, hc0, rfl⟩ := List.mem_map.mp hcell
    exact arrCell_length hst hc0
  · intro row hrow
    simp only [arraysCore] at hrow ⊢
    obtain ⟨st, hst, rfl⟩ := List.mem_map.mp hrow
    simp [(w.states st hst).gw]
  · intro row hrow
    simp only [arraysCore] at hrow ⊢
    obtain ⟨st, hst, rfl⟩ := List.mem_map.mp hrow
    exact tokenKindsRow_length w hst

theorem functions_faithful {g : Grammar} {t : Table} (w : WFP g t) :
    Faithful g t ((functionsCore g t).actionsQ (enums g t)) ((functionsCore g t).gotoQ (enums g t))
      ((functionsCore g t).expectedQ (enums g t)) where
  actions {s a} hs ha := by
    obtain ⟨ha', hcell, hok⟩ := w.cellAt hs ha
    have haw := (w.stateAt hs).aw
    have h1 : (functionsCore g t).actionFns[s]? = some (actionFn g t t.states[s]) :=
      getElem?_toList_map _ _ hs
    obtain ⟨hres, hfind⟩ := row_arms_select (names := (enums g t).tokens)
      (row := (t.states[s]).actions) (keep := cellNonEmpty) (mk := actionArm g t)
      (fun i hi => resolve_token w (haw ▸ hi))
    unfold FnCode.actionsQ
    rw [h1]
    simp only [actionFn, hres, hfind a ha', Bool.false_eq_true, if_false]
    rw [hcell]
    by_cases hne : (t.states[s]).actions[a] = []
    · -- empty cell: no arm, and one entry fewer than terminals, so the catch-all is there
      have hlt : ((t.states[s]).actions.toList.zipIdx.filter cellNonEmpty).length < g.nterms := by
        rw [← haw, ← Array.length_toList, ← List.length_zipIdx (l := (t.states[s]).actions.toList)]
        apply List.length_filter_lt_length_iff_exists.mpr
        exact ⟨((t.states[s]).actions[a], a), List.mem_zipIdx_iff_getElem?.mpr (by simp [ha']),
          by simp [cellNonEmpty, hne]⟩
      simp [cellNonEmpty, hlt, hne]
    · simp [cellNonEmpty, hne, actionArm, evalCell_fnCell w hok]
  goto {s n} hs hn := by
    obtain ⟨hn', hgoto, hstate⟩ := w.gotoAt hs hn
    have h1 : (functionsCore g t).gotoFns[s]? = some (gotoFn g t t.states[s]) :=
      getElem?_toList_map _ _ hs
    unfold gotoSpec FnCode.gotoQ
    rw [h1, hgoto]
    by_cases hany : (t.states[s]).gotos.toList.any (·.isSome) = true
    · -- the state has a goto function
      obtain ⟨hres, hfind⟩ := row_arms_select (names := (enums g t).nonterms)
        (row := (t.states[s]).gotos) (keep := gotoIsSome) (mk := gotoArm g t)
        (fun i hi => resolve_nonterm w ((w.stateAt hs).gw ▸ hi))
      simp only [gotoFn, hany, if_true, hres, hfind n hn', Bool.false_eq_true, if_false]
      cases hx : (t.states[s]).gotos[n] with
      | none => simp [gotoIsSome, Res.isPanic]
      | some s' => simp [gotoIsSome, gotoArm, hstate s' hx]
    · -- `goto_invalid`
      have hx : (t.states[s]).gotos[n] = none := by
        cases hx : (t.states[s]).gotos[n] with
        | none => rfl
        | some s' =>
          exact absurd (List.any_eq_true.mpr ⟨some s', by rw [← hx]; simp [Array.mem_toList_iff], rfl⟩) hany
      simp [gotoFn, hany, hx, Res.isPanic]
  expected := expectedOf_rows w

end Gen
end Rustemo
