import Rustemo.Model.LR
import Rustemo.Proofs.GenLayouts
/-!
The LR runtime model (`Model/LR.lean`) consults the table only through `cell`, `goto`, `sorted` and `layoutState`
(`ParserDefinition::{actions, goto, expected_token_kinds}`, `State::default_layout`): two tables that agree on these
(`QueryEq`) produce the same run on every input.  `tableOf` tabulates query functions as a `Table`; tabulating the decoded
answers of a `Faithful` layout (`arraysTable`, `functionsTable`) gives a table `QueryEq` to the compiler's.
-/
namespace Rustemo
namespace Gen

structure QueryEq (g : Grammar) (t1 t2 : Table) : Prop where
  cell : ∀ s a, t2.cell s a = t1.cell s a
  goto : ∀ s A, t2.goto g s A = t1.goto g s A
  sorted : ∀ s, t2.sorted s = t1.sorted s
  layout : t2.layoutState = t1.layoutState

section congr
variable (env : Env) (t2 : Table)

theorem tokenIterAux_congr (pos : Pos) :
    ∀ (l : List (Nat × Bool)) (m : Bool),
      tokenIterAux { env with t := t2 } pos m l = tokenIterAux env pos m l
  | [], _ => by simp only [tokenIterAux]
  | (k, fin) :: rest, m => by
    simp only [tokenIterAux, tokenIterAux_congr pos rest]

theorem lexNext_congr (ctx : Ctx) (exp : List (Nat × Bool)) :
    lexNext { env with t := t2 } ctx exp = lexNext env ctx exp := by
  simp only [lexNext, tokenIter, tokenIterAux_congr]
  rfl

variable (h : QueryEq env.g env.t t2)
include h

theorem nextTokenBase_congr (pp : Bool) :
    nextTokenBase { env with t := t2 } pp = nextTokenBase env pp :=
  funext fun ctx => by simp only [nextTokenBase, noToken, lexNext_congr, h.sorted]

theorem step_congr (nt : Ctx → Ctx × Outcome Tok) (c : Cfg) :
    step { env with t := t2 } nt c = step env nt c := by
  simp only [step, h.cell, h.goto]

theorem runLoop_congr (nt : Ctx → Ctx × Outcome Tok) :
    ∀ (fuel : Nat) (c : Cfg), runLoop { env with t := t2 } nt fuel c = runLoop env nt fuel c
  | 0, _ => rfl
  | fuel + 1, c => by
    simp only [runLoop, step_congr env t2 h, runLoop_congr nt fuel]

theorem parseWith_congr (nt : Ctx → Ctx × Outcome Tok) (start : Nat) (ctx : Ctx) (fuel : Nat) :
    parseWith { env with t := t2 } nt start ctx fuel = parseWith env nt start ctx fuel := by
  simp only [parseWith, runLoop_congr env t2 h]

theorem layoutParse_congr (ls : Nat) (ctx : Ctx) (fuel : Nat) :
    layoutParse { env with t := t2 } ls ctx fuel = layoutParse env ls ctx fuel := by
  simp only [layoutParse, nextTokenBase_congr env t2 h, parseWith_congr env t2 h]

theorem nextTokenMain_congr (pp : Bool) (fuel : Nat) :
    nextTokenMain { env with t := t2 } pp fuel = nextTokenMain env pp fuel :=
  funext fun ctx => by
    simp only [nextTokenMain, noToken, lexNext_congr, h.sorted, h.layout,
      nextTokenBase_congr env t2 h, layoutParse_congr env t2 h]

theorem parse_congr (pp : Bool) (fuel : Nat) :
    parse { env with t := t2 } pp fuel = parse env pp fuel := by
  simp only [parse, nextTokenMain_congr env t2 h, parseWith_congr env t2 h]

end congr

theorem tableOf_cell (ns na nn : Nat) (act goto exp layout) (s a : Nat) :
    (tableOf ns na nn act goto exp layout).cell s a = if s < ns ∧ a < na then act s a else [] := by
  unfold tableOf Table.cell
  by_cases hs : s < ns
  · by_cases ha : a < na <;> simp [hs, ha]
  · simp [hs]

theorem tableOf_gotoNt (ns na nn : Nat) (act goto exp layout) (s n : Nat) :
    (tableOf ns na nn act goto exp layout).gotoNt s n = if s < ns ∧ n < nn then goto s n else none := by
  unfold tableOf Table.gotoNt
  by_cases hs : s < ns
  · by_cases hn : n < nn <;> simp [hs, hn]
  · simp [hs]

theorem tableOf_sorted (ns na nn : Nat) (act goto exp layout) (s : Nat) :
    (tableOf ns na nn act goto exp layout).sorted s = if s < ns then exp s else [] := by
  unfold tableOf Table.sorted
  by_cases hs : s < ns <;> simp [hs]

theorem decode_encode {g : Grammar} {t : Table} {a : Action} (ha : actOk g t a = true) :
    decode g (encode g a) = some a := by
  cases a with
  | shift s => rfl
  | reduce p l => simp [encode, decode, userProds_getElem?_kindIdx (mem_userProds_of_actOk ha)]
  | accept => rfl

theorem filterMap_decode_encode {g : Grammar} {t : Table} :
    ∀ (cell : List Action), (∀ a ∈ cell, actOk g t a = true) →
      (cell.map (encode g)).filterMap (decode g) = cell
  | [], _ => rfl
  | a :: rest, H => by
    have ha := decode_encode (H a (by simp))
    have hr := filterMap_decode_encode rest (fun b hb => H b (by simp [hb]))
    simp [ha, hr]

theorem okOpt_gotoSpec {t : Table} {s n : Nat} {r : Res Nat} (h : gotoSpec t s n r) :
    okOpt r = t.gotoNt s n := by
  unfold gotoSpec at h
  cases hg : t.gotoNt s n with
  | none =>
    rw [hg] at h
    cases r <;> simp_all [okOpt, Res.isPanic]
  | some s' =>
    rw [hg] at h
    rw [show r = .ok s' from h]
    rfl

theorem cell_out_of_range {g : Grammar} {t : Table} (w : WFP g t) {s a : Nat}
    (h : ¬ (s < t.states.size ∧ a < g.nterms)) : t.cell s a = [] := by
  unfold Table.cell
  cases hst : t.states[s]? with
  | none => rfl
  | some st =>
    have hs : s < t.states.size := lt_size_of_getElem? hst
    have : ¬ a < st.actions.size := (w.state hst).aw ▸ fun ha => h ⟨hs, ha⟩
    simp [Array.getElem?_eq_none (Nat.le_of_not_lt this)]

theorem gotoNt_out_of_range {g : Grammar} {t : Table} (w : WFP g t) {s n : Nat}
    (h : ¬ (s < t.states.size ∧ n < g.nnonterms)) : t.gotoNt s n = none := by
  unfold Table.gotoNt
  cases hst : t.states[s]? with
  | none => rfl
  | some st =>
    have hs : s < t.states.size := lt_size_of_getElem? hst
    have : ¬ n < st.gotos.size := (w.state hst).gw ▸ fun hn => h ⟨hs, hn⟩
    simp [Array.getElem?_eq_none (Nat.le_of_not_lt this)]

theorem sorted_out_of_range {t : Table} {s : Nat} (h : ¬ s < t.states.size) : t.sorted s = [] := by
  unfold Table.sorted
  rw [Array.getElem?_eq_none (Nat.le_of_not_lt h)]

/-- out of range both tables answer nothing: `Faithful` speaks of the range only -/
theorem Faithful.queryEq {g : Grammar} {t : Table} {aq gq eq} (f : Faithful g t aq gq eq) (w : WFP g t) :
    QueryEq g t (tableOf t.states.size g.nterms g.nnonterms
      (fun s a => (okOr [] (aq s a)).filterMap (decode g)) (fun s n => okOpt (gq s n))
      (fun s => okOr [] (eq s)) (okOr none (enums g t).layoutQ)) := by
  refine ⟨fun s a => ?_, fun s A => ?_, fun s => ?_, by rw [layoutQ_eq w]; rfl⟩
  · rw [tableOf_cell]
    split
    · next h =>
      obtain ⟨_, hcell, hok⟩ := w.cellAt h.1 h.2
      rw [f.actions h.1 h.2]
      exact filterMap_decode_encode _ (hcell ▸ hok)
    · next h => exact (cell_out_of_range w h).symm
  · simp only [Table.goto, tableOf_gotoNt]
    split
    · split
      · next h => exact okOpt_gotoSpec (f.goto h.1 h.2)
      · next h => exact (gotoNt_out_of_range w h).symm
    · rfl
  · rw [tableOf_sorted]
    split
    · next h => rw [f.expected h]; rfl
    · next h => exact (sorted_out_of_range h).symm

theorem arraysTable_queryEq {g : Grammar} {t : Table} (w : WFP g t) :
    QueryEq g t (arraysTable g t) :=
  (arrays_faithful w).queryEq w

theorem functionsTable_queryEq {g : Grammar} {t : Table} (w : WFP g t) :
    QueryEq g t (functionsTable g t) := by
  unfold functionsTable
  rw [(enum_lengths w).2.2.1]
  exact (functions_faithful w).queryEq w

end Gen
end Rustemo
