import Rustemo.Model.Glr
import Rustemo.Proofs.ListFacts
/-!
One walk along an engine function `f` proves `SatE A E P (f ..)` and is read four ways: soundness (`A := True`), no panic
(`A := False`), no error (`E := False`: inside a frontier no function of the engine returns one) and, from a successful
run, inversion (`SatE.of_ok`).  (`Sat`, `Sat.ok`, `head_sat`: the triple without the error parameter; no walk uses it.)
Names in the Glr modules: `f_spec` says what `f` does as a relation or record (`RPStep`, `FHStep`, `ShiftRun`, `FoldSpec`,
`IASpec`), `f_sat` that a walk of `f` keeps fixed invariants, `f_hoare` is a rule carrying a caller's invariant, `x_ok` that
a lookup returns `.ok`; `X.ginv`, `.gu`, `.jinv`, `.frame`: the step `X` keeps that invariant.
-/

namespace Rustemo.Glr

def Sat {α : Type} (A : Prop) (P : α → Prop) : Outcome α → Prop
  | .ok a => P a
  | .panic _ => A
  | .err _ => True
  | .fuel => True

/-- `P` for a result, `A` for a panic, `E` for an error; `fuel` is free.  The conflict resolution (`Resolve.Holds o E Q`) and
    the LR proofs (`NotPanic o`) speak of the same type `Outcome`: `Resolve.Holds o E Q ↔ SatE E False Q o ∧ o ≠ .fuel`,
    `NotPanic o ↔ SatE False True (fun _ => True) o`; `Resolve.bindO` is `obind`. -/
def SatE {α : Type} (A E : Prop) (P : α → Prop) : Outcome α → Prop
  | .ok a => P a
  | .panic _ => A
  | .err _ => E
  | .fuel => True

variable {A E : Prop}

theorem Sat.ok {α : Type} {P : α → Prop} {a : α} (h : P a) : Sat A P (.ok a) := h

theorem SatE.bind {α β : Type} {P : α → Prop} {Q : β → Prop} {o : Outcome α} {f : α → Outcome β}
    (h : SatE A E P o) (hf : ∀ a, o = .ok a → P a → SatE A E Q (f a)) : SatE A E Q (obind o f) := by
  cases o with
  | ok a => exact hf a rfl h
  | err e => exact h
  | panic s => exact h
  | fuel => trivial

theorem SatE.bind_ok {α β : Type} {Q : β → Prop} {o : Outcome α} {f : α → Outcome β} {a : α}
    (ho : o = .ok a) (h : SatE A E Q (f a)) : SatE A E Q (obind o f) := by
  subst ho; exact h

theorem SatE.ite {α : Type} {Q : α → Prop} {c : Prop} [Decidable c] {a b : Outcome α}
    (ha : c → SatE A E Q a) (hb : ¬ c → SatE A E Q b) : SatE A E Q (if c then a else b) := by
  split
  · exact ha ‹c›
  · exact hb ‹¬ c›

theorem SatE.mono {α : Type} {P Q : α → Prop} {o : Outcome α} (h : SatE A E P o) (hpq : ∀ a, P a → Q a) :
    SatE A E Q o := by
  cases o with
  | ok a => exact hpq a h
  | err e => exact h
  | panic s => exact h
  | fuel => trivial

theorem SatE.of_ok {α : Type} {P : α → Prop} {o : Outcome α} {a : α} (h : SatE A E P o) (ho : o = .ok a) : P a := by
  subst ho; exact h

theorem SatE.not_panic {α : Type} {P : α → Prop} {o : Outcome α} (h : SatE False E P o) (s : String) : o ≠ .panic s := by
  intro ho; subst ho; exact h

theorem SatE.not_err {α : Type} {P : α → Prop} {o : Outcome α} (h : SatE A False P o) (e : PErr) : o ≠ .err e := by
  intro ho; subst ho; exact h

theorem foldO_hoare {α σ : Type} {f : σ → α → Outcome σ} {l : List α} {I : List α → σ → Prop} {s : σ} (h0 : I [] s)
    (step : ∀ (p : List α) (a : α) (q : List α) (s1 : σ), l = p ++ a :: q → I p s1 → SatE A E (I (p ++ [a])) (f s1 a)) :
    SatE A E (I l) (foldO f l s) := by
  induction l generalizing I s with
  | nil => exact h0
  | cons a rest ih =>
    exact SatE.bind (step [] a rest s rfl h0) fun s1 _ h1 =>
      ih (I := fun p => I (a :: p)) h1 fun p b q s2 hq => step (a :: p) b q s2 (by rw [hq]; rfl)

theorem foldO_sat {α σ : Type} {I : σ → Prop} {f : σ → α → Outcome σ} (l : List α) (s : σ) (h0 : I s)
    (step : ∀ s a, a ∈ l → I s → SatE A E I (f s a)) : SatE A E I (foldO f l s) :=
  foldO_hoare (I := fun _ => I) h0 fun p a _ s1 hl => step s1 a (hl ▸ List.mem_append_right p List.mem_cons_self)

theorem obind_eq_ok {α β : Type} {o : Outcome α} {f : α → Outcome β} {b : β} (h : obind o f = .ok b) :
    ∃ a, o = .ok a ∧ f a = .ok b := by
  cases o with
  | ok a => exact ⟨a, rfl, h⟩
  | err e => simp [obind] at h
  | panic s => simp [obind] at h
  | fuel => simp [obind] at h

theorem head_ok {g : Gss} {h : Nat} {hd : Head} (hh : g.heads[h]? = some hd) : g.head h = .ok hd := by
  unfold Gss.head; rw [hh]

theorem head_sat (g : Gss) (h : Nat) (hlt : h < g.heads.size) :
    Sat A (fun hd => g.heads[h]? = some hd) (g.head h) := by
  unfold Gss.head
  rw [Array.getElem?_eq_getElem hlt]
  exact rfl

theorem edge_eq_ok {g : Gss} {e : Nat} {ed : Edge} (hh : g.edge e = .ok ed) : g.edges[e]? = some ed := by
  unfold Gss.edge at hh
  split at hh
  · injection hh with hh; subst hh; assumption
  · simp at hh

theorem edge_ok {g : Gss} {e : Nat} {ed : Edge} (he : g.edges[e]? = some ed) : g.edge e = .ok ed := by
  unfold Gss.edge; rw [he]

theorem node_ok {g : Gss} {n : Nat} {nd : SNode} (h : g.nodes[n]? = some nd) : g.node n = .ok nd := by
  unfold Gss.node; rw [h]

theorem tokKind_ok {hd : Head} (h : hd.tok.isSome = true) : ∃ tk, hd.tok = some tk ∧ tokKind hd = .ok tk.kind := by
  cases hk : hd.tok with
  | none => rw [hk] at h; simp at h
  | some tk => exact ⟨tk, rfl, by unfold tokKind; rw [hk]⟩

theorem prodLhs_ok {env : Env} {p : Nat} {pr : Prod} (h : env.g.prods[p]? = some pr) : prodLhs env p = .ok pr.lhs := by
  unfold prodLhs; rw [h]

theorem gotoState_ok {env : Env} {s X s' : Nat} (h : env.t.goto env.g s X = some s') : gotoState env s X = .ok s' := by
  unfold gotoState; rw [h]

@[simp] theorem addHead_heads (g : Gss) (hd : Head) (i : Nat) :
    (g.addHead hd).1.heads[i]? = if i = g.heads.size then some hd else g.heads[i]? :=
  Array.getElem?_push

theorem addHead_old {g : Gss} {hd : Head} {i : Nat} {x : Head} (h : g.heads[i]? = some x) :
    (g.addHead hd).1.heads[i]? = some x := getElem?_push_of_some h hd

@[simp] theorem addHead_edges (g : Gss) (hd : Head) : (g.addHead hd).1.edges = g.edges := rfl

@[simp] theorem addHead_nodes (g : Gss) (hd : Head) : (g.addHead hd).1.nodes = g.nodes := rfl

@[simp] theorem addHead_idx (g : Gss) (hd : Head) : (g.addHead hd).2 = g.heads.size := rfl

@[simp] theorem addHead_size (g : Gss) (hd : Head) : (g.addHead hd).1.heads.size = g.heads.size + 1 :=
  Array.size_push _

@[simp] theorem addEdge_edges (g : Gss) (s d : Nat) (ps : List Nat) (i : Nat) :
    (g.addEdge s d ps).1.edges[i]? = if i = g.edges.size then some ⟨s, d, ps⟩ else g.edges[i]? :=
  Array.getElem?_push

theorem addEdge_old {g : Gss} {s d : Nat} {ps : List Nat} {i : Nat} {x : Edge} (h : g.edges[i]? = some x) :
    (g.addEdge s d ps).1.edges[i]? = some x := getElem?_push_of_some h _

theorem addEdge_edge_cases {g : Gss} {s d : Nat} {ps : List Nat} {e : Nat} {ed : Edge}
    (h : (g.addEdge s d ps).1.edges[e]? = some ed) : g.edges[e]? = some ed ∨ (e = g.edges.size ∧ ed = ⟨s, d, ps⟩) := by
  rw [addEdge_edges] at h
  split at h
  · exact .inr ⟨‹e = g.edges.size›, (Option.some.inj h).symm⟩
  · exact .inl h

@[simp] theorem addEdge_heads (g : Gss) (s d : Nat) (ps : List Nat) : (g.addEdge s d ps).1.heads = g.heads := rfl

@[simp] theorem addEdge_nodes (g : Gss) (s d : Nat) (ps : List Nat) : (g.addEdge s d ps).1.nodes = g.nodes := rfl

@[simp] theorem addEdge_idx (g : Gss) (s d : Nat) (ps : List Nat) : (g.addEdge s d ps).2 = g.edges.size := rfl

@[simp] theorem addEdge_size (g : Gss) (s d : Nat) (ps : List Nat) :
    (g.addEdge s d ps).1.edges.size = g.edges.size + 1 := Array.size_push _

@[simp] theorem addNode_nodes (g : Gss) (nd : SNode) (i : Nat) :
    (g.addNode nd).1.nodes[i]? = if i = g.nodes.size then some nd else g.nodes[i]? :=
  Array.getElem?_push

theorem addNode_old {g : Gss} {nd : SNode} {n : Nat} {x : SNode} (h : g.nodes[n]? = some x) :
    (g.addNode nd).1.nodes[n]? = some x := getElem?_push_of_some h nd

@[simp] theorem addNode_heads (g : Gss) (nd : SNode) : (g.addNode nd).1.heads = g.heads := rfl

@[simp] theorem addNode_edges (g : Gss) (nd : SNode) : (g.addNode nd).1.edges = g.edges := rfl

@[simp] theorem addNode_idx (g : Gss) (nd : SNode) : (g.addNode nd).2 = g.nodes.size := rfl

@[simp] theorem setHead_heads (g : Gss) (i : Nat) (hd : Head) (j : Nat) :
    (g.setHead i hd).heads[j]? = if i = j then (if i < g.heads.size then some hd else none) else g.heads[j]? :=
  Array.getElem?_setIfInBounds

@[simp] theorem setHead_edges (g : Gss) (i : Nat) (hd : Head) : (g.setHead i hd).edges = g.edges := rfl

@[simp] theorem setHead_nodes (g : Gss) (i : Nat) (hd : Head) : (g.setHead i hd).nodes = g.nodes := rfl

@[simp] theorem setHead_size (g : Gss) (i : Nat) (hd : Head) : (g.setHead i hd).heads.size = g.heads.size :=
  Array.size_setIfInBounds

@[simp] theorem pushPoss_heads (g : Gss) (e n : Nat) : (g.pushPoss e n).heads = g.heads := by
  unfold Gss.pushPoss; split <;> rfl

@[simp] theorem pushPoss_nodes (g : Gss) (e n : Nat) : (g.pushPoss e n).nodes = g.nodes := by
  unfold Gss.pushPoss; split <;> rfl

@[simp] theorem pushPoss_size (g : Gss) (e n : Nat) : (g.pushPoss e n).edges.size = g.edges.size := by
  unfold Gss.pushPoss; split <;> simp

theorem pushPoss_edges (g : Gss) (e n : Nat) (ed : Edge) (he : g.edges[e]? = some ed) (i : Nat) :
    (g.pushPoss e n).edges[i]? = if i = e then some { ed with poss := ed.poss ++ [n] } else g.edges[i]? := by
  unfold Gss.pushPoss
  rw [he]
  show (g.edges.setIfInBounds e _)[i]? = _
  rw [Array.getElem?_setIfInBounds, if_pos (lt_size_of_getElem? he)]
  by_cases h : i = e
  · rw [if_pos h, if_pos h.symm]
  · rw [if_neg h, if_neg (Ne.symm h)]

theorem mem_backedges {g : Gss} {h e : Nat} :
    e ∈ g.backedges h ↔ ∃ ed, g.edges[e]? = some ed ∧ ed.src = h := by
  unfold Gss.backedges
  simp only [List.mem_reverse, List.mem_filter, List.mem_range, edgeSrcIs]
  constructor
  · rintro ⟨hlt, hsrc⟩
    split at hsrc
    · rename_i ed hed; exact ⟨ed, hed, by simpa using hsrc⟩
    · simp at hsrc
  · rintro ⟨ed, hed, hsrc⟩
    exact ⟨lt_size_of_getElem? hed, by rw [hed]; simpa using hsrc⟩

theorem edgeBetween_some {g : Gss} {s d e : Nat} (h : g.edgeBetween s d = some e) :
    ∃ ed, g.edges[e]? = some ed ∧ ed.src = s ∧ ed.dst = d := by
  unfold Gss.edgeBetween at h
  have hm := List.mem_of_find?_eq_some h
  have hp := List.find?_some h
  obtain ⟨ed, hed, hsrc⟩ := mem_backedges.mp hm
  refine ⟨ed, hed, hsrc, ?_⟩
  unfold edgeDstIs at hp
  rw [hed] at hp
  simpa using hp

theorem edgeBetween_none {g : Gss} {s d : Nat} (h : g.edgeBetween s d = none) :
    ∀ (e : Nat) (ed : Edge), g.edges[e]? = some ed → ed.src = s → ed.dst ≠ d := by
  intro e ed hed hsrc hdst
  unfold Gss.edgeBetween at h
  rw [List.find?_eq_none] at h
  have := h e (mem_backedges.mpr ⟨ed, hed, hsrc⟩)
  unfold edgeDstIs at this
  rw [hed] at this
  simp [hdst] at this

/-- the reduction `⟨start, _, len⟩` starts at head `h`: over a parent link of `h` when `0 < len`, at `h` itself when
    `len = 0` (the two forms in which `registerActions`, the "Register actions" loop of `reducer` at parser.rs:669, and
    `initial_process_frontier` queue a reduction) -/
def StartAt (g : Gss) (start : RStart) (len h : Nat) : Prop :=
  match start with
  | .edge e => ∃ ed : Edge, g.edges[e]? = some ed ∧ ed.src = h ∧ 0 < len
  | .node n => n = h ∧ len = 0

theorem StartAt.startHeadOf {g : Gss} {r : Reduction} {h : Nat} (hs : StartAt g r.start r.len h) :
    Glr.startHeadOf g r = .ok h := by
  unfold Glr.startHeadOf
  cases hr : r.start with
  | edge e =>
    rw [hr] at hs
    obtain ⟨ed, hed, hsrc, _⟩ := hs
    dsimp only; rw [edge_ok hed, ← hsrc]; rfl
  | node n => rw [hr] at hs; rw [← hs.1]

theorem StartAt.ite {g : Gss} {e head : Nat} {ed : Edge} (hed : g.edges[e]? = some ed) (hsrc : ed.src = head) (len : Nat) :
    StartAt g (if len > 0 then .edge e else .node head) len head := by
  by_cases hl : len > 0
  · rw [if_pos hl]; exact ⟨ed, hed, hsrc, hl⟩
  · rw [if_neg hl]; exact ⟨rfl, Nat.eq_zero_of_not_pos hl⟩

/-- the reduction `⟨start, _, len⟩` starts on the chain of links `P` from `u`: over link `len - 1` when `0 < len`, at `u`
    itself when `len = 0`; a queued reduction is pending for such a chain (`PendingIn`, GlrClosure) -/
def StartOn (start : RStart) (len : Nat) (P : List Nat) (u : Nat) : Prop :=
  match start with
  | .edge e => 0 < len ∧ P[len - 1]? = some e
  | .node n => len = 0 ∧ n = u

theorem possOf_eq {g : Gss} {e : Nat} {ed : Edge} (h : g.edges[e]? = some ed) : possOf g e = ed.poss := by
  unfold possOf; rw [h]

end Rustemo.Glr
