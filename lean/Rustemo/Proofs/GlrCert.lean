import Rustemo.Model.GlrCert
import Rustemo.Proofs.CertSound
/-!
`Cert.nulOk` establishes that the list `nul` only holds symbols that derive the empty string, which is what
`Cert.structuralRN_sound` (`Proofs/CertSound.lean`) asks; `Cert.symbolsOk`: every state is entered on the symbol the
compiler recorded for it.
-/

namespace Rustemo

theorem nullable_list {g : Grammar} : ∀ (Ys : List Nat), (∀ Y ∈ Ys, Nullable g Y) →
    ∃ ts : List Tree, ValidList g ts Ys ∧ (ts.map Tree.yield).flatten = []
  | [], _ => ⟨[], rfl, rfl⟩
  | Y :: Ys, h => by
    obtain ⟨t, hv, hy⟩ := h Y (by simp)
    obtain ⟨ts, hts, hys⟩ := nullable_list Ys (fun Z hZ => h Z (by simp [hZ]))
    exact ⟨t :: ts, ⟨Y, Ys, rfl, hv, hts⟩, by simp [hy, hys]⟩

theorem validList_nil_yield (g : Grammar) (Xs : List Nat) (h : ∀ X ∈ Xs, Nullable g X) :
    ∃ cs : TreeList, cs.Valid g Xs ∧ cs.yield = [] :=
  let ⟨ts, hts, hys⟩ := nullable_list Xs h
  ⟨TreeList.ofList ts, hts, by rw [yield_ofList, hys]⟩

theorem valid_yield_nullable {g : Grammar} : ∀ (cs : TreeList) (Xs : List Nat), cs.Valid g Xs → cs.yield = [] →
    ∀ Y ∈ Xs, Nullable g Y
  | .nil, Xs, hv, _ => by simp only [TreeList.Valid] at hv; subst hv; simp
  | .cons c cs, Xs, hv, hy => by
    obtain ⟨X, Xs', rfl, hvc, hvcs⟩ := hv
    simp only [TreeList.yield, List.append_eq_nil_iff] at hy
    intro Y hY
    rcases List.mem_cons.mp hY with rfl | h
    · exact ⟨c, hvc, hy.1⟩
    · exact valid_yield_nullable cs Xs' hvcs hy.2 Y h

theorem Cert.nulOk_sound (g : Grammar) : ∀ (nul : List Nat), Cert.nulOk g nul = true →
    ∀ X ∈ nul, Nullable g X
  | [], _, X, hX => absurd hX List.not_mem_nil
  | Y :: rest, h, X, hX => by
    simp only [Cert.nulOk, Bool.and_eq_true, List.any_eq_true, beq_iff_eq, List.all_eq_true,
      List.contains_iff_mem] at h
    obtain ⟨⟨pr, hpr, hl, hr⟩, hrest⟩ := h
    have ih := Cert.nulOk_sound g rest hrest
    rcases List.mem_cons.mp hX with rfl | hX'
    · obtain ⟨cs, hcs, hy⟩ := validList_nil_yield g pr.rhs (fun Z hZ => ih Z (hr Z hZ))
      obtain ⟨p, hget⟩ : ∃ p : Nat, g.prods[p]? = some pr :=
        Array.getElem?_of_mem (Array.mem_toList_iff.mp hpr)
      exact ⟨.node p default none cs, ⟨pr, hget, hl, hcs⟩, hy⟩
    · exact ih X hX'

theorem Cert.symbolsOk_sound (g : Grammar) (t : Table) (h : Cert.symbolsOk g t = true) :
    ∀ s X s', t.trans g s X s' → t.symAt s' = X := by
  intro s X s' htr
  obtain ⟨st, hst, hc⟩ := trans_cases htr
  have := (Bool.and_eq_true _ _).mp (forStates_iff.mp h _ _ hst)
  rcases hc with ⟨_, hm⟩ | ⟨hA, hm⟩
  · simpa using forCells_iff.mp this.1 _ _ hm
  · exact (eq_of_beq (forGotos_iff.mp this.2 _ _ hm)).trans (Nat.add_sub_cancel' hA)

theorem Cert.glr_terms (g : Grammar) (ts : Array Terminal) (t : Table) :
    Cert.glr { g with terms := ts } t = Cert.glr g t := by
  have h : ∀ nul, Cert.nulOk { g with terms := ts } nul = Cert.nulOk g nul := by
    intro nul
    induction nul with
    | nil => rfl
    | cons X rest ih => simp only [Cert.nulOk, ih]
  simp only [Cert.glr, h]
  rfl

end Rustemo
