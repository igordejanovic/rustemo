import Rustemo.Proofs.GlrState
import Rustemo.Proofs.GlrCert
import Rustemo.Proofs.GlrCompleteCert
/-!
From the Boolean certificates to what the engine proofs assume: `Cert.glr` gives `TableOk`, with `Cert.completeRN`
`CertOk`; `LayoutSafe` from `Cert.glrLayout`, from the LR certificate, or for want of a layout state.
-/

namespace Rustemo.Glr

theorem tableOk_of_cert (env : Env) (h : Cert.glr env.g env.t = true) : TableOk env := by
  unfold Cert.glr at h
  simp only [Bool.and_eq_true] at h
  obtain ⟨⟨⟨h1, h2⟩, h3⟩, h4⟩ := h
  exact ⟨Cert.structuralRN_sound _ _ _ _ (Cert.nulOk_sound _ _ h1) h2, Cert.symbolsOk_sound _ _ h3,
    Cert.total_sound _ _ _ h4⟩

structure CertOk (env : Env) : Prop where
  table : TableOk env
  complete : CompleteRN env.g env.t
  gwf : GWF env.g

theorem certs_sound {env : Env} (hcert : Cert.glr env.g env.t = true) (hcomp : Cert.completeRN env.g env.t = true) :
    CertOk env :=
  ⟨tableOk_of_cert env hcert, (Cert.completeRN_sound _ _ hcomp).1, (Cert.completeRN_sound _ _ hcomp).2⟩

theorem layoutSafe_of_none (env : Env) (h : env.t.layoutState = none) : LayoutSafe env := by
  intro ls hls; rw [h] at hls; simp at hls

theorem layoutSafe_of_cert (env : Env) (hcert : Cert.glr env.g env.t = true)
    (hlay : Cert.glrLayout env.g env.t = true) : LayoutSafe env :=
  layoutSafe_of_rn env (tableOk_of_cert env hcert).s hlay

/-- from the LR certificate (a table without right-nulled entries): its last conjunct is `Cert.glrLayout` -/
theorem layoutSafe_of_lr (env : Env) (h : Cert.lr env.g env.t = true) : LayoutSafe env :=
  layoutSafe_of_rn env (Cert.lr_sound h).1.toRN (Cert.lr_sound h).2.2

end Rustemo.Glr
