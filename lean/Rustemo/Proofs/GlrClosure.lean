import Rustemo.Proofs.GlrReducePath
import Rustemo.Proofs.GlrCertOk
/-!
For one run of the reducer over a sub-frontier (level `F`, lookahead kind `a`): a chain from a root head `u` spelling a
prefix of a production `p` whose initial item (with lookahead `a`) is in the state of `u`, ending at a head of the
sub-frontier, with the rest of the production nullable from every head of level `F` on it (`KChain`), is *covered* when
the edge from the head for the goto state down to `u` carries a possibility of `p` (`CoverNode`) whose children list is
prefix-comparable with the chain, and *pending* when a reduction for one of its prefixes waits in the queue; `RCInv`:
every chain is one or the other.  `UInv`: one head per state within the sub-frontier (`subFun`) and one edge per
(src, dst) (`edgeUniq`; `GU` is the part of `UInv` that does not mention the sub-frontier) — with `CompleteRN` a chain has
at most one extension by a given symbol (`unique_ext`), so two chains with a common prefix are comparable.  (One head per
(level, state) in the whole graph is `HeadFun`, kept by the run.)
-/

namespace Rustemo.Glr

def InSub (sub : SubFrontier) (h : Nat) : Prop := ∃ s, (s, h) ∈ sub

structure UInv (F a : Nat) (g : Gss) (sub : SubFrontier) : Prop where
  edgeUniq : ∀ (e e' : Nat) (ed ed' : Edge), g.edges[e]? = some ed → g.edges[e']? = some ed' →
    ed.src = ed'.src → ed.dst = ed'.dst → e = e'
  subFun : ∀ (s h h' : Nat), (s, h) ∈ sub → (s, h') ∈ sub → h = h'
  levelIn : ∀ (e : Nat) (ed : Edge) (hs hd : Head), g.edges[e]? = some ed → g.heads[ed.src]? = some hs →
    g.heads[ed.dst]? = some hd → hs.frontier = F → hd.frontier = F → InSub sub ed.src ∧ InSub sub ed.dst
  noAbove : ∀ (h : Nat) (hd : Head), g.heads[h]? = some hd → hd.frontier ≤ F
  edgeMono : ∀ (e : Nat) (ed : Edge) (hs hd : Head), g.edges[e]? = some ed → g.heads[ed.src]? = some hs →
    g.heads[ed.dst]? = some hd → hd.frontier ≤ hs.frontier
  subKind : ∀ (s h : Nat), (s, h) ∈ sub → ∃ (hd : Head) (tk : Tok), g.heads[h]? = some hd ∧ hd.tok = some tk ∧ tk.kind = a

structure GU (F : Nat) (g : Gss) : Prop where
  edgeUniq : ∀ (e e' : Nat) (ed ed' : Edge), g.edges[e]? = some ed → g.edges[e']? = some ed' →
    ed.src = ed'.src → ed.dst = ed'.dst → e = e'
  edgeMono : ∀ (e : Nat) (ed : Edge) (hs hd : Head), g.edges[e]? = some ed → g.heads[ed.src]? = some hs →
    g.heads[ed.dst]? = some hd → hd.frontier ≤ hs.frontier
  noAbove : ∀ (h : Nat) (hd : Head), g.heads[h]? = some hd → hd.frontier ≤ F

theorem UInv.toGU {F a : Nat} {g : Gss} {sub : SubFrontier} (h : UInv F a g sub) : GU F g :=
  ⟨h.edgeUniq, h.edgeMono, h.noAbove⟩

theorem GU.mono {F F' : Nat} {g : Gss} (h : GU F g) (hle : F ≤ F') : GU F' g :=
  ⟨h.edgeUniq, h.edgeMono, fun i hd hi => Nat.le_trans (h.noAbove i hd hi) hle⟩

theorem GU.of_corr {F : Nat} {g g' : Gss} (h : GU F g)
    (he : ∀ (e : Nat) (ed' : Edge), g'.edges[e]? = some ed' →
      ∃ ed : Edge, g.edges[e]? = some ed ∧ ed.src = ed'.src ∧ ed.dst = ed'.dst)
    (hh : ∀ (j : Nat) (x : Head), g'.heads[j]? = some x → ∃ y : Head, g.heads[j]? = some y ∧ y.frontier = x.frontier) :
    GU F g' := by
  constructor
  · intro e e' ed ed' h1 h2 hs hd
    obtain ⟨x, hx, xs, xd⟩ := he e ed h1
    obtain ⟨y, hy, ys, yd⟩ := he e' ed' h2
    exact h.edgeUniq e e' x y hx hy (by rw [xs, ys, hs]) (by rw [xd, yd, hd])
  · intro e ed hs hd h1 h2 h3
    obtain ⟨x, hx, xs, xd⟩ := he e ed h1
    obtain ⟨y1, k1, f1⟩ := hh _ _ h2
    obtain ⟨y2, k2, f2⟩ := hh _ _ h3
    have := h.edgeMono e x y1 y2 hx (xs ▸ k1) (xd ▸ k2)
    omega
  · intro j x hj
    obtain ⟨y, k, f⟩ := hh _ _ hj
    have := h.noAbove j y k
    omega

theorem GU.setHead {F : Nat} {g : Gss} (h : GU F g) (i : Nat) (old hd : Head) (hold : g.heads[i]? = some old)
    (hf : hd.frontier = old.frontier) : GU F (g.setHead i hd) := by
  refine h.of_corr (fun _ ed he => ⟨ed, he, rfl, rfl⟩) fun j x hj => ?_
  rw [setHead_heads] at hj
  by_cases hij : i = j
  · subst hij
    rw [if_pos rfl, if_pos (lt_size_of_getElem? hold)] at hj
    cases hj
    exact ⟨old, hold, hf.symm⟩
  · rw [if_neg hij] at hj
    exact ⟨x, hj, rfl⟩

theorem Sol.gu {env : Env} {g g' : Gss} {nh : Head} {hA dst : Nat} {nd : SNode} {e n : Nat} {hc ec : Bool} {poss : List Nat}
    (s : Sol g g' nh hA dst nd e n hc ec poss) {F : Nat} (hu : GU F g) (hg : GInv env g) {hs hd : Head} (hhs : g'.heads[hA]? = some hs)
    (hhd : g.heads[dst]? = some hd) (hmono : hd.frontier ≤ hs.frontier)
    (hnh : hc = true → nh.frontier ≤ F) : GU F g' := by
  have hold : ∀ {i : Nat} {x : Head}, i < g.heads.size → g'.heads[i]? = some x → g.heads[i]? = some x := by
    intro i x hlt hi
    rcases s.heads_new hi with k | ⟨k, rfl, _⟩
    · exact k
    · exact absurd hlt (by rw [s.newHead k]; exact Nat.lt_irrefl _)
  constructor
  · intro i i' ed ed' h1 h2 hs' hd'
    rcases s.edge_back h1 with ⟨x, hx, xs, xd⟩ | ⟨c1, n1, s1, d1⟩ <;> rcases s.edge_back h2 with ⟨y, hy, ys, yd⟩ | ⟨c2, n2, s2, d2⟩
    · exact hu.edgeUniq i i' x y hx hy (by rw [xs, ys, hs']) (by rw [xd, yd, hd'])
    · exact absurd (by rw [xd, hd', d2]) ((s.newEdge c2).2.2 i x hx (by rw [xs, hs', s2]))
    · exact absurd (by rw [yd, ← hd', d1]) ((s.newEdge c1).2.2 i' y hy (by rw [ys, ← hs', s1]))
    · rw [n1, n2]
  · intro i ed a b hi h1 h2
    rcases s.edge_back hi with ⟨x, hx, xs, xd⟩ | ⟨_, _, s1, d1⟩
    · obtain ⟨k1, k2⟩ := ginv_srcs hg i x hx
      exact hu.edgeMono i x a b hx (hold k1 (xs ▸ h1)) (hold k2 (xd ▸ h2))
    · cases Option.mem_unique hhs (s1 ▸ h1)
      cases Option.mem_unique (s.heads_old hhd) (d1 ▸ h2)
      exact hmono
  · intro i x hi
    rcases s.heads_new hi with k | ⟨k, _, rfl⟩
    · exact hu.noAbove i x k
    · exact hnh k

theorem UInv.same {F a : Nat} {g g' : Gss} {sub : SubFrontier} (h : UInv F a g sub) (hh : g'.heads = g.heads)
    (he : g'.edges = g.edges) : UInv F a g' sub := by
  obtain ⟨_, _, _⟩ := g
  obtain ⟨_, _, _⟩ := g'
  cases hh; cases he
  exact ⟨h.edgeUniq, h.subFun, h.levelIn, h.noAbove, h.edgeMono, h.subKind⟩

theorem UInv.edge_into_level {F a : Nat} {g : Gss} {sub : SubFrontier} (hu : UInv F a g sub) {e : Nat} {ed : Edge}
    {hs hd : Head} (he : g.edges[e]? = some ed) (hhs : g.heads[ed.src]? = some hs) (hhd : g.heads[ed.dst]? = some hd)
    (hF : hd.frontier = F) : hs.frontier = F ∧ InSub sub ed.src ∧ InSub sub ed.dst :=
  have hl : hs.frontier = F := Nat.le_antisymm (hu.noAbove _ hs hhs) (hF ▸ hu.edgeMono e ed hs hd he hhs hhd)
  ⟨hl, hu.levelIn e ed hs hd he hhs hhd hl hF⟩

theorem chain_root_inSub {t : Table} {g : Gss} {F a : Nat} {sub : SubFrontier}
    (hu : UInv F a g sub) {P Xs : List Nat} {u v : Nat} {hu' : Head} (hc : ChainEnd t g P Xs u v)
    (hv : InSub sub v) (hhu : g.heads[u]? = some hu') (hF : hu'.frontier = F) : InSub sub u := by
  cases P with
  | nil => rw [hc.2]; exact hv
  | cons e es =>
    obtain ⟨ed, hs, X, Xs', he, hhs, _, hdst, _, _⟩ := hc
    exact hdst ▸ (hu.edge_into_level he hhs (hdst ▸ hhu) hF).2.2

theorem chain_items_prefix {env : Env} (hC : CompleteRN env.g env.t) {g : Gss} (hg : GInv env g) {p : Nat} {pr : Prod}
    {a : Nat} (hpr : env.g.prods[p]? = some pr) :
    ∀ {P Xs : List Nat} {u v : Nat} {hu hv : Head} (d : Nat), ChainEnd env.t g P Xs u v →
      Xs <+: pr.rhs.drop d → g.heads[u]? = some hu → g.heads[v]? = some hv →
      env.t.hasItemLA hu.state p d a → env.t.hasItemLA hv.state p (d + P.length) a
  | [] => by
    intro d h _ hhu hhv hi
    rw [h.2] at hhu; obtain rfl := Option.mem_unique hhu hhv
    exact hi
  | e :: es => by
    intro d h hXs hhu hhv hi
    obtain ⟨ed, hs, X, Xs', he, hhs, hX, hdst, hsym, hr⟩ := h
    subst hX
    obtain ⟨hXd, hXs'⟩ := cons_prefix_drop hXs
    have htr := hg.edge_trans he hhs (hdst ▸ hhu)
    obtain ⟨s', htr', hi'⟩ := hC.trans _ p d a pr _ hi hpr hXd
    rw [hsym] at htr
    rw [hC.trans_det htr' htr] at hi'
    have := chain_items_prefix hC hg hpr (d+1) hr hXs' hhs hhv hi'
    rw [Nat.add_right_comm] at this
    exact this

theorem unique_ext {env : Env} (hC : CompleteRN env.g env.t) {g : Gss} (hg : GInv env g) {F a : Nat}
    {sub : SubFrontier} (hu : UInv F a g sub) (hsub : SubOk g F sub) :
    ∀ {P1 P2 Xs1 Xs2 : List Nat} {w v1 v2 : Nat} {hw : Head}, g.heads[w]? = some hw → hw.frontier = F →
      ChainEnd env.t g P1 Xs1 w v1 → ChainEnd env.t g P2 Xs2 w v2 → (Xs1 <+: Xs2 ∨ Xs2 <+: Xs1) →
      P1 <+: P2 ∨ P2 <+: P1
  | [], _ => fun _ _ _ _ _ => Or.inl (List.nil_prefix)
  | _ :: _, [] => fun _ _ _ _ _ => Or.inr (List.nil_prefix)
  | e1 :: P1, e2 :: P2 => by
    intro hhw hF h1 h2 hXs
    obtain ⟨ed1, hs1, X1, Xs1', he1, hhs1, hX1, hdst1, hsym1, hr1⟩ := h1
    obtain ⟨ed2, hs2, X2, Xs2', he2, hhs2, hX2, hdst2, hsym2, hr2⟩ := h2
    subst hX1 hX2
    have hXeq : X1 = X2 ∧ (Xs1' <+: Xs2' ∨ Xs2' <+: Xs1') := by
      rcases hXs with h | h
      · rw [List.cons_prefix_cons] at h; exact ⟨h.1, Or.inl h.2⟩
      · rw [List.cons_prefix_cons] at h; exact ⟨h.1.symm, Or.inr h.2⟩
    obtain ⟨hX, hXs'⟩ := hXeq
    subst hX
    -- both source heads are in the same state (`edge_into_level`: on level `F`, in the sub-frontier)
    have htr1 := hg.edge_trans he1 hhs1 (hdst1 ▸ hhw)
    have htr2 := hg.edge_trans he2 hhs2 (hdst2 ▸ hhw)
    rw [hsym1] at htr1
    rw [hsym2] at htr2
    have hst : hs1.state = hs2.state := hC.trans_det htr1 htr2
    obtain ⟨hl1, ⟨s1, hin1⟩, _⟩ := hu.edge_into_level he1 hhs1 (hdst1 ▸ hhw) hF
    obtain ⟨-, ⟨s2, hin2⟩, _⟩ := hu.edge_into_level he2 hhs2 (hdst2 ▸ hhw) hF
    obtain ⟨x1, hx1, hxs1, _, _⟩ := hsub _ _ hin1
    obtain ⟨x2, hx2, hxs2, _, _⟩ := hsub _ _ hin2
    obtain rfl := Option.mem_unique hhs1 hx1
    obtain rfl := Option.mem_unique hhs2 hx2
    have hsrc : ed1.src = ed2.src := by
      apply hu.subFun s1 _ _ hin1
      rw [← hxs1, hst, hxs2]; exact hin2
    have hee : e1 = e2 := hu.edgeUniq e1 e2 ed1 ed2 he1 he2 hsrc (by rw [hdst1, hdst2])
    subst hee
    obtain rfl := Option.mem_unique he1 he2
    rcases unique_ext hC hg hu hsub hhs1 hl1 hr1 hr2 hXs' with h | h
    · exact Or.inl (List.cons_prefix_cons.mpr ⟨rfl, h⟩)
    · exact Or.inr (List.cons_prefix_cons.mpr ⟨rfl, h⟩)

def Covered (rs : RState) (u p : Nat) (P : List Nat) (s' : Nat) : Prop :=
  ∃ (hA e : Nat) (ed : Edge) (n : Nat) (sp : Span) (l : Option Slice) (C : List Nat),
    sfGet s' rs.sub = some hA ∧ rs.gss.edges[e]? = some ed ∧ ed.src = hA ∧ ed.dst = u ∧ n ∈ ed.poss ∧
    rs.gss.nodes[n]? = some (.nonterm p sp l C) ∧ (C <+: P ∨ P <+: C)

def CoverNode (rs : RState) (u p s' : Nat) (C : List Nat) : Prop :=
  ∃ (hA e : Nat) (ed : Edge) (n : Nat) (sp : Span) (l : Option Slice), sfGet s' rs.sub = some hA ∧
    rs.gss.edges[e]? = some ed ∧ ed.src = hA ∧ ed.dst = u ∧ n ∈ ed.poss ∧ rs.gss.nodes[n]? = some (.nonterm p sp l C)

theorem covered_iff {rs : RState} {u p : Nat} {P : List Nat} {s' : Nat} :
    Covered rs u p P s' ↔ ∃ C, CoverNode rs u p s' C ∧ (C <+: P ∨ P <+: C) :=
  ⟨fun ⟨hA, e, ed, n, sp, l, C, a, b, c, d, f, g, h⟩ => ⟨C, ⟨hA, e, ed, n, sp, l, a, b, c, d, f, g⟩, h⟩,
   fun ⟨C, ⟨hA, e, ed, n, sp, l, a, b, c, d, f, g⟩, h⟩ => ⟨hA, e, ed, n, sp, l, C, a, b, c, d, f, g, h⟩⟩

def PendingIn (queue : List Reduction) (u p : Nat) (P : List Nat) : Prop :=
  ∃ r ∈ queue, r.prod = p ∧ r.len ≤ P.length ∧
    (match r.start with
     | .edge e => 0 < r.len ∧ P[r.len - 1]? = some e
     | .node n => r.len = 0 ∧ n = u)

def NullOk (env : Env) (g : Gss) (F : Nat) (pr : Prod) (u : Nat) (P : List Nat) : Prop :=
  ∀ (i : Nat), i ≤ P.length → ∀ (w : Nat) (hw : Head), ChainEnd env.t g (P.take i) (pr.rhs.take i) u w →
    g.heads[w]? = some hw → hw.frontier = F → ∀ Y ∈ pr.rhs.drop i, Nullable env.g Y

structure KChain (env : Env) (F a : Nat) (g : Gss) (sub : SubFrontier) (u p : Nat) (pr : Prod) (P : List Nat)
    (s' : Nat) : Prop where
  root : ∃ hu : Head, g.heads[u]? = some hu ∧ env.t.hasItemLA hu.state p 0 a ∧ env.t.goto env.g hu.state pr.lhs = some s'
  prod : env.g.prods[p]? = some pr
  notAug : env.g.isAug p = false
  len : P.length ≤ pr.rhs.length
  chain : ∃ v, ChainEnd env.t g P (pr.rhs.take P.length) u v ∧ InSub sub v
  nullOk : NullOk env g F pr u P
  live : env.t.cell s' a ≠ []

theorem KChain.pre {env : Env} {F a : Nat} {g : Gss} {sub : SubFrontier} {u p : Nat} {pr : Prod} {P : List Nat} {s' : Nat}
    (hk : KChain env F a g sub u p pr P s') {k : Nat} (hkl : k ≤ P.length) :
    ∃ w, ChainEnd env.t g (P.take k) (pr.rhs.take k) u w := by
  obtain ⟨v, hc, _⟩ := hk.chain
  obtain ⟨w, hcw, _⟩ := ChainEnd.split k hc
  rw [List.take_take, Nat.min_eq_left hkl] at hcw
  exact ⟨w, hcw⟩

theorem KChain.reduce_at {env : Env} (hC : CompleteRN env.g env.t) {F a : Nat} {g : Gss} (hg : GInv env g)
    {sub : SubFrontier} {u p : Nat} {pr : Prod} {P : List Nat} {s' : Nat} (hk : KChain env F a g sub u p pr P s')
    {k : Nat} (hkl : k ≤ P.length) {w : Nat} {hw : Head} (hc : ChainEnd env.t g (P.take k) (pr.rhs.take k) u w)
    (hhw : g.heads[w]? = some hw) (hF : hw.frontier = F) : Action.reduce p k ∈ env.t.cell hw.state a := by
  obtain ⟨hu, hhu, hitem, _⟩ := hk.root
  have hi := chain_items_prefix hC hg hk.prod 0 hc (List.take_prefix k _) hhu hhw hitem
  rw [List.length_take, Nat.min_eq_left hkl, Nat.zero_add] at hi
  exact hC.reduceRN _ p k a pr hk.prod hi hk.notAug (hk.nullOk k hkl w hw hc hhw hF)

theorem KChain.back {env : Env} {F a : Nat} {g g' : Gss} {sub sub' : SubFrontier} {u p : Nat} {pr : Prod} {P : List Nat}
    {s' : Nat} (hk : KChain env F a g' sub' u p pr P s') (hx : Ext g g')
    (hroot : ∀ hu : Head, g'.heads[u]? = some hu → g.heads[u]? = some hu)
    (hchain : ∀ v, ChainEnd env.t g' P (pr.rhs.take P.length) u v → InSub sub' v →
      ChainEnd env.t g P (pr.rhs.take P.length) u v ∧ InSub sub v) : KChain env F a g sub u p pr P s' := by
  obtain ⟨hu, hhu, hitem, hgoto⟩ := hk.root
  obtain ⟨v, hc, hv⟩ := hk.chain
  refine ⟨⟨hu, hroot hu hhu, hitem, hgoto⟩, hk.prod, hk.notAug, hk.len, ⟨v, hchain v hc hv⟩, ?_, hk.live⟩
  intro i hi w hw hcw hhw hF
  obtain ⟨hw', hhw', _, hf, _⟩ := hx.heads w hw hhw
  exact hk.nullOk i hi w hw' (ChainEnd.ext hx hcw) hhw' (hf.trans hF)

/-- `R`: an extra escape, for the paths of the reduction being processed -/
def RCInvR (env : Env) (F a : Nat) (rs : RState) (R : Nat → Nat → List Nat → Prop) : Prop :=
  ∀ (u p : Nat) (pr : Prod) (P : List Nat) (s' : Nat), KChain env F a rs.gss rs.sub u p pr P s' →
    Covered rs u p P s' ∨ PendingIn rs.queue u p P ∨ R u p P

abbrev RCInv (env : Env) (F a : Nat) (rs : RState) : Prop := RCInvR env F a rs (fun _ _ _ => False)

theorem Sol.chain_back {env : Env} {g g' : Gss} {nh : Head} {hA dst : Nat} {nd : SNode} {e n : Nat} {hc ec : Bool}
    {poss : List Nat} (s : Sol g g' nh hA dst nd e n hc ec poss) (hg : GInv env g) {P Xs : List Nat} {u v : Nat}
    (hne : ec = true → e ∉ P) (h : ChainEnd env.t g' P Xs u v) : ChainEnd env.t g P Xs u v := by
  refine ChainEnd.mono_on (fun i hi ed' hs hed' hhs => ?_) h
  rcases s.edge_back hed' with ⟨ed, hed, hsrc, hdst⟩ | ⟨hec, rfl, _⟩
  · obtain ⟨hs0, _, hhs0, _⟩ := (hg.edges i ed hed).ends
    obtain rfl := Option.mem_unique hhs (hsrc ▸ s.heads_old hhs0)
    exact ⟨ed, hs, hed, hsrc, hdst, hsrc ▸ hhs0, rfl⟩
  · exact absurd hi (hne hec)

section

variable {env : Env} {rs rs' : RState} {sh : Head} {s' kind : Nat} {q : Path} {nd : SNode} {hA e n : Nat} {hc ec : Bool}
  {poss : List Nat}

theorem NewSol.coverNode_fwd (ns : NewSol env rs rs' sh s' kind q nd hA e n hc ec poss) {F a : Nat}
    (hU' : UInv F a rs'.gss rs'.sub) {u p s'' : Nat} {C : List Nat} (h : CoverNode rs u p s'' C) :
    CoverNode rs' u p s'' C := by
  obtain ⟨hA', e', ed, m, sp, l, h1, h2, h3, h4, h5, h6⟩ := h
  obtain ⟨ed', he', hsrc, hdst, hposs⟩ := ns.edge_fwd h2
  exact ⟨hA', e', ed', m, sp, l, sfGet_of_mem hU'.subFun (ns.sub.old (sfGet_mem h1)), he', hsrc.trans h3,
    hdst.trans h4, hposs m h5, ns.nodes_old h6⟩

theorem NewSol.kchain_cases (ns : NewSol env rs rs' sh s' kind q nd hA e n hc ec poss) (hg : GInv env rs.gss) {F a : Nat}
    {u p : Nat} {pr : Prod} {P : List Nat} {s'' : Nat} (hk : KChain env F a rs'.gss rs'.sub u p pr P s'') :
    KChain env F a rs.gss rs.sub u p pr P s'' ∨
    ∃ k, k ≤ P.length ∧ ChainEnd env.t rs'.gss (P.take k) (pr.rhs.take k) u hA ∧
      StartOn (if k > 0 then .edge e else .node hA) k P u ∧ ((ec && decide (k > 0)) || hc) = true := by
  by_cases hcase1 : ec = true ∧ e ∈ P
  · obtain ⟨hec, heP⟩ := hcase1
    obtain ⟨i, hi, hget⟩ := List.getElem_of_mem heP
    have hgi : P[i]? = some e := by rw [List.getElem?_eq_getElem hi, hget]
    obtain ⟨w, hcw⟩ := hk.pre (k := i + 1) hi
    have hw : w = hA := by
      have hcw' := hcw
      rw [List.take_add_one, hgi] at hcw'
      obtain ⟨_, ed', _, hed', hsrc', _⟩ := ChainEnd.last hcw'
      rw [ns.edge] at hed'; injection hed' with hed'; subst hed'
      exact hsrc'.symm
    subst hw
    exact Or.inr ⟨i + 1, hi, hcw, by rw [if_pos (Nat.succ_pos i)]; exact ⟨Nat.succ_pos i, hgi⟩, by simp [hec]⟩
  · by_cases hcase2 : hc = true ∧ u = hA
    · -- the root is the new head: no edge goes down to it yet, so the chain is empty
      obtain ⟨hhc, rfl⟩ := hcase2
      have hP : P = [] := by
        obtain ⟨v, hcP, _⟩ := hk.chain
        cases P with
        | nil => rfl
        | cons i es =>
          exfalso
          obtain ⟨ed', _, _, _, hed', _, _, hdst', _⟩ := hcP
          rcases ns.edge_back hed' with ⟨ed0, k1, _, k3⟩ | ⟨k1, rfl, _⟩
          · have := (ginv_srcs hg i ed0 k1).2
            rw [k3, hdst', ns.newHead hhc] at this
            exact Nat.lt_irrefl _ this
          · exact hcase1 ⟨k1, List.mem_cons_self⟩
      subst hP
      exact Or.inr ⟨0, Nat.zero_le _, ⟨rfl, rfl⟩, ⟨rfl, rfl⟩, by simp [hhc]⟩
    · have hroot : ∀ hu : Head, rs'.gss.heads[u]? = some hu → rs.gss.heads[u]? = some hu := fun hu h =>
        (ns.heads_new h).resolve_right fun ⟨k, hi, _⟩ => hcase2 ⟨k, hi⟩
      refine Or.inl (hk.back ns.ext hroot fun v hcv ⟨s, hm⟩ => ?_)
      have hc0 := ns.chain_back hg (fun hec heP => hcase1 ⟨hec, heP⟩) hcv
      refine ⟨hc0, s, (ns.sub.mem hm).resolve_right fun ⟨hhc, hx⟩ => ?_⟩
      -- the end of an old chain is an old head
      have hvold : v < rs.gss.heads.size := by
        rcases ChainEnd.end_cases hc0 with ⟨_, hv⟩ | ⟨i, _, ed, hed, hsrc⟩
        · obtain ⟨hu, hhu, _⟩ := hk.root
          exact hv ▸ lt_size_of_getElem? (hroot hu hhu)
        · exact hsrc ▸ (ginv_srcs hg i ed hed).1
      cases hx
      exact Nat.lt_irrefl _ (ns.newHead hhc ▸ hvold)

end

end Rustemo.Glr
