import Rustemo.Proofs.GlrClosure
import Rustemo.Proofs.GlrReducer
/-!
The worklist argument.  Its step is `RCInvR.step`: the chains pending by the path being processed become covered, every
other chain stays as it was or becomes pending by what was queued; `PathRun.rcinv` feeds it the three cases of a reducer
step.  At the empty queue nothing is pending, so every chain is covered (`reducerLoop_closure`).
-/

namespace Rustemo.Glr

/-- the escape `R` of `RCInvR` while a reduction of `p0` over `len0` links is processed: the chain runs over one of its
    paths that are still to be reduced -/
def Rem (p0 len0 : Nat) (remaining : List Path) : Nat → Nat → List Nat → Prop :=
  fun u p P => p = p0 ∧ len0 ≤ P.length ∧ (⟨P.take len0, u⟩ : Path) ∈ remaining

/-- a covering node whose children `C` share with the chain `P` a prefix `K` that ends on level `F` covers `P`: from
    there on both are chains inside the level, hence comparable (`unique_ext`) -/
theorem covered_of_common_prefix {env : Env} (hC : CompleteRN env.g env.t) {F a : Nat} {rs' : RState}
    (hg : GInv env rs'.gss) (hu : UInv F a rs'.gss rs'.sub) (hsub : SubOk rs'.gss F rs'.sub) {p0 : Nat} {pr0 : Prod}
    {u0 s' : Nat} {C P K Xs : List Nat} (hcn : CoverNode rs' u0 p0 s' C) (hk : KChain env F a rs'.gss rs'.sub u0 p0 pr0 P s')
    (hKC : K <+: C) (hKP : K <+: P) {w : Nat} {hw : Head} (hcK : ChainEnd env.t rs'.gss K Xs u0 w)
    (hhw : rs'.gss.heads[w]? = some hw) (hF : hw.frontier = F) : Covered rs' u0 p0 P s' := by
  refine covered_iff.mpr ⟨C, hcn, ?_⟩
  obtain ⟨hA, e, ed, n, sp, l, -, hed, -, hdst, hn, hnd⟩ := hcn
  obtain ⟨hs, _, hhs, _⟩ := (hg.edges e ed hed).ends
  obtain ⟨pr, hpr, _, vC, _, hcC, _⟩ := poss_chain hg hed hhs hn hnd
  obtain rfl := Option.mem_unique hpr hk.prod
  rw [hdst] at hcC
  obtain ⟨v, hcP, _⟩ := hk.chain
  obtain ⟨R1, rfl⟩ := hKC
  obtain ⟨R2, rfl⟩ := hKP
  obtain ⟨w1, a1, b1⟩ := ChainEnd.split K.length hcC
  obtain ⟨w2, a2, b2⟩ := ChainEnd.split K.length hcP
  simp only [List.take_left', List.drop_left'] at a1 a2 b1 b2
  cases ChainEnd.end_unique a1 hcK
  cases ChainEnd.end_unique a2 hcK
  rcases unique_ext hC hg hu hsub hhw hF b1 b2 (take_drop_prefix pr.rhs K.length _ _) with h | h
  · exact Or.inl ((List.prefix_append_right_inj _).mpr h)
  · exact Or.inr ((List.prefix_append_right_inj _).mpr h)

theorem kchain_goto_eq {env : Env} {F a : Nat} {g : Gss} {sub : SubFrontier} {u p : Nat} {pr : Prod} {P : List Nat}
    {s'' : Nat} (hk : KChain env F a g sub u p pr P s'') {pr0 : Prod} (hpr0 : env.g.prods[p]? = some pr0)
    {hr : Head} (hhr : g.heads[u]? = some hr) {s' : Nat} (hgoto : env.t.goto env.g hr.state pr0.lhs = some s') :
    pr = pr0 ∧ s'' = s' := by
  have h1 := hk.prod
  obtain rfl := Option.mem_unique hpr0 h1
  obtain ⟨hu, hhu, _, hg⟩ := hk.root
  obtain rfl := Option.mem_unique hhr hhu
  rw [hgoto] at hg; injection hg with hg
  exact ⟨rfl, hg.symm⟩

theorem RCInvR.step {env : Env} {F a : Nat} {rs rs' : RState} {p0 len0 : Nat} {q : Path} {rest : List Path}
    (hinv : RCInvR env F a rs (Rem p0 len0 (q :: rest)))
    (hback : ∀ {u p : Nat} {pr : Prod} {P : List Nat} {s' : Nat}, KChain env F a rs'.gss rs'.sub u p pr P s' →
      KChain env F a rs.gss rs.sub u p pr P s' ∨ PendingIn rs'.queue u p P)
    (hcov : ∀ {u p : Nat} {pr : Prod} {P : List Nat} {s' : Nat}, KChain env F a rs'.gss rs'.sub u p pr P s' →
      Covered rs u p P s' → Covered rs' u p P s')
    (hq : ∀ r ∈ rs.queue, r ∈ rs'.queue)
    (hdone : ∀ {pr : Prod} {P : List Nat} {s' : Nat}, KChain env F a rs'.gss rs'.sub q.root p0 pr P s' →
      q.parents <+: P → Covered rs' q.root p0 P s') :
    RCInvR env F a rs' (Rem p0 len0 rest) := by
  intro u p pr P s' hk
  rcases hback hk with hk0 | hp
  · rcases hinv u p pr P s' hk0 with h | ⟨r, hr, h⟩ | ⟨rfl, hl, hm⟩
    · exact Or.inl (hcov hk h)
    · exact Or.inr (Or.inl ⟨r, hq r hr, h⟩)
    · rcases List.mem_cons.mp hm with rfl | hm
      · exact Or.inl (hdone hk (List.take_prefix len0 P))
      · exact Or.inr (Or.inr ⟨rfl, hl, hm⟩)
  · exact Or.inr (Or.inl hp)

theorem path_covered {env : Env} (hC : CompleteRN env.g env.t) {F a : Nat} {rs rs' : RState} (hx : Ext rs.gss rs'.gss)
    (hI' : RInv env F rs') (hU' : UInv F a rs'.gss rs'.sub) {p0 len0 : Nat} {pr0 : Prod} {startHead : Nat} {sh : Head}
    {q : Path} (c : PathCall env F rs.gss p0 len0 pr0 startHead sh q) {hr : Head} (hhr : rs.gss.heads[q.root]? = some hr)
    {s' : Nat} (hgoto : env.t.goto env.g hr.state pr0.lhs = some s') {C : List Nat} (hcn : CoverNode rs' q.root p0 s' C)
    (hQC : q.parents <+: C) {pr : Prod} {P : List Nat} {s'' : Nat}
    (hk : KChain env F a rs'.gss rs'.sub q.root p0 pr P s'') (hQP : q.parents <+: P) : Covered rs' q.root p0 P s'' := by
  obtain ⟨hr', hhr', hst, _⟩ := hx.heads _ hr hhr
  obtain ⟨sh', hsh', _, hf, _⟩ := hx.heads _ sh c.hsh
  obtain ⟨rfl, rfl⟩ := kchain_goto_eq hk c.hpr hhr' (hst ▸ hgoto)
  exact covered_of_common_prefix hC hI'.g hU' hI'.sub hcn hk hQC hQP (ChainEnd.ext hx c.path.chain) hsh' (hf.trans c.hF)

theorem no_term_on_goto_edge {env : Env} (hW : GWF env.g) {g : Gss} (hg : GInv env g) {e : Nat} {ed : Edge}
    (hed : g.edges[e]? = some ed) {hs : Head} (hhs : g.heads[ed.src]? = some hs) {p : Nat} {pr : Prod}
    (hpr : env.g.prods[p]? = some pr) (hsym : env.t.symAt hs.state = pr.lhs) :
    ∀ n ∈ ed.poss, ∀ (tk : Tok) (sp : Span), g.nodes[n]? ≠ some (.term tk sp) := by
  intro n hn tk sp hnd
  obtain ⟨nd, hnd', hfit⟩ := hg.fits hed hhs hn
  obtain rfl := Option.mem_unique hnd hnd'
  obtain ⟨h1, h2, _⟩ := hfit
  rw [hsym] at h2
  exact Nat.not_lt.mpr (hW.lhs_nonterm p pr hpr) h2

def QSub (rs : RState) : Prop :=
  ∀ r ∈ rs.queue, ∃ h, startHeadOf rs.gss r = .ok h ∧ InSub rs.sub h

theorem startHeadOf_ext {g g' : Gss} (hx : Ext g g') {r : Reduction} {h : Nat} (hs : startHeadOf g r = .ok h) :
    startHeadOf g' r = .ok h := by
  unfold startHeadOf at hs ⊢
  cases hst : r.start with
  | edge e =>
    rw [hst] at hs
    simp only at hs ⊢
    obtain ⟨ed, hed, hs⟩ := obind_eq_ok hs
    injection hs with hs
    obtain ⟨ed', hed', hsrc, _⟩ := hx.edges e ed (edge_eq_ok hed)
    rw [edge_ok hed']
    simp only [obind]
    rw [hsrc, hs]
  | node n => rw [hst] at hs; exact hs

section

variable {env : Env} {F a : Nat} {rs rs' : RState} {p0 len0 : Nat} {pr0 : Prod} {startHead : Nat} {q : Path} {sh hr : Head}
  {tk : Tok} {s' : Nat}

theorem RPStep.sub_old (h : RPStep env p0 rs q sh a hr s' rs') {x : Nat × Nat} (hx : x ∈ rs.sub) : x ∈ rs'.sub := by
  cases h with
  | skip _ heq => rw [heq]; exact hx
  | fold _ _ _ _ _ fr => rw [fr.eq]; exact hx
  | new _ _ _ _ _ _ _ _ ns => exact ns.sub.old hx

theorem RPStep.qsub (h : RPStep env p0 rs q sh a hr s' rs') (hx : Ext rs.gss rs'.gss) (hqs : QSub rs) : QSub rs' := by
  intro r hr
  have hold : r ∈ rs.queue → ∃ h, startHeadOf rs'.gss r = .ok h ∧ InSub rs'.sub h := fun h0 =>
    let ⟨h1, hs1, s, hm⟩ := hqs r h0
    ⟨h1, startHeadOf_ext hx hs1, s, h.sub_old hm⟩
  cases h with
  | skip _ heq => exact hold (heq ▸ hr)
  | fold _ _ _ _ _ fr => exact hold (by rw [fr.eq] at hr; exact hr)
  | new hA e n hc ec poss span hne ns =>
    rcases ns.mem_queue.mp hr with h0 | ⟨p, len, _, _, rfl⟩
    · exact hold h0
    · exact ⟨hA, (StartAt.ite ns.edge rfl len).startHeadOf (r := ⟨_, p, len⟩), _, ns.sub.self⟩

theorem PathRun.uinv (d : PathRun env F rs rs' p0 len0 pr0 startHead sh q tk hr s') (hI : RInv env F rs)
    (hI' : RInv env F rs') (hU : UInv F tk.kind rs.gss rs.sub) (hroot : hr.frontier = F → InSub rs.sub q.root) :
    UInv F tk.kind rs'.gss rs'.sub := by
  have hhr := d.hhr
  cases d.step with
  | skip _ heq => rw [heq]; exact hU
  | fold hA e ed g' _ fr =>
    rw [fr.eq]
    exact hU.same fr.spec.heads fr.spec.edges
  | new hA e n hc ec poss span hne ns =>
    obtain ⟨hdA, hhdA, -, hfA, -⟩ := hI'.sub _ _ ns.sub.self
    have hhr' := ns.heads_old hhr
    have gu : GU F rs'.gss :=
      ns.gu hU.toGU hI.g hhdA hhr (hfA ▸ hU.noAbove _ _ hhr) fun _ => Nat.le_of_eq d.hF
    refine ⟨gu.edgeUniq, ?_, ?_, gu.noAbove, gu.edgeMono, ?_⟩
    · -- a new entry has a fresh key
      intro s i i' h1 h2
      rcases ns.sub.mem h1 with o1 | ⟨c1, x1⟩ <;> rcases ns.sub.mem h2 with o2 | ⟨c2, x2⟩
      · exact hU.subFun s i i' o1 o2
      · cases x2; cases c2; exact absurd rfl (ns.sub.fresh _ o1)
      · cases x1; cases c1; exact absurd rfl (ns.sub.fresh _ o2)
      · cases x1; cases x2; rfl
    · -- an old edge joins old heads; the edge of the solution joins an entry to the root
      intro i ed hs hd h1 h2 h3 h4 h5
      rcases ns.edges_new h1 with ⟨_, k⟩ | ⟨_, rfl⟩
      · obtain ⟨a1, b1, ha1, hb1, _⟩ := (hI.g.edges i ed k).ends
        obtain rfl := Option.mem_unique h2 (ns.heads_old ha1)
        obtain rfl := Option.mem_unique h3 (ns.heads_old hb1)
        obtain ⟨⟨sa, ma⟩, ⟨sb, mb⟩⟩ := hU.levelIn i ed _ _ k ha1 hb1 h4 h5
        exact ⟨⟨sa, ns.sub.old ma⟩, ⟨sb, ns.sub.old mb⟩⟩
      · obtain rfl := Option.mem_unique h3 hhr'
        exact ⟨⟨s', ns.sub.self⟩, let ⟨s, hm⟩ := hroot h5; ⟨s, ns.sub.old hm⟩⟩
    · intro s i hm
      rcases ns.sub.mem hm with o | ⟨c, x⟩
      · obtain ⟨hd, tk', k1, k2, k3⟩ := hU.subKind s i o
        exact ⟨hd, tk', ns.heads_old k1, k2, k3⟩
      · cases x; exact ⟨_, tk, ns.head_new c, d.htk, rfl⟩

theorem PathRun.rcinv (d : PathRun env F rs rs' p0 len0 pr0 startHead sh q tk hr s') (hK : CertOk env)
    (hI : RInv env F rs) (hI' : RInv env F rs')
    (hU' : UInv F tk.kind rs'.gss rs'.sub) (hx : Ext rs.gss rs'.gss) {rest : List Path}
    (hinv : RCInvR env F tk.kind rs (Rem p0 len0 (q :: rest))) : RCInvR env F tk.kind rs' (Rem p0 len0 rest) := by
  obtain ⟨hT, hC, hW⟩ := hK
  have c := d.toPathCall
  have hhr := d.hhr
  have hgoto := d.hgoto
  cases d.step with
  | skip hempty heq =>
    subst heq
    refine hinv.step Or.inl (fun _ h => h) (fun _ h => h) fun hk _ => ?_
    -- the goto state is dead on the lookahead: no chain over `q` has the premises
    obtain ⟨_, hs⟩ := kchain_goto_eq hk c.hpr hhr hgoto
    exact absurd (hs ▸ hempty) hk.live
  | fold hA e ed g' _ fr =>
    obtain ⟨hget, hed, hsrc, hdst, hdiff, hspec, hrs'⟩ := fr
    subst hrs'
    have hheads : g'.heads = rs.gss.heads := hspec.heads
    have hedges : g'.edges = rs.gss.edges := hspec.edges
    -- the head of the edge is entered on the production's left-hand side: no terminal node on the edge
    obtain ⟨ha, hha, hhas, hhaF, _⟩ := hI.sub _ _ hget
    have hsymA : env.t.symAt ha.state = pr0.lhs := by rw [hhas]; exact hT.sym _ _ _ (Table.trans_of_goto hgoto)
    obtain ⟨n0, hn0, sp0, l0, C0, C, hnd0, hnodes, hC0C, hQC⟩ :=
      hspec.grown hdiff (no_term_on_goto_edge hW hI.g hed (by rw [hsrc]; exact hha) c.hpr hsymA)
    have hed' : g'.edges[e]? = some ed := by rw [hedges]; exact hed
    -- the node `n0` covers with its new children
    have hcn0 : CoverNode { rs with gss := g' } q.root p0 s' C :=
      ⟨hA, e, ed, n0, sp0, l0, sfGet_of_mem hU'.subFun hget, hed', hsrc, hdst, hn0, by rw [hnodes, if_pos rfl]⟩
    refine hinv.step (fun hk => Or.inl (hk.back hx (fun _ h => hheads ▸ h) fun v hc hv => ⟨?_, hv⟩)) ?_
      (fun r hr => hr) (path_covered hC hx hI' hU' c hhr hgoto hcn0 hQC)
    · exact ChainEnd.transfer (fun _ _ => by rw [hedges]) (fun _ _ _ _ => by rw [hheads]) hc
    -- covered before: by another node, which is untouched, or by `n0` with its old children `C0`
    intro u p pr P s'' hk hcov
    obtain ⟨C1, ⟨hA1, e1, ed1, m, sp, l, k1, k2, k3, k4, k5, k6⟩, k7⟩ := covered_iff.mp hcov
    by_cases hm : n0 = m
    · subst hm
      cases Option.mem_unique hnd0 k6
      -- the node sits on edge `e` only
      have hnt : ¬ isTermNode rs.gss n0 := by
        rintro ⟨tk', sp', h⟩; cases hnd0.symm.trans h
      cases hI.g.uniq e1 e ed1 ed n0 k2 hed k5 hn0 hnt
      cases Option.mem_unique hed k2
      have hcn : CoverNode { rs with gss := g' } u p0 s'' C :=
        ⟨hA1, e, ed, n0, sp0, l0, k1, hed', k3, k4, k5, by rw [hnodes, if_pos rfl]⟩
      rcases k7 with h | h
      · -- the old children are a prefix of the chain and of the new children, and end on level `F`
        obtain ⟨_, _, _, vC, hvC, hcC, hhvC, hFvC⟩ := poss_chain hI.g hed (hsrc ▸ hha) k5 hnd0
        exact covered_of_common_prefix hC hI'.g hU' hI'.sub hcn hk hC0C h (ChainEnd.ext hx (k4 ▸ hcC)) (hheads ▸ hhvC)
          (hFvC.trans hhaF)
      · exact covered_iff.mpr ⟨C, hcn, Or.inr (h.trans hC0C)⟩
    · exact covered_iff.mpr
        ⟨C1, ⟨hA1, e1, ed1, m, sp, l, k1, hedges ▸ k2, k3, k4, k5, by rw [hnodes, if_neg hm]; exact k6⟩, k7⟩
  | new hA e n hc ec poss span hne ns =>
    obtain ⟨ha, hha, hhas, hhaF, _⟩ := hI'.sub _ _ ns.sub.self
    refine hinv.step (fun {u p pr P _} hk => (ns.kchain_cases hI.g hk).imp_right fun ⟨k, hkl, hcw, hon, hcond⟩ => ?_)
      (fun _ h => let ⟨C, hcn, hc⟩ := covered_iff.mp h; covered_iff.mpr ⟨C, ns.coverNode_fwd hU' hcn, hc⟩)
      (fun r hr => ns.mem_queue.mpr (Or.inl hr))
      (path_covered hC hx hI' hU' c hhr hgoto
        ⟨hA, e, _, n, _, _, sfGet_of_mem hU'.subFun ns.sub.self, ns.edge, rfl, rfl, by simp, ns.node⟩ (List.prefix_refl _))
    -- the reduction due at `hA` after `k` links was registered: link `k` is the new edge, or `k = 0` and `hA` is new
    have hred := hk.reduce_at hC hI'.g hkl hcw hha hhaF
    rw [hhas] at hred
    exact ⟨⟨_, p, k⟩, ns.mem_queue.mpr (Or.inr ⟨p, k, hred, hcond, rfl⟩), rfl, hkl, hon⟩

end

/-- an invariant of the reducer state that needs only the run equation of `reducePath`.  Nothing reads this interface: what
    rides through the loop is a `ReducerRule` (GlrReducer). -/
structure Extra (env : Env) (F a : Nat) (X : RState → Prop) : Prop where
  queue : ∀ (rs : RState) (q : List Reduction), X rs → X { rs with queue := q }
  step : ∀ (rs rs' : RState) (p0 startHead : Nat) (sh : Head) (tk : Tok) (q : Path), RInv env F rs →
    rs.gss.heads[startHead]? = some sh → sh.frontier = F → sh.tok = some tk → tk.kind = a →
    X rs → reducePath env p0 startHead rs q = .ok rs' → X rs'

theorem Extra.trivial (env : Env) (F a : Nat) : Extra env F a (fun _ => True) :=
  ⟨fun _ _ _ => True.intro, fun _ _ _ _ _ _ _ _ _ _ _ _ _ _ => True.intro⟩

/-- the `J` of the closure rule -/
def CJ (env : Env) (F a : Nat) (r : Reduction) (startHead : Nat) (paths : List Path) (rs : RState) : Prop :=
  UInv F a rs.gss rs.sub ∧ QSub rs ∧ RCInvR env F a rs (Rem r.prod r.len paths) ∧ InSub rs.sub startHead

/-- a chain pending by the popped reduction runs over one of the paths found (`findReductionPaths_complete`) -/
theorem closure_pop {env : Env} {F a : Nat} {rs : RState} {r : Reduction} {rest : List Reduction} {startHead : Nat}
    {paths : List Path} (hI : RInv env F rs) (hq : rs.queue = r :: rest) (hs : startHeadOf rs.gss r = .ok startHead)
    (hp : findReductionPaths rs.gss r = .ok paths) (h : UInv F a rs.gss rs.sub ∧ QSub rs ∧ RCInv env F a rs) :
    CJ env F a r startHead paths { rs with queue := rest } := by
  obtain ⟨hU, hqs, hinv⟩ := h
  obtain ⟨h0, hs0, hin0⟩ := hqs r (by rw [hq]; simp)
  obtain rfl := Outcome.ok.inj (hs.symm.trans hs0)
  refine ⟨hU, fun x hx => hqs x (by rw [hq]; simp [hx]), ?_, hin0⟩
  intro u p pr1 P s'' hk
  rcases hinv u p pr1 P s'' hk with hcov | hpend | hfalse
  · exact Or.inl hcov
  · obtain ⟨r1, hr1, m1, m2, m3⟩ := hpend
    rw [hq] at hr1
    rcases List.mem_cons.mp hr1 with heq | hrest
    · subst heq
      obtain ⟨v, hcP, _⟩ := hk.chain
      exact Or.inr (Or.inr ⟨m1.symm, m2, findReductionPaths_complete hI.g hp hcP m2 m3⟩)
    · exact Or.inr (Or.inl ⟨r1, hrest, m1, m2, m3⟩)
  · exact hfalse.elim

theorem closure_step {env : Env} (hK : CertOk env) {F a : Nat}
    {r : Reduction} {pr : Prod} {startHead : Nat} {rs rs' : RState} {sh : Head} {q : Path} {rest : List Path} {tk : Tok}
    {hr : Head} {s' : Nat} (hI : RInv env F rs) (d : PathRun env F rs rs' r.prod r.len pr startHead sh q tk hr s')
    (hI' : RInv env F rs') (hx : Ext rs.gss rs'.gss)
    (h : CJ env F a r startHead (q :: rest) rs) : CJ env F a r startHead rest rs' := by
  obtain ⟨hU, hqs, hinv, sA, hmA⟩ := h
  obtain ⟨shd, tk', k1, k2, k3⟩ := hU.subKind _ _ hmA
  obtain rfl := Option.mem_unique d.hsh k1
  obtain rfl := Option.mem_unique d.htk k2
  subst k3
  have hU' := d.uinv hI hI' hU (chain_root_inSub hU d.path.chain ⟨sA, hmA⟩ d.hhr)
  exact ⟨hU', d.step.qsub hx hqs, d.rcinv hK hI hI' hU' hx hinv, sA, d.step.sub_old hmA⟩

theorem closureRule {env : Env} (hK : CertOk env) (F a : Nat) :
    ReducerRule env F (fun rs => UInv F a rs.gss rs.sub ∧ QSub rs ∧ RCInv env F a rs) (CJ env F a) :=
  ⟨closure_pop, closure_step hK, fun ⟨j1, j2, j3, _⟩ => ⟨j1, j2, fun u p pr P s' hk =>
    (j3 u p pr P s' hk).imp_right fun k => k.imp_right fun ⟨_, _, hm⟩ => nomatch hm⟩⟩

theorem RCInv.covered {env : Env} {F a : Nat} {rs : RState} (h : RCInv env F a rs) (hq : rs.queue = []) {u p : Nat}
    {pr : Prod} {P : List Nat} {s' : Nat} (hk : KChain env F a rs.gss rs.sub u p pr P s') : Covered rs u p P s' := by
  rcases h u p pr P s' hk with h1 | ⟨r, hr, _⟩ | h1
  · exact h1
  · rw [hq] at hr; cases hr
  · exact h1.elim

/-- When the reducer loop of a sub-frontier ends, every chain is covered: no reduction path was lost, whatever the order
    in which edges appeared. -/
theorem reducerLoop_closure {env : Env} (hK : CertOk env) {F a : Nat}
    (fuel : Nat) (rs rs' : RState) (hI : RInv env F rs) (hU : UInv F a rs.gss rs.sub) (hqs : QSub rs)
    (hinv : RCInv env F a rs) (h : reducerLoop env fuel rs = .ok rs') :
    RInv env F rs' ∧ Ext rs.gss rs'.gss ∧ UInv F a rs'.gss rs'.sub ∧ rs'.queue = [] ∧
    ∀ (u p : Nat) (pr : Prod) (P : List Nat) (s' : Nat), KChain env F a rs'.gss rs'.sub u p pr P s' →
      Covered rs' u p P s' := by
  obtain ⟨m1, m2, ⟨m3, _, m5⟩, m4⟩ :=
    (reducerLoop_hoare (A := True) (E := True) hK.table (closureRule hK F a) fuel rs hI ⟨hU, hqs, hinv⟩).of_ok h
  exact ⟨m1, m2, m3, m4, fun _ _ _ _ _ => m5.covered m4⟩

end Rustemo.Glr
