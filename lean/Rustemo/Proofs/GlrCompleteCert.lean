import Rustemo.Proofs.CompleteCert
/-!
`CompleteRN`: what the engine's completeness argument asks of the table, established by the checker
(`Cert.completeRN_sound`).  Liveness (`live_of_first`, `start_alive`): a state that holds an item whose rest can start with
`a` has an action on `a` — needed because the reducer skips a reduction whose goto state has no action for the lookahead
(parser.rs:518, "No actions for new state … Skipping"): on a derivation that continues, that never happens.
-/

namespace Rustemo

/-- lookahead post-fixpoint (closure, transitions), every right-nulled reduction present for each lookahead of its item,
    transitions functional -/
structure CompleteRN (g : Grammar) (t : Table) : Prop where
  closure : ∀ s p d a pr B, t.hasItemLA s p d a → g.prods[p]? = some pr → pr.rhs[d]? = some B →
      g.nterms ≤ B → ∀ q qr, g.prods[q]? = some qr → qr.lhs = B →
      ∀ b, FirstOf g (pr.rhs.drop (d+1)) a b → t.hasItemLA s q 0 b
  trans : ∀ s p d a pr X, t.hasItemLA s p d a → g.prods[p]? = some pr → pr.rhs[d]? = some X →
      ∃ s', t.trans g s X s' ∧ t.hasItemLA s' p (d+1) a
  reduceRN : ∀ s p d a pr, g.prods[p]? = some pr → t.hasItemLA s p d a → g.isAug p = false →
      (∀ Y ∈ pr.rhs.drop d, Nullable g Y) → Action.reduce p d ∈ t.cell s a
  accept : ∀ s p pr, g.prods[p]? = some pr → g.isAug p = true → t.hasItem s p pr.rhs.length →
      Action.accept ∈ t.cell s 0
  shiftDet : ∀ s a s1 s2, Action.shift s1 ∈ t.cell s a → Action.shift s2 ∈ t.cell s a → s1 = s2
  start : t.hasItemLA 0 0 0 0
  rhs_not_aug : ∀ (p q : Nat) (pr qr : Prod), g.prods[p]? = some pr → g.prods[q]? = some qr → qr.lhs ∈ pr.rhs →
    g.isAug q = false
  /-- STOP is a lookahead only -/
  noShiftStop : ∀ s s', Action.shift s' ∉ t.cell s 0
  /-- accept only on STOP -/
  acceptStop : ∀ s a, Action.accept ∈ t.cell s a → a = 0

theorem CompleteRN.trans_det {g : Grammar} {t : Table} (hc : CompleteRN g t) {s X s1 s2 : Nat}
    (h1 : t.trans g s X s1) (h2 : t.trans g s X s2) : s1 = s2 := by
  by_cases hX : X < g.nterms
  · exact hc.shiftDet _ _ _ _ ((Table.trans_term hX).mp h1) ((Table.trans_term hX).mp h2)
  · rw [Table.trans_nonterm (Nat.le_of_not_lt hX)] at h1 h2
    exact Option.some.inj (h1.symm.trans h2)

theorem filter_isShift_two {l : List Action} {s1 s2 : Nat} (h1 : Action.shift s1 ∈ l) (h2 : Action.shift s2 ∈ l)
    (hlen : (l.filter isShift).length ≤ 1) : s1 = s2 := by
  have m1 : Action.shift s1 ∈ l.filter isShift := List.mem_filter.mpr ⟨h1, rfl⟩
  have m2 : Action.shift s2 ∈ l.filter isShift := List.mem_filter.mpr ⟨h2, rfl⟩
  match hf : l.filter isShift, m1, m2, hlen with
  | [], m1, _, _ => simp at m1
  | [x], m1, m2, _ =>
    simp only [List.mem_singleton] at m1 m2
    rw [← m2] at m1
    injection m1
  | _ :: _ :: _, _, _, hlen => simp at hlen

theorem Cert.completeRN_sound (g : Grammar) (t : Table) (h : Cert.completeRN g t = true) :
    CompleteRN g t ∧ GWF g := by
  unfold Cert.completeRN at h
  simp only [Bool.and_eq_true] at h
  obtain ⟨⟨⟨⟨⟨⟨⟨⟨hF, hC⟩, hT⟩, hR⟩, hG⟩, hD⟩, hL⟩, hNS⟩, hAS⟩ := h
  obtain ⟨gwf, hstart⟩ := Cert.grammarOk_sound hG
  refine ⟨⟨Cert.closureOk_sound hF hC gwf.lhs_nonterm, Cert.transOk_sound hT, ?reduceRN, ?accept, ?shiftDet,
    hstart, ?rhs_not_aug, noShiftStop_sound t hNS, Cert.acceptStop_sound hAS⟩, gwf⟩
  case reduceRN =>
    intro s p d a pr hpr ⟨st, hst, it, hit, hp, hd, ha⟩ haug hnul
    have := forItems_elim hR hst hit
    rw [hp, hpr] at this
    simp only [hd, haug, Bool.false_eq_true, ↓reduceIte, Bool.or_eq_true, Bool.not_eq_true'] at this
    rcases this with h1 | h1
    · -- the rest of the right-hand side is in the nullable list: its symbols derive the empty string
      rw [← Bool.not_eq_true, List.all_eq_true] at h1
      refine absurd (fun Y hY => ?_) h1
      obtain ⟨ty, hv, hy⟩ := hnul Y hY
      exact tree_nullable g (Canon.mkCtx g) hF ty Y hv hy
    · simpa [cell_eq hst] using List.all_eq_true.mp h1 a ha
  case accept =>
    intro s p pr hpr haug ⟨st, hst, it, hit, hp, hd⟩
    have := forItems_elim hR hst hit
    rw [hp, hpr] at this
    simp only [hd, List.drop_length, List.all_nil, Bool.not_true, Bool.false_or, haug, ↓reduceIte,
      bne_self_eq_false] at this
    simpa [cell_eq hst] using this
  case shiftDet =>
    intro s a s1 s2 h1 h2
    obtain ⟨st, hst, hm1⟩ := mem_cell h1
    rw [cell_eq hst] at h2
    exact filter_isShift_two hm1 h2 (of_decide_eq_true (List.all_eq_true.mp (forStates_iff.mp hD _ _ hst) a
      (List.mem_range.mpr (lt_size_of_getD_ne (List.ne_nil_of_mem hm1)))))
  case rhs_not_aug =>
    intro p q pr qr hp hq hmem
    unfold Grammar.isAug
    rw [hq]
    simp only [Bool.or_eq_false_iff, beq_eq_false_iff_ne, ne_eq]
    refine ⟨fun heq => gwf.aug_not_rhs p pr hp (heq ▸ hmem), ?_⟩
    unfold Cert.auglOk at hL
    cases hx : g.auglIdx with
    | none => nofun
    | some x =>
      rw [hx] at hL
      intro heq
      have := List.all_eq_true.mp hL pr (mem_prods_toList hp)
      rw [Bool.not_eq_true', ← Bool.not_eq_true, List.contains_iff_mem] at this
      exact this (Option.some.inj heq ▸ hmem)

theorem Cert.completeRN_terms (g : Grammar) (ts : Array Terminal) (t : Table) :
    Cert.completeRN { g with terms := ts } t = Cert.completeRN g t := by
  simp only [Cert.completeRN, Canon.mkCtx, Canon.firstTable, Canon.firstStep, Cert.firstOk, Cert.closureOk, firstBetaList,
    Canon.firstOfSeq_terms]
  rfl

mutual
theorem live_tree {g : Grammar} {t : Table} (hC : CompleteRN g t) (hW : GWF g) :
    ∀ (c : Tree) (Y : Nat), c.Valid g Y → ∀ (s q d b : Nat) (pr : Prod) (la a : Nat), t.hasItemLA s q d b →
      g.prods[q]? = some pr → pr.rhs[d]? = some Y → FirstOf g (pr.rhs.drop (d+1)) b la →
      (c.yield ++ [la]).head? = some a → t.cell s a ≠ []
  | .leaf k sp v l => by
    intro Y hv s q d b pr la a hi hpr hY _ ha
    obtain ⟨rfl, hterm⟩ := hv
    simp only [Tree.yield, List.cons_append, List.head?_cons, Option.some.injEq] at ha
    subst ha
    obtain ⟨s', htr, _⟩ := hC.trans _ q d b pr k hi hpr hY
    exact List.ne_nil_of_mem ((Table.trans_term hterm).mp htr)
  | .node p sp l cs => by
    intro Y hv s q d b pr la a hi hpr hY hfirst ha
    obtain ⟨pr', hpr', hlhs, hcs⟩ := hv
    have hYnt : g.nterms ≤ Y := hlhs ▸ hW.lhs_nonterm p pr' hpr'
    have hi0 := hC.closure _ q d b pr Y hi hpr hY hYnt p pr' hpr' hlhs la hfirst
    have haug : g.isAug p = false :=
      hC.rhs_not_aug q p pr pr' hpr hpr' (by rw [hlhs]; exact List.mem_of_getElem? hY)
    exact live_list hC hW cs pr'.rhs hcs s p 0 la pr' a hi0 hpr' (by simp) (fun h => by rw [haug] at h; simp at h)
      (by simpa [Tree.yield] using ha)
theorem live_list {g : Grammar} {t : Table} (hC : CompleteRN g t) (hW : GWF g) :
    ∀ (ts : TreeList) (Xs : List Nat), ts.Valid g Xs → ∀ (s q d b : Nat) (pr : Prod) (a : Nat), t.hasItemLA s q d b →
      g.prods[q]? = some pr → pr.rhs.drop d = Xs → (g.isAug q = true → b = 0 ∧ d = pr.rhs.length) →
      (ts.yield ++ [b]).head? = some a → t.cell s a ≠ []
  | .nil => by
    intro Xs hv s q d b pr a hi hpr hdrop haug ha
    simp only [TreeList.Valid] at hv
    subst hv
    simp only [TreeList.yield, List.nil_append, List.head?_cons, Option.some.injEq] at ha
    subst ha
    cases hq : g.isAug q with
    | false =>
      have := hC.reduceRN _ q d b pr hpr hi hq (by rw [hdrop]; simp)
      intro hnil; rw [hnil] at this; simp at this
    | true =>
      obtain ⟨hb, hd⟩ := haug hq
      subst hb
      have := hC.accept _ q pr hpr hq (by rw [← hd]; exact hi.toItem)
      intro hnil; rw [hnil] at this; simp at this
  | .cons c cs => by
    intro Xs hv s q d b pr a hi hpr hdrop haug ha
    obtain ⟨Y, Xs', rfl, hvc, hvcs⟩ := hv
    obtain ⟨hY, hdrop'⟩ := drop_eq_cons_iff.mp hdrop
    have hfirst : FirstOf g (pr.rhs.drop (d+1)) b (((cs.yield ++ [b]).head?).getD b) := by
      refine ⟨cs, hdrop' ▸ hvcs, ?_⟩
      cases hy : cs.yield with
      | nil => simp
      | cons y ys => simp
    apply live_tree hC hW c Y hvc s q d b pr _ a hi hpr hY hfirst
    simp only [TreeList.yield] at ha
    rw [head_append_singleton] at ha
    exact ha
end

theorem live_of_first {g : Grammar} {t : Table} (hC : CompleteRN g t) (hW : GWF g) {s q d b a : Nat} {pr : Prod}
    (hi : t.hasItemLA s q d b) (hpr : g.prods[q]? = some pr) (hfirst : FirstOf g (pr.rhs.drop d) b a)
    (haug : g.isAug q = true → b = 0 ∧ d = pr.rhs.length) : t.cell s a ≠ [] :=
  let ⟨ts, hts, hh⟩ := hfirst
  live_list hC hW ts _ hts s q d b pr a hi hpr rfl haug hh

theorem start_alive {g : Grammar} {t : Table} (hC : CompleteRN g t) (hW : GWF g) {T : Tree}
    (hv : T.Valid g g.startIdx) {a : Nat} (ha : (T.yield ++ [0]).head? = some a) : t.cell 0 a ≠ [] := by
  obtain ⟨pr0, hpr0, _, hr0⟩ := hW.aug0
  exact live_tree hC hW T g.startIdx hv 0 0 0 0 pr0 0 a hC.start hpr0 (by rw [hr0]; rfl)
    ⟨.nil, by rw [hr0]; simp [TreeList.Valid], by simp [TreeList.yield]⟩ ha

end Rustemo
