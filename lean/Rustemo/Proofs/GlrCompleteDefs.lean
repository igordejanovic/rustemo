import Rustemo.Model.Glr
/-!
# Definitions for the completeness statement of the GLR engine
-/
namespace Rustemo

/- `t1.EqElide t2`: the two trees are equal up to decorations and up to trailing children of EMPTY yield at any
   node on either side (their normal forms `elide_max` of tools/props/c03.py coincide). -/
mutual
def Tree.EqElide : Tree → Tree → Prop
  | .leaf a _ _ _, t2 =>
    match t2 with
    | .leaf b _ _ _ => a = b
    | .node _ _ _ _ => False
  | .node p _ _ cs, t2 =>
    match t2 with
    | .leaf _ _ _ _ => False
    | .node q _ _ ds => p = q ∧ TreeList.EqElide cs ds
def TreeList.EqElide : TreeList → TreeList → Prop
  | .nil, ds => ds.yield = []
  | .cons c cs, ds =>
    (c.yield ++ cs.yield = [] ∧ ds.yield = []) ∨
    (match ds with
     | .nil => False
     | .cons d ds' => Tree.EqElide c d ∧ TreeList.EqElide cs ds')
end

namespace Glr

/-- **The lexer hypothesis of the completeness statement**: on this input the lexer is deterministic and
    context aware at the token level.  There are `n` tokens `tok 0 … tok (n-1)` and an end token `tok n` of kind
    STOP; a head of level `i` starts at position `P i`; finding its lookaheads moves it to `L i` (whitespace /
    layout skipped) and offers exactly `tok i` if its state has an action on that kind, and nothing otherwise;
    shifting `tok i` from `L i` leads to `P (i+1)`.  (Proved of the string lexer on distinct single-character
    terminals in Proofs/GlrLexDet.lean and GlrLexDetWs.lean; the LR twin of that lexing lemma is `nt_spec`,
    Proofs/LexTok.lean.) -/
structure LexDet (env : Env) (pp : Bool) (fuel n : Nat) (tok : Nat → Tok) (P L : Nat → Pos) : Prop where
  p0 : P 0 = Pos.start
  step : ∀ i, i < n → P (i+1) = posAfter (sliceOf env.input (tok i).val) (L i)
  look : ∀ i, i ≤ n → ∀ ctx : Ctx, ctx.pos = P i → ctx.state < env.t.states.size →
    (findLookaheadsCtx env pp fuel ctx).1.pos = L i ∧
    (findLookaheadsCtx env pp fuel ctx).2 =
      .ok (if (env.t.cell ctx.state (tok i).kind).isEmpty then [] else [tok i])
  stop : (tok n).kind = 0
  terms : ∀ i, i < n → 0 < (tok i).kind ∧ (tok i).kind < env.g.nterms

end Glr
end Rustemo
