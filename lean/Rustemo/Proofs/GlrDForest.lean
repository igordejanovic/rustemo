import Rustemo.Model.Glr
import Rustemo.Proofs.Forest
/-!
The decorated forest by itself (`DNode`: the model of `Forest::get_tree` + `Tree::build`, with spans); nothing here speaks of the
graph.  Erasure to the SPPF of the enumeration model (`Model/Forest.lean`) commutes with the index decoding `get` and keeps
solution counts; the canonical enumeration `all` has `get i = all[i]?` on a well-formed forest (as in Proofs/Forest.lean).
-/

namespace Rustemo.Glr
open Rustemo.Forest

mutual
theorem DNode.solutions_erase : ∀ d : DNode, d.erase.solutions = d.solutions
  | .term _ => rfl
  | .nonterm _ _ cs => DPList.prod_erase cs
  | .cut => rfl
theorem DParent.solutions_erase : ∀ p : DParent, p.erase.solutions = p.solutions
  | .mk ns => DNList.sum_erase ns
theorem DNList.sum_erase : ∀ ns : DNList, ns.erase.sum = ns.sum
  | .nil => rfl
  | .cons n ns => by rw [DNList.erase, NList.sum, DNode.solutions_erase n, DNList.sum_erase ns, DNList.sum]
theorem DPList.prod_erase : ∀ ps : DPList, ps.erase.prod = ps.prod
  | .nil => rfl
  | .cons p ps => by rw [DPList.erase, PList.prod, DParent.solutions_erase p, DPList.prod_erase ps, DPList.prod]
end

theorem treesToF_ofList (ts : List Tree) : treesToF (TreeList.ofList ts) = ts.map treeToF := by
  induction ts with
  | nil => rfl
  | cons t ts ih => rw [TreeList.ofList, treesToF, ih, List.map_cons]

mutual
theorem DNode.get_erase : ∀ (d : DNode) (i : Nat), d.erase.get i = (d.get i).map treeToF
  | .term tk, i => rfl
  | .nonterm p sp cs, i => by
    rw [DNode.erase, SNode.get, DNode.get, DPList.get_erase cs i, Option.map_map, Option.map_map]
    congr 1
    funext ts
    simp only [Function.comp, treeToF, treesToF_ofList]
  | .cut, i => rfl
theorem DParent.get_erase : ∀ (p : DParent) (i : Nat), p.erase.get i = (p.get i).map treeToF
  | .mk ns, i => DNList.get_erase ns i
theorem DNList.get_erase : ∀ (ns : DNList) (i : Nat), ns.erase.get i = (ns.get i).map treeToF
  | .nil, i => rfl
  | .cons n ns, i => by
    rw [DNList.erase, NList.get, DNList.get, DNode.solutions_erase n]
    split
    · exact DNode.get_erase n i
    · exact DNList.get_erase ns _
theorem DPList.get_erase : ∀ (ps : DPList) (i : Nat), ps.erase.get i = (ps.get i).map (fun ts => ts.map treeToF)
  | .nil, i => rfl
  | .cons p ps, i => by
    simp only [DPList.erase, PList.get, DPList.get, DPList.prod_erase ps, DParent.get_erase p, DPList.get_erase ps]
    cases p.get (i / ps.prod) <;> cases ps.get (i % ps.prod) <;> rfl
end

/- `NE`: no empty parent link -/

mutual
def DNode.NE : DNode → Prop
  | .term _ => True
  | .nonterm _ _ cs => cs.NE
  | .cut => True
def DParent.NE : DParent → Prop
  | .mk ns => ns ≠ .nil ∧ ns.NE
def DNList.NE : DNList → Prop
  | .nil => True
  | .cons n ns => n.NE ∧ ns.NE
def DPList.NE : DPList → Prop
  | .nil => True
  | .cons p ps => p.NE ∧ ps.NE
end

theorem listToDN_NE (l : List DNode) (h : ∀ d ∈ l, d.NE) : (listToDN l).NE := by
  induction l with
  | nil => trivial
  | cons d rest ih => exact ⟨h d List.mem_cons_self, ih fun d' hd' => h d' (List.mem_cons_of_mem _ hd')⟩

theorem listToDP_NE (l : List DParent) (h : ∀ p ∈ l, p.NE) : (listToDP l).NE := by
  induction l with
  | nil => trivial
  | cons p rest ih => exact ⟨h p List.mem_cons_self, ih fun p' hp' => h p' (List.mem_cons_of_mem _ hp')⟩

theorem listToDN_ne_nil : ∀ (l : List DNode), l ≠ [] → listToDN l ≠ .nil
  | [], h => absurd rfl h
  | _ :: _, _ => DNList.noConfusion

mutual
def DNode.all : DNode → List Tree
  | .term tk => [.leaf tk.kind tk.span tk.val none]
  | .nonterm p sp cs => cs.all.map fun ts => Tree.node p sp none (TreeList.ofList ts)
  | .cut => []
def DParent.all : DParent → List Tree
  | .mk ns => ns.all
def DNList.all : DNList → List Tree
  | .nil => []
  | .cons n ns => n.all ++ ns.all
def DPList.all : DPList → List (List Tree)
  | .nil => [[]]
  | .cons p ps => p.all.flatMap (fun t => ps.all.map (fun ts => t :: ts))
end

mutual
theorem DNode.len_all : ∀ n : DNode, n.all.length = n.solutions
  | .term _ => rfl
  | .nonterm _ _ cs => by rw [DNode.all, List.length_map, DPList.len_all cs, DNode.solutions]
  | .cut => rfl
theorem DParent.len_all : ∀ p : DParent, p.all.length = p.solutions
  | .mk ns => by rw [DParent.all, DNList.len_all ns, DParent.solutions]
theorem DNList.len_all : ∀ ns : DNList, ns.all.length = ns.sum
  | .nil => rfl
  | .cons n ns => by rw [DNList.all, List.length_append, DNode.len_all n, DNList.len_all ns, DNList.sum]
theorem DPList.len_all : ∀ ps : DPList, ps.all.length = ps.prod
  | .nil => rfl
  | .cons p ps => by rw [DPList.all, length_flatMap_map, DParent.len_all p, DPList.len_all ps, DPList.prod]
end

mutual
def DNode.WFD : DNode → Prop
  | .term _ => True
  | .nonterm _ _ cs => cs.WFD
  | .cut => False
def DParent.WFD : DParent → Prop
  | .mk ns => 0 < ns.sum ∧ ns.WFD
def DNList.WFD : DNList → Prop
  | .nil => True
  | .cons n ns => n.WFD ∧ ns.WFD
def DPList.WFD : DPList → Prop
  | .nil => True
  | .cons p ps => p.WFD ∧ ps.WFD
end

theorem DPList.prod_pos : ∀ ps : DPList, ps.WFD → 0 < ps.prod
  | .nil, _ => Nat.one_pos
  | .cons (.mk _) ps, h => Nat.mul_pos h.1.1 (DPList.prod_pos ps h.2)

mutual
theorem DNode.get_eq : ∀ (n : DNode) (i : Nat), n.WFD → i < n.solutions → n.get i = n.all[i]?
  | .term tk, i, _, hi => by
    obtain rfl : i = 0 := Nat.lt_one_iff.mp hi
    rfl
  | .nonterm p sp cs, i, hw, hi => by
    rw [DNode.get, DNode.all, DPList.get_eq cs i hw hi, List.getElem?_map]
  | .cut, i, hw, _ => hw.elim
theorem DParent.get_eq : ∀ (p : DParent) (i : Nat), p.WFD → p.get i = p.all[i]?
  | .mk ns, i, hw => DNList.get_eq ns i hw.2
theorem DNList.get_eq : ∀ (ns : DNList) (i : Nat), ns.WFD → ns.get i = ns.all[i]?
  | .nil, i, _ => rfl
  | .cons n ns, i, hw => by
    rw [DNList.get, DNList.all, List.getElem?_append, DNode.len_all]
    split
    · exact DNode.get_eq n i hw.1 ‹_›
    · exact DNList.get_eq ns _ hw.2
theorem DPList.get_eq : ∀ (ps : DPList) (i : Nat), ps.WFD → i < ps.prod → ps.get i = ps.all[i]?
  | .nil, i, _, hi => by
    obtain rfl : i = 0 := Nat.lt_one_iff.mp hi
    rfl
  | .cons p ps, i, hw, hi => by
    have hpos := DPList.prod_pos ps hw.2
    rw [DPList.get, DPList.all, flatMap_map_getElem? _ _ _ i (by rw [DPList.len_all]; exact hpos), DPList.len_all,
      DParent.get_eq p _ hw.1, DPList.get_eq ps _ hw.2 (Nat.mod_lt _ hpos)]
    cases p.all[i / ps.prod]? <;> cases ps.all[i % ps.prod]? <;> rfl
end

theorem DNList.mem_all_get (ns : DNList) (hw : ns.WFD) {tr : Tree} (h : tr ∈ ns.all) : ∃ i, ns.get i = some tr := by
  obtain ⟨i, hi, he⟩ := List.getElem_of_mem h
  exact ⟨i, by rw [DNList.get_eq ns i hw, List.getElem?_eq_getElem hi, he]⟩

mutual
theorem DNode.get_mem : ∀ (n : DNode) (i : Nat) (t : Tree), n.get i = some t → t ∈ n.all
  | .term _, _, _, h => Option.some.inj h ▸ List.mem_singleton_self _
  | .nonterm _ _ cs, i, _, h => by
    obtain ⟨ts, hts, rfl⟩ := Option.map_eq_some_iff.mp h
    exact List.mem_map_of_mem (DPList.get_mem cs i ts hts)
  | .cut, _, _, h => nomatch h
theorem DParent.get_mem : ∀ (p : DParent) (i : Nat) (t : Tree), p.get i = some t → t ∈ p.all
  | .mk ns, i, t, h => DNList.get_mem ns i t h
theorem DNList.get_mem : ∀ (ns : DNList) (i : Nat) (t : Tree), ns.get i = some t → t ∈ ns.all
  | .nil, _, _, h => nomatch h
  | .cons n ns, i, t, h => by
    rw [DNList.get] at h
    split at h
    · exact List.mem_append_left _ (DNode.get_mem n i t h)
    · exact List.mem_append_right _ (DNList.get_mem ns _ t h)
theorem DPList.get_mem : ∀ (ps : DPList) (i : Nat) (ts : List Tree), ps.get i = some ts → ts ∈ ps.all
  | .nil, _, _, h => Option.some.inj h ▸ List.mem_singleton_self _
  | .cons p ps, i, ts, h => by
    rw [DPList.get] at h
    split at h
    · rename_i t ts' h1 h2
      cases h
      exact List.mem_flatMap.mpr ⟨t, DParent.get_mem p _ t h1, List.mem_map_of_mem (DPList.get_mem ps _ ts' h2)⟩
    · cases h
end

mutual
theorem DNode.wf_all : ∀ d : DNode, d.hasCut = false → d.NE → 0 < d.solutions ∧ d.erase.WF ∧ d.WFD
  | .term _, _, _ => ⟨Nat.one_pos, trivial, trivial⟩
  | .nonterm _ _ cs, hc, hn => DPList.wf_all cs hc hn
  | .cut, hc, _ => nomatch hc
theorem DParent.wf_all : ∀ p : DParent, p.hasCut = false → p.NE → 0 < p.solutions ∧ p.erase.WF ∧ p.WFD
  | .mk .nil, _, hn => absurd rfl hn.1
  | .mk (.cons n ns), hc, hn => by
    have hpos : 0 < (DNList.cons n ns).sum :=
      Nat.add_pos_left (DNode.wf_all n (Bool.or_eq_false_iff.mp hc).1 hn.2.1).1 _
    have h := DNList.wf_all _ hc hn.2
    exact ⟨hpos, ⟨DNList.sum_erase _ ▸ hpos, h.1⟩, hpos, h.2⟩
theorem DNList.wf_all : ∀ ns : DNList, ns.hasCut = false → ns.NE → ns.erase.WF ∧ ns.WFD
  | .nil, _, _ => ⟨trivial, trivial⟩
  | .cons n ns, hc, hn =>
    have hc := Bool.or_eq_false_iff.mp hc
    have h1 := (DNode.wf_all n hc.1 hn.1).2
    have h2 := DNList.wf_all ns hc.2 hn.2
    ⟨⟨h1.1, h2.1⟩, h1.2, h2.2⟩
theorem DPList.wf_all : ∀ ps : DPList, ps.hasCut = false → ps.NE → 0 < ps.prod ∧ ps.erase.WF ∧ ps.WFD
  | .nil, _, _ => ⟨Nat.one_pos, trivial, trivial⟩
  | .cons p ps, hc, hn =>
    have hc := Bool.or_eq_false_iff.mp hc
    have h1 := DParent.wf_all p hc.1 hn.1
    have h2 := DPList.wf_all ps hc.2 hn.2
    ⟨Nat.mul_pos h1.1 h2.1, ⟨h1.2.1, h2.2.1⟩, h1.2.2, h2.2.2⟩
end

theorem DNode.wf_of : ∀ d : DNode, d.hasCut = false → d.NE → 0 < d.solutions ∧ d.erase.WF :=
  fun d hc hn => ⟨(d.wf_all hc hn).1, (d.wf_all hc hn).2.1⟩

theorem DPList.wf_of : ∀ ps : DPList, ps.hasCut = false → ps.NE → 0 < ps.prod ∧ ps.erase.WF :=
  fun ps hc hn => ⟨(ps.wf_all hc hn).1, (ps.wf_all hc hn).2.1⟩

theorem DPList.wfd_of : ∀ ps : DPList, ps.hasCut = false → ps.NE → 0 < ps.prod ∧ ps.WFD :=
  fun ps hc hn => ⟨(ps.wf_all hc hn).1, (ps.wf_all hc hn).2.2⟩

theorem DNList.wfd_of : ∀ ns : DNList, ns.hasCut = false → ns.NE → ns.WFD :=
  fun ns hc hn => (ns.wf_all hc hn).2

end Rustemo.Glr
