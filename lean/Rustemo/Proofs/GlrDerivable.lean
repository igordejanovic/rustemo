import Rustemo.Proofs.GlrReducePath
import Rustemo.Proofs.CompleteCert
import Rustemo.Proofs.GlrCert
import Rustemo.Proofs.GlrKinds
/-!
`JInv`: every edge `src → dst` is *derivable* (the accessing symbol of `state(src)` derives `kindsOf tok (level dst) (level src)`,
the token kinds of the levels between) and every head is connected to the start head.  It depends only on the (state, level) of
heads and the (src, dst) of edges, which never change, so only the creation of an edge or head can break it (`Sol.jinv`).  The
edge `head → root` of a reduction `A → α` over a path is derivable because the path's parent links are (`chain_der`) and the
tail of `α` is nullable.
-/

namespace Rustemo.Glr

def DerK (env : Env) (tok : Nat → Tok) (X i j : Nat) : Prop :=
  i ≤ j ∧ ∃ t : Tree, t.Valid env.g X ∧ t.yield = kindsOf tok i j

def EdgeDer (env : Env) (tok : Nat → Tok) (g : Gss) (ed : Edge) : Prop :=
  ∃ hs hd : Head, g.heads[ed.src]? = some hs ∧ g.heads[ed.dst]? = some hd ∧
    DerK env tok (env.t.symAt hs.state) hd.frontier hs.frontier

inductive Conn (g : Gss) : Nat → Prop
  | start : Conn g 0
  | step (e : Nat) (ed : Edge) : g.edges[e]? = some ed → Conn g ed.dst → Conn g ed.src

structure JInv (env : Env) (tok : Nat → Tok) (g : Gss) : Prop where
  h0 : ∃ hd : Head, g.heads[0]? = some hd ∧ hd.state = 0 ∧ hd.frontier = 0
  ed : ∀ (e : Nat) (ed : Edge), g.edges[e]? = some ed → EdgeDer env tok g ed
  conn : ∀ (h : Nat) (hd : Head), g.heads[h]? = some hd → Conn g h

theorem Conn.ext {g g' : Gss} (hx : Ext g g') {h : Nat} (hc : Conn g h) : Conn g' h := by
  induction hc with
  | start => exact Conn.start
  | step e ed he _ ih =>
    obtain ⟨ed', he', hs, hd⟩ := hx.edges e ed he
    rw [← hs]
    exact Conn.step e ed' he' (by rw [hd]; exact ih)

theorem Conn.edge {g : Gss} {h : Nat} (hc : Conn g h) : h = 0 ∨ ∃ (e : Nat) (ed : Edge), g.edges[e]? = some ed ∧ ed.src = h := by
  induction hc with
  | start => exact Or.inl rfl
  | step e ed he _ _ => exact Or.inr ⟨e, ed, he, rfl⟩

theorem EdgeDer.ext {env : Env} {tok : Nat → Tok} {g g' : Gss} (hx : Ext g g') {ed ed' : Edge} (h : EdgeDer env tok g ed)
    (hs : ed'.src = ed.src) (hd : ed'.dst = ed.dst) : EdgeDer env tok g' ed' := by
  obtain ⟨a, b, ha, hb, hder⟩ := h
  obtain ⟨a', ha', as, af, _⟩ := hx.heads _ a ha
  obtain ⟨b', hb', _, bf, _⟩ := hx.heads _ b hb
  exact ⟨a', b', by rw [hs]; exact ha', by rw [hd]; exact hb', by rw [as, af, bf]; exact hder⟩

theorem JInv.ext {env : Env} {tok : Nat → Tok} {g g' : Gss} (hJ : JInv env tok g) (hx : Ext g g')
    (hne : ∀ (e : Nat) (ed : Edge), g'.edges[e]? = some ed → g.edges[e]? = none → EdgeDer env tok g' ed)
    (hnh : ∀ (h : Nat) (hd : Head), g'.heads[h]? = some hd → g.heads[h]? = none → Conn g' h) : JInv env tok g' := by
  constructor
  · obtain ⟨hd, h1, h2, h3⟩ := hJ.h0
    obtain ⟨hd', k1, k2, k3, _⟩ := hx.heads 0 hd h1
    exact ⟨hd', k1, by rw [k2, h2], by rw [k3, h3]⟩
  · intro e ed' he'
    cases ho : g.edges[e]? with
    | none => exact hne e ed' he' ho
    | some ed =>
      obtain ⟨ed'', he'', hs, hd⟩ := hx.edges e ed ho
      obtain rfl := Option.some.inj (he'.symm.trans he'')
      exact (hJ.ed e ed ho).ext hx hs hd
  · intro h hd' hh'
    cases ho : g.heads[h]? with
    | none => exact hnh h hd' hh' ho
    | some hd => exact (hJ.conn h hd ho).ext hx

theorem JInv.same {env : Env} {tok : Nat → Tok} {g g' : Gss} (hJ : JInv env tok g) (hx : Ext g g')
    (he : g'.edges.size = g.edges.size) (hh : g'.heads.size = g.heads.size) : JInv env tok g' := by
  apply hJ.ext hx
  · intro e ed h1 h2
    have := lt_size_of_getElem? h1
    rw [Array.getElem?_eq_none_iff] at h2
    omega
  · intro h hd h1 h2
    have := lt_size_of_getElem? h1
    rw [Array.getElem?_eq_none_iff] at h2
    omega

theorem Sol.jinv {env : Env} {tok : Nat → Tok} {g g' : Gss} {nh : Head} {hA dst : Nat} {nd : SNode} {e n : Nat}
    {hc ec : Bool} {poss : List Nat} (s : Sol g g' nh hA dst nd e n hc ec poss) (hJ : JInv env tok g) {hs hd : Head}
    (hhs : g'.heads[hA]? = some hs) (hhd : g.heads[dst]? = some hd)
    (hder : DerK env tok (env.t.symAt hs.state) hd.frontier hs.frontier) : JInv env tok g' := by
  apply hJ.ext s.ext
  · intro i ed hi hnone
    rcases s.edges_new hi with ⟨_, k⟩ | ⟨_, rfl⟩
    · rw [hnone] at k; cases k
    · exact ⟨hs, hd, hhs, s.heads_old hhd, hder⟩
  · -- a new head has the edge down to `dst`
    intro h x hh hnone
    rcases s.heads_new hh with k | ⟨_, rfl, _⟩
    · rw [hnone] at k; cases k
    · exact Conn.step e _ s.edge ((hJ.conn _ hd hhd).ext s.ext)

/-- every head has an LR stack that spells the tokens below its level: follow its connection to the start head -/
theorem JInv.stack {env : Env} {tok : Nat → Tok} {g : Gss} (hJ : JInv env tok g) (hg : GInv env g) {h : Nat} {hd : Head}
    (hh : g.heads[h]? = some hd) :
    ∃ st : List (Nat × Tree), PathInv env.g env.t 0 st ∧ topOf 0 st = hd.state ∧ yields st = kindsOf tok 0 hd.frontier := by
  have hc := hJ.conn h hd hh
  induction hc generalizing hd with
  | start =>
    obtain ⟨hd0, h1, h2, h3⟩ := hJ.h0
    obtain rfl := Option.some.inj (hh.symm.trans h1)
    exact ⟨[], trivial, by rw [h2]; rfl, by rw [h3, kindsOf_self]; rfl⟩
  | step e ed he _ ih =>
    obtain ⟨a, b, ha, hb, hle, t, hv, hy⟩ := hJ.ed e ed he
    obtain rfl := Option.some.inj (hh.symm.trans ha)
    obtain ⟨st, hp, htop, hyl⟩ := ih hb
    refine ⟨(hd.state, t) :: st, ⟨⟨_, hv, by rw [htop]; exact hg.edge_trans he hh hb⟩, hp⟩, rfl, ?_⟩
    simp only [yields]
    rw [hyl, hy, ← kindsOf_append tok (Nat.zero_le _) hle]

theorem JInv.hsym {env : Env} {tok : Nat → Tok} {g : Gss} (hJ : JInv env tok g) (hW : GWF env.g) (h : Nat) (hd : Head)
    (k : Nat) (hh : g.heads[h]? = some hd) (hk : hd.frontier = k + 1) (hsy : env.t.symAt hd.state < env.g.nterms) :
    env.t.symAt hd.state = (tok k).kind := by
  rcases (hJ.conn h hd hh).edge with h0 | ⟨e, ed, he, hsrc⟩
  · obtain ⟨hd0, k1, _, k3⟩ := hJ.h0
    cases (h0 ▸ hh).symm.trans k1
    omega
  · obtain ⟨a, b, ha, _, hle, t, hv, hy⟩ := hJ.ed e ed he
    cases (hsrc ▸ ha).symm.trans hh
    cases t with
    | leaf x _ _ _ =>
      obtain ⟨h1, h2⟩ := kindsOf_eq_singleton hle (hy : [x] = _)
      rw [← Nat.succ.inj (h1.symm.trans hk)]
      exact hv.1.symm.trans h2
    | node p _ _ cs =>
      obtain ⟨pr, hpr, hl, _⟩ := hv
      exact absurd (hl ▸ hW.lhs_nonterm p pr hpr) (Nat.not_le.mpr hsy)

theorem chain_der {env : Env} {tok : Nat → Tok} {g : Gss} (hJ : JInv env tok g) :
    ∀ (es Xs : List Nat) (r j : Nat), ChildrenOk env.t g es Xs r j →
      ∃ hr : Head, g.heads[r]? = some hr ∧ hr.frontier ≤ j ∧
        ∃ ts : List Tree, ValidList env.g ts Xs ∧ (ts.map Tree.yield).flatten = kindsOf tok hr.frontier j
  | [] => by
    intro Xs r j h
    obtain ⟨hXs, hd, hh, hf⟩ := h
    exact ⟨hd, hh, Nat.le_of_eq hf, [], hXs, by rw [hf, kindsOf_self]; rfl⟩
  | e :: es => by
    intro Xs r j h
    obtain ⟨ed, hs, X, Xs', he, hh, hXs, hdst, hsym, hrest⟩ := h
    obtain ⟨hr', hhr', hle', ts', hts', hys'⟩ := chain_der hJ es Xs' ed.src j hrest
    obtain rfl := Option.some.inj (hh.symm.trans hhr')
    obtain ⟨a, b, ha, hb, hle, t, hv, hy⟩ := hJ.ed e ed he
    obtain rfl := Option.some.inj (hh.symm.trans ha)
    refine ⟨b, by rw [← hdst]; exact hb, Nat.le_trans hle hle', t :: ts', ?_, ?_⟩
    · rw [hXs]; exact ⟨X, Xs', rfl, by rw [← hsym]; exact hv, hts'⟩
    · simp only [List.map_cons, List.flatten_cons]
      rw [hy, hys', ← kindsOf_append tok hle hle']

theorem reduce_der {env : Env} {tok : Nat → Tok} {g : Gss} (hJ : JInv env tok g) {p len : Nat} {pr : Prod}
    (hpr : env.g.prods[p]? = some pr) (hnul : ∀ Y ∈ pr.rhs.drop len, Nullable env.g Y)
    {parents : List Nat} {root F : Nat} (hch : ChildrenOk env.t g parents (pr.rhs.take len) root F) :
    ∃ hr : Head, g.heads[root]? = some hr ∧ DerK env tok pr.lhs hr.frontier F := by
  obtain ⟨hr, hhr, hle, ts, hts, hys⟩ := chain_der hJ _ _ _ _ hch
  obtain ⟨ts2, hts2, hys2⟩ := nullable_list _ hnul
  have hvl : ValidList env.g (ts ++ ts2) pr.rhs := by
    have := validList_append env.g _ _ _ _ hts hts2
    rwa [List.take_append_drop] at this
  refine ⟨hr, hhr, hle, Tree.mk p (ts ++ ts2), ?_, ?_⟩
  · simp only [Tree.mk, Tree.Valid]
    exact ⟨pr, hpr, rfl, hvl⟩
  · simp only [Tree.mk, Tree.yield, yield_ofList, List.map_append, List.flatten_append, hys, hys2, List.append_nil]

theorem PathRun.jinv {env : Env} (hT : TableOk env) {tok : Nat → Tok} {F : Nat} {rs rs' : RState}
    {prod len : Nat} {pr : Prod} {startHead : Nat} {sh : Head} {path : Path} {tk : Tok} {hr0 : Head} {s' : Nat}
    (d : PathRun env F rs rs' prod len pr startHead sh path tk hr0 s') (hI' : RInv env F rs') (hx : Ext rs.gss rs'.gss)
    (hJ : JInv env tok rs.gss) : JInv env tok rs'.gss := by
  cases d.step with
  | skip _ heq => rw [heq]; exact hJ
  | fold hA e ed g' _ fr =>
    exact hJ.same hx (by rw [fr.eq]; exact congrArg Array.size fr.spec.edges) (by rw [fr.eq]; exact congrArg Array.size fr.spec.heads)
  | new hA e0 n hc ec poss span hne ns =>
    obtain ⟨hdA, hhdA, hsA, hfA, _⟩ := hI'.sub _ _ ns.sub.self
    obtain ⟨hr, hhr, hder⟩ := reduce_der hJ d.hpr d.hnul (d.hF ▸ d.path.chain.toChildren d.hsh)
    obtain rfl := Option.mem_unique hhr d.hhr
    have hsym : env.t.symAt s' = pr.lhs := hT.sym _ _ _ (Table.trans_of_goto d.hgoto)
    exact ns.jinv hJ hhdA hhr (by rw [hsA, hsym, hfA]; exact hder)

end Rustemo.Glr
