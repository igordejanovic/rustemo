import Rustemo.Proofs.GlrCert
import Rustemo.Proofs.GlrCompleteDefs
import Rustemo.Proofs.CoreComplete
/-!
The RNGLR engine reduces by `A → α β` as soon as `α` is on the stack when every symbol of `β` derives the empty string; the
node it builds has children for `α` only.  `Tree.ValidElided g tr X` says exactly that of every node of `tr` (compare
`tools/treeparse.py::valid_elided`); `complete_elided`: such a tree is a full derivation tree of the same symbol with the
same yield from which sub-trees with empty yield were cut at the right end of some nodes (`ElidedFrom`).
`full.ElisionOf e` is the same cut read modulo decorations (spans, values, layout), and `Tree.SameDerivation t1 t2`: both
are elisions of ONE tree.  `Tree.EqElide` (GlrCompleteDefs) is coarser, it identifies any two empty-yield tails:
`S(a, A(B))` and `S(a, A(C))` with `B`, `C` deriving ε are `EqElide` but not the same derivation.
-/

namespace Rustemo

mutual
def Tree.ValidElided (g : Grammar) : Tree → Nat → Prop
  | .leaf a _ _ _, X => a = X ∧ a < g.nterms
  | .node p _ _ cs, X => ∃ pr, g.prods[p]? = some pr ∧ pr.lhs = X ∧ TreeList.ValidElided g cs pr.rhs
def TreeList.ValidElided (g : Grammar) : TreeList → List Nat → Prop
  | .nil, Xs => ∀ X ∈ Xs, Nullable g X
  | .cons t ts, Xs => ∃ X Xs', Xs = X :: Xs' ∧ Tree.ValidElided g t X ∧ TreeList.ValidElided g ts Xs'
end

/- `full.ElidedFrom tr`: `tr` is `full` with, at some nodes, a suffix of children of empty yield removed;
   everything that is kept is kept unchanged (production, span, layout, leaves). -/

mutual
def Tree.ElidedFrom : Tree → Tree → Prop
  | .leaf a sp v l, e => e = .leaf a sp v l
  | .node p sp l cs, e =>
    match e with
    | .node p' sp' l' cs' => p = p' ∧ sp = sp' ∧ l = l' ∧ TreeList.ElidedFrom cs cs'
    | .leaf _ _ _ _ => False
def TreeList.ElidedFrom : TreeList → TreeList → Prop
  | .nil, e => e = .nil
  | .cons t ts, e =>
    match e with
    | .nil => t.yield ++ ts.yield = []
    | .cons t' ts' => Tree.ElidedFrom t t' ∧ TreeList.ElidedFrom ts ts'
end

theorem TreeList.elidedFrom_nil : ∀ (full : TreeList), full.yield = [] → full.ElidedFrom .nil
  | .nil, _ => rfl
  | .cons _ _, h => h

mutual
theorem Tree.valid_validElided (g : Grammar) : ∀ (t : Tree) (X : Nat), t.Valid g X → t.ValidElided g X
  | .leaf a sp v l, X, h => h
  | .node p sp l cs, X, ⟨pr, hpr, hl, hcs⟩ => ⟨pr, hpr, hl, TreeList.valid_validElided g cs _ hcs⟩
theorem TreeList.valid_validElided (g : Grammar) : ∀ (ts : TreeList) (Xs : List Nat), ts.Valid g Xs → ts.ValidElided g Xs
  | .nil, Xs, h => fun X hX => by rw [show Xs = [] from h] at hX; exact absurd hX List.not_mem_nil
  | .cons t ts, Xs, ⟨X, Xs', hXs, ht, hts⟩ =>
    ⟨X, Xs', hXs, Tree.valid_validElided g t _ ht, TreeList.valid_validElided g ts _ hts⟩
end

mutual
theorem Tree.complete_elided (g : Grammar) : ∀ (tr : Tree) (X : Nat), tr.ValidElided g X →
      ∃ full : Tree, full.Valid g X ∧ full.yield = tr.yield ∧ full.ElidedFrom tr
  | .leaf a sp v l, X, h => ⟨.leaf a sp v l, h, rfl, rfl⟩
  | .node p sp l cs, X, ⟨pr, hpr, hl, hcs⟩ => by
    obtain ⟨full, hv, hy, he⟩ := TreeList.complete_elided g cs _ hcs
    exact ⟨.node p sp l full, ⟨pr, hpr, hl, hv⟩, hy, rfl, rfl, rfl, he⟩
theorem TreeList.complete_elided (g : Grammar) : ∀ (cs : TreeList) (Xs : List Nat), cs.ValidElided g Xs →
      ∃ full : TreeList, full.Valid g Xs ∧ full.yield = cs.yield ∧ full.ElidedFrom cs
  | .nil, Xs, h => by
    obtain ⟨cs, hcs, hy⟩ := validList_nil_yield g Xs h
    exact ⟨cs, hcs, hy, TreeList.elidedFrom_nil cs hy⟩
  | .cons t ts, Xs, ⟨X, Xs', hXs, ht, hts⟩ => by
    obtain ⟨ft, hvt, hyt, het⟩ := Tree.complete_elided g t _ ht
    obtain ⟨fts, hvts, hyts, hets⟩ := TreeList.complete_elided g ts _ hts
    exact ⟨.cons ft fts, ⟨X, Xs', hXs, hvt, hvts⟩, by show ft.yield ++ fts.yield = t.yield ++ ts.yield; rw [hyt, hyts], het, hets⟩
end

mutual
def Tree.ElisionOf : Tree → Tree → Prop
  | .leaf a _ _ _, e =>
    match e with
    | .leaf b _ _ _ => a = b
    | .node _ _ _ _ => False
  | .node p _ _ cs, e =>
    match e with
    | .node q _ _ ds => p = q ∧ TreeList.ElisionOf cs ds
    | .leaf _ _ _ _ => False
def TreeList.ElisionOf : TreeList → TreeList → Prop
  | .nil, e => e = .nil
  | .cons t ts, e =>
    match e with
    | .nil => t.yield ++ ts.yield = []
    | .cons t' ts' => Tree.ElisionOf t t' ∧ TreeList.ElisionOf ts ts'
end

def Tree.SameDerivation (t1 t2 : Tree) : Prop := ∃ full : Tree, full.ElisionOf t1 ∧ full.ElisionOf t2

theorem Tree.SameDerivation.symm {t1 t2 : Tree} (h : t1.SameDerivation t2) : t2.SameDerivation t1 := by
  obtain ⟨f, h1, h2⟩ := h; exact ⟨f, h2, h1⟩

mutual
theorem Tree.elisionOf_yield : ∀ (full e : Tree), full.ElisionOf e → e.yield = full.yield
  | .leaf _ _ _ _, .leaf _ _ _ _, h => congrArg (fun a => [a]) h.symm
  | .leaf _ _ _ _, .node _ _ _ _, h => h.elim
  | .node _ _ _ _, .leaf _ _ _ _, h => h.elim
  | .node _ _ _ cs, .node _ _ _ ds, h => TreeList.elisionOf_yield cs ds h.2
theorem TreeList.elisionOf_yield : ∀ (full e : TreeList), full.ElisionOf e → e.yield = full.yield
  | .nil, _, rfl => rfl
  | .cons _ _, .nil, h => h.symm
  | .cons t ts, .cons t' ts', h => by
    rw [TreeList.yield, TreeList.yield, Tree.elisionOf_yield t t' h.1, TreeList.elisionOf_yield ts ts' h.2]
end

theorem Tree.SameDerivation.yield {t1 t2 : Tree} (h : t1.SameDerivation t2) : t1.yield = t2.yield := by
  obtain ⟨f, h1, h2⟩ := h
  rw [Tree.elisionOf_yield f t1 h1, Tree.elisionOf_yield f t2 h2]

mutual
theorem Tree.eqElide_of_elidedFrom : ∀ (full e : Tree), full.ElidedFrom e → Tree.EqElide full e
  | .leaf _ _ _ _, _, rfl => rfl
  | .node _ _ _ _, .leaf _ _ _ _, h => h.elim
  | .node _ _ _ cs, .node _ _ _ cs', h => ⟨h.1, TreeList.eqElide_of_elidedFrom cs cs' h.2.2.2⟩
theorem TreeList.eqElide_of_elidedFrom : ∀ (full e : TreeList), full.ElidedFrom e → TreeList.EqElide full e
  | .nil, _, rfl => rfl
  | .cons _ _, .nil, h => Or.inl ⟨h, rfl⟩
  | .cons t ts, .cons t' ts', h =>
    Or.inr ⟨Tree.eqElide_of_elidedFrom t t' h.1, TreeList.eqElide_of_elidedFrom ts ts' h.2⟩
end

mutual
theorem Tree.eqElide_plain : ∀ (t u : Tree), Tree.EqElide t u → Tree.EqElide t.plain u
  | .leaf _ _ _ _, .leaf _ _ _ _, h => h
  | .leaf _ _ _ _, .node _ _ _ _, h => h.elim
  | .node _ _ _ _, .leaf _ _ _ _, h => h.elim
  | .node _ _ _ cs, .node _ _ _ ds, h => ⟨h.1, TreeList.eqElide_plain cs ds h.2⟩
theorem TreeList.eqElide_plain : ∀ (ts us : TreeList), TreeList.EqElide ts us → TreeList.EqElide ts.plain us
  | .nil, _, h => h
  | .cons c cs, us, .inl ⟨h1, h2⟩ => Or.inl ⟨by rw [Tree.plain_yield, TreeList.plain_yield]; exact h1, h2⟩
  | .cons _ _, .nil, .inr h => h.elim
  | .cons c cs, .cons d ds, .inr h => Or.inr ⟨Tree.eqElide_plain c d h.1, TreeList.eqElide_plain cs ds h.2⟩
end

end Rustemo
