import Rustemo.Proofs.GlrExample
import Rustemo.Proofs.GlrPos
import Rustemo.Proofs.GlrCompleteDefs
/-!
`Example` (Proofs/GlrExample.lean): string lexer, no Layout rule, full parse; `lookB` decides the clause `LexDet.look` level by
level and state by state.  `ExampleDet`: the deterministic grammar `S: A S | EMPTY; A: 'a'` with
BOTH real tables, `tLR` (LALR_PAGER, for the LR parser) and `tRN` (LALR_RN, for the GLR parser; generated from the hook's
dumps; they differ in the right-nulled entry `reduce 1 1` of state 1 on STOP), for the non-vacuity examples of C07.
-/

namespace Rustemo.Glr.Example
open Rustemo

theorem certs : Cert.glr g t = true ∧ Cert.completeRN g t = true ∧ Cert.glrLayout g t = true := by decide +kernel

open Rustemo.Glr

def pos (i : Nat) : Pos := ⟨i, 1, i⟩

/-- the tokens of `aa`: `a`, `a`, STOP -/
def tok (i : Nat) : Tok :=
  if i < 2 then ⟨1, (i, 1), ⟨pos i, pos (i + 1)⟩⟩ else ⟨0, (2, 0), ⟨pos 2, pos 2⟩⟩

/-- the `look` clause of `LexDet` (with `P = L = pos`) as a Boolean check for one level and one state -/
def lookB (env : Env) (fuel : Nat) (tok : Nat → Tok) (pos : Nat → Pos) (i s : Nat) : Bool :=
  let r := findLookaheadsCtx env false fuel ⟨s, pos i, default, none⟩
  r.1.pos == pos i &&
  (match r.2 with
   | .ok l => l == (if (env.t.cell s (tok i).kind).isEmpty then [] else [tok i])
   | _ => false)

/-- without a Layout rule and with the string lexer, full parse, what `find_lookaheads` offers depends on the state
    and the position of the head only (`findLookaheads_noLayout`): the check of the bare context covers every head -/
theorem look_of_lookB (env : Env) (hl : env.t.layoutState = none) (hc : env.custom = none) (fuel : Nat)
    (tok : Nat → Tok) (pos : Nat → Pos) (i : Nat) (ctx : Ctx) (hp : ctx.pos = pos i)
    (h : lookB env fuel tok pos i ctx.state = true) :
    (findLookaheadsCtx env false fuel ctx).1.pos = pos i ∧
    (findLookaheadsCtx env false fuel ctx).2 =
      .ok (if (env.t.cell ctx.state (tok i).kind).isEmpty then [] else [tok i]) := by
  obtain ⟨h1, h2⟩ := findLookaheads_noLayout env hl hc fuel ctx
  obtain ⟨b1, b2⟩ := findLookaheads_noLayout env hl hc fuel ⟨ctx.state, pos i, default, none⟩
  unfold lookB at h
  simp only [b1, b2, Bool.and_eq_true, beq_iff_eq] at h
  rw [h1, h2, hp]
  exact ⟨h.1, by rw [h.2]⟩

theorem lookB_all : ∀ i, i ≤ 2 → ∀ s, s < 6 → lookB (env 2) 9 tok pos i s = true := by decide +kernel

theorem lexDet_aa : LexDet (env 2) false 9 2 tok pos pos :=
  ⟨rfl, by decide, fun i hi ctx hp hs => look_of_lookB (env 2) rfl rfl 9 tok pos i ctx hp (lookB_all i hi ctx.state hs),
    rfl, by decide⟩

end Rustemo.Glr.Example

namespace Rustemo.Glr.ExampleDet
open Rustemo Rustemo.Glr

/-- terminals STOP(0) A(1); nonterminals EMPTY(2) AUG(3) S(4); prods 0: AUG→S, 1: S→A S, 2: S→ε -/
def g : Grammar :=
  { nterms := 2, nnonterms := 3,
    prods := #[{ lhs := 3, rhs := [4] }, { lhs := 4, rhs := [1, 4] }, { lhs := 4, rhs := [] }],
    emptyIdx := 2, augIdx := 3, startIdx := 4 }

def tLR : Table :=
  { states := #[
      { symbol := 3, items := [⟨0, 0, [0]⟩, ⟨1, 0, [0]⟩, ⟨2, 0, [0]⟩],
        actions := #[[.reduce 2 0], [.shift 1]], gotos := #[none, none, some 2],
        sorted := [(0, true), (1, true)] },
      { symbol := 1, items := [⟨1, 1, [0]⟩, ⟨1, 0, [0]⟩, ⟨2, 0, [0]⟩],
        actions := #[[.reduce 2 0], [.shift 1]], gotos := #[none, none, some 3],
        sorted := [(0, true), (1, true)] },
      { symbol := 4, items := [⟨0, 1, [0]⟩],
        actions := #[[.accept], []], gotos := #[none, none, none], sorted := [(0, false)] },
      { symbol := 4, items := [⟨1, 2, [0]⟩],
        actions := #[[.reduce 1 2], []], gotos := #[none, none, none], sorted := [(0, false)] }] }

def tRN : Table :=
  { states := #[
      { symbol := 3, items := [⟨0, 0, [0]⟩, ⟨1, 0, [0]⟩, ⟨2, 0, [0]⟩],
        actions := #[[.reduce 2 0], [.shift 1]], gotos := #[none, none, some 2],
        sorted := [(0, true), (1, true)] },
      { symbol := 1, items := [⟨1, 1, [0]⟩, ⟨1, 0, [0]⟩, ⟨2, 0, [0]⟩],
        actions := #[[.reduce 1 1, .reduce 2 0], [.shift 1]], gotos := #[none, none, some 3],
        sorted := [(0, true), (1, true)] },
      { symbol := 4, items := [⟨0, 1, [0]⟩],
        actions := #[[.accept], []], gotos := #[none, none, none], sorted := [(0, false)] },
      { symbol := 4, items := [⟨1, 2, [0]⟩],
        actions := #[[.reduce 1 2], []], gotos := #[none, none, none], sorted := [(0, false)] }] }

def env (n : Nat) : Env := { g := g, t := tRN, input := List.replicate n 97, recog := Example.recogA n }

theorem lookB_all : ∀ i, i ≤ 2 → ∀ s, s < 4 → Example.lookB (env 2) 9 Example.tok Example.pos i s = true := by
  decide +kernel

theorem lexDet_aa : LexDet (env 2) false 9 2 Example.tok Example.pos Example.pos :=
  ⟨rfl, by decide,
    fun i hi ctx hp hs => Example.look_of_lookB (env 2) rfl rfl 9 _ _ i ctx hp (lookB_all i hi ctx.state hs),
    rfl, by decide⟩

end Rustemo.Glr.ExampleDet
