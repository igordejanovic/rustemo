import Rustemo.Proofs.GlrExampleLex
import Rustemo.Model.CertViable
/-!
# `S: Ta A; A: B | C; B: EMPTY; C: EMPTY` — two derivations that differ only below an empty-yield child; a run that errs

The real LALR_RN table (generated from the hook's dump).  On the input `a` the engine returns TWO trees,
`S(a, A(B))` and `S(a, A(C))`: two different derivations, both correct.  They are equal under the coarse relation
`Tree.EqElide` (which identifies ANY two empty-yield tails), so "different indices are never `EqElide`" is false;
the no-duplicates statement has to use "elisions of ONE full derivation tree" (`Tree.SameDerivation`).  `ExampleErr`: the
same table on the input `aa` (the language is `{a}`): the second `a` is the first offending token — non-vacuity for the
error theorems (C12, GLR half).
-/

namespace Rustemo.Glr.ExampleNul
open Rustemo Rustemo.Glr

/-- terminals STOP(0) Ta(1); nonterminals EMPTY(2) AUG(3) S(4) A(5) B(6) C(7);
    productions 0: AUG→S, 1: S→Ta A, 2: A→B, 3: A→C, 4: B→ε, 5: C→ε -/
def g : Grammar :=
  { nterms := 2, nnonterms := 6,
    prods := #[{ lhs := 3, rhs := [4] }, { lhs := 4, rhs := [1, 5] }, { lhs := 5, rhs := [6] }, { lhs := 5, rhs := [7] },
      { lhs := 6, rhs := [] }, { lhs := 7, rhs := [] }],
    emptyIdx := 2, augIdx := 3, startIdx := 4 }

def t : Table :=
  { states := #[
      { symbol := 3, items := [⟨0, 0, [0]⟩, ⟨1, 0, [0]⟩],
        actions := #[[], [.shift 1]], gotos := #[none, none, some 2, none, none, none], sorted := [(1, true)] },
      { symbol := 1, items := [⟨1, 1, [0]⟩, ⟨2, 0, [0]⟩, ⟨3, 0, [0]⟩, ⟨4, 0, [0]⟩, ⟨5, 0, [0]⟩],
        actions := #[[.reduce 1 1, .reduce 2 0, .reduce 3 0, .reduce 4 0, .reduce 5 0], []],
        gotos := #[none, none, none, some 3, some 4, some 5], sorted := [(0, false)] },
      { symbol := 4, items := [⟨0, 1, [0]⟩],
        actions := #[[.accept], []], gotos := #[none, none, none, none, none, none], sorted := [(0, false)] },
      { symbol := 5, items := [⟨1, 2, [0]⟩],
        actions := #[[.reduce 1 2], []], gotos := #[none, none, none, none, none, none], sorted := [(0, false)] },
      { symbol := 6, items := [⟨2, 1, [0]⟩],
        actions := #[[.reduce 2 1], []], gotos := #[none, none, none, none, none, none], sorted := [(0, false)] },
      { symbol := 7, items := [⟨3, 1, [0]⟩],
        actions := #[[.reduce 3 1], []], gotos := #[none, none, none, none, none, none], sorted := [(0, false)] }] }

def env : Env := { g := g, t := t, input := [97], recog := Example.recogA 1 }

mutual
def eqElideB : Tree → Tree → Bool
  | .leaf a _ _ _, t2 =>
    match t2 with
    | .leaf b _ _ _ => a == b
    | .node _ _ _ _ => false
  | .node p _ _ cs, t2 =>
    match t2 with
    | .leaf _ _ _ _ => false
    | .node q _ _ ds => p == q && eqElideListB cs ds
def eqElideListB : TreeList → TreeList → Bool
  | .nil, ds => ds.yield.isEmpty
  | .cons c cs, ds =>
    ((c.yield ++ cs.yield).isEmpty && ds.yield.isEmpty) ||
    (match ds with
     | .nil => false
     | .cons d ds' => eqElideB c d && eqElideListB cs ds')
end

mutual
theorem eqElideB_sound : ∀ (a b : Tree), eqElideB a b = true → Tree.EqElide a b
  | .leaf a _ _ _, .leaf b _ _ _, h => by simpa [eqElideB, Tree.EqElide] using h
  | .leaf a _ _ _, .node _ _ _ _, h => by simp [eqElideB] at h
  | .node p _ _ cs, .leaf _ _ _ _, h => by simp [eqElideB] at h
  | .node p _ _ cs, .node q _ _ ds, h => by
    simp only [eqElideB, Bool.and_eq_true, beq_iff_eq] at h
    simp only [Tree.EqElide]
    exact ⟨h.1, eqElideListB_sound cs ds h.2⟩
theorem eqElideListB_sound : ∀ (a b : TreeList), eqElideListB a b = true → TreeList.EqElide a b
  | .nil, ds, h => by simpa [eqElideListB, TreeList.EqElide] using h
  | .cons c cs, .nil, h => by
    simp only [eqElideListB, Bool.or_false, Bool.and_eq_true, List.isEmpty_iff] at h
    simp only [TreeList.EqElide]
    exact Or.inl h
  | .cons c cs, .cons d ds, h => by
    simp only [eqElideListB, Bool.or_eq_true, Bool.and_eq_true, List.isEmpty_iff] at h
    simp only [TreeList.EqElide]
    rcases h with h | h
    · exact Or.inl h
    · exact Or.inr ⟨eqElideB_sound c d h.1, eqElideListB_sound cs ds h.2⟩
end

/-- the result has (at least) the two trees of index 0 and 1, and they are `EqElide` -/
def dupWitness (o : Outcome GlrResult) : Bool :=
  match o with
  | .ok r =>
    (match r.getTree 0, r.getTree 1 with
     | some a, some b => eqElideB a b
     | _, _ => false)
  | _ => false

theorem dupWitness_sound (o : Outcome GlrResult) (h : dupWitness o = true) :
    ∃ r a b, o = .ok r ∧ r.getTree 0 = some a ∧ r.getTree 1 = some b ∧ Tree.EqElide a b := by
  unfold dupWitness at h
  split at h
  · rename_i r
    split at h
    · rename_i a b ha hb
      exact ⟨r, a, b, rfl, ha, hb, eqElideB_sound a b h⟩
    · simp at h
  · simp at h

theorem certs : Cert.glr g t = true ∧ Cert.completeRN g t = true ∧ Cert.viable g t (autosOf g t) = true ∧
    Cert.glrLayout g t = true := by decide +kernel

theorem dupWitness_run : dupWitness (parse env false 9) = true := by decide +kernel

end Rustemo.Glr.ExampleNul

namespace Rustemo.Glr.ExampleErr
open Rustemo Rustemo.Glr

def env : Env := { g := ExampleNul.g, t := ExampleNul.t, input := [97, 97], recog := Example.recogA 2 }

theorem lookB_all : ∀ i, i ≤ 2 → ∀ s, s < 6 → Example.lookB env 9 Example.tok Example.pos i s = true := by
  decide +kernel

theorem lexDet_aa : LexDet env false 9 2 Example.tok Example.pos Example.pos :=
  ⟨rfl, by decide,
    fun i hi ctx hp hs => Example.look_of_lookB env rfl rfl 9 _ _ i ctx hp (lookB_all i hi ctx.state hs),
    rfl, by decide⟩

/-- the outcome as a comparable value -/
def errOf (o : Outcome GlrResult) : Option (Nat × Nat × Nat × List Nat) :=
  match o with
  | .err (.expected p ks) => some (p.pos, p.line, p.col, ks)
  | _ => none

end Rustemo.Glr.ExampleErr
