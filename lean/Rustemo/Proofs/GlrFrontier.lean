import Rustemo.Proofs.GlrState
import Rustemo.Proofs.GlrPos
/-!
A head with several lookaheads is split: the copies get copies of the edges of the original, with the same possibilities.
The field `uniq` of `GInvX` (GlrGraph; `GInv` is its case `none`) allows that for terminal nodes only, hence `TermEdges` for
the heads the shifter left (`BaseOk`); both are stable under `FExt`, an `Ext` that adds no node and only edges that start at
new heads.
-/

namespace Rustemo.Glr

variable {A E : Prop}

def TermEdges (g : Gss) (h : Nat) : Prop :=
  ∀ (e : Nat) (ed : Edge), g.edges[e]? = some ed → ed.src = h → ∀ n ∈ ed.poss, isTermNode g n

def BaseOk (g : Gss) (F : Nat) (base : List Nat) : Prop :=
  ∀ h ∈ base, (∃ hd : Head, g.heads[h]? = some hd ∧ hd.frontier = F) ∧ TermEdges g h

structure FExt (g g' : Gss) : Prop where
  ext : Ext g g'
  nodes : g'.nodes = g.nodes
  size : g.heads.size ≤ g'.heads.size
  edges : ∀ (e : Nat) (ed : Edge), g'.edges[e]? = some ed → g.edges[e]? = some ed ∨ g.heads.size ≤ ed.src

theorem FExt.refl (g : Gss) : FExt g g := ⟨Ext.refl g, rfl, Nat.le_refl _, fun _ _ h => Or.inl h⟩

theorem FExt.trans {a b c : Gss} (h1 : FExt a b) (h2 : FExt b c) : FExt a c := by
  refine ⟨h1.ext.trans h2.ext, by rw [h2.nodes, h1.nodes], Nat.le_trans h1.size h2.size, ?_⟩
  intro e ed he
  rcases h2.edges e ed he with h | h
  · exact h1.edges e ed h
  · exact Or.inr (Nat.le_trans h1.size h)

theorem fext_addHead (g : Gss) (hd : Head) : FExt g (g.addHead hd).1 :=
  ⟨ext_addHead g hd, rfl, Nat.le_of_lt (addHead_size g hd ▸ Nat.lt_succ_self _), fun _ _ h => Or.inl h⟩

theorem TermEdges.fext {g g' : Gss} {h : Nat} (hx : FExt g g') (hlt : h < g.heads.size) (ht : TermEdges g h) :
    TermEdges g' h := by
  intro e ed he hsrc n hn
  rcases hx.edges e ed he with hold | hnew
  · obtain ⟨tk, sp, h1⟩ := ht e ed hold hsrc n hn
    exact ⟨tk, sp, by rw [hx.nodes]; exact h1⟩
  · exact absurd (hsrc ▸ hnew) (Nat.not_le.mpr hlt)

theorem BaseOk.fext {g g' : Gss} {F : Nat} {base : List Nat} (hx : FExt g g') (h : BaseOk g F base) :
    BaseOk g' F base := by
  intro hh hm
  obtain ⟨⟨hd, hhd, hf⟩, hterm⟩ := h hh hm
  obtain ⟨hd', hhd', _, hf', _⟩ := hx.ext.heads _ hd hhd
  exact ⟨⟨hd', hhd', hf'.trans hf⟩, hterm.fext hx (lt_size_of_getElem? hhd)⟩

theorem copyEdges_ginv {env : Env} {g0 : Gss} (hg0 : GInv env g0) {headIdx newHead : Nat} {hd0 nhd : Head}
    (hhd0 : g0.heads[headIdx]? = some hd0) (hns : nhd.state = hd0.state) (hnf : nhd.frontier = hd0.frontier)
    (hnew : g0.heads.size ≤ newHead) (eds : List Edge)
    (heds : ∀ ed ∈ eds, ∃ e : Nat, g0.edges[e]? = some ed ∧ ed.src = headIdx ∧ ∀ n ∈ ed.poss, isTermNode g0 n) :
    ∀ (g : Gss), GInv env g → FExt g0 g → g.heads[newHead]? = some nhd →
      GInv env (copyEdges newHead eds g) ∧ FExt g0 (copyEdges newHead eds g) ∧
        (copyEdges newHead eds g).heads = g.heads := by
  induction eds with
  | nil => exact fun g hg hx _ => ⟨hg, hx, rfl⟩
  | cons ed rest ih =>
    intro g hg hx hnh
    obtain ⟨e, he, hsrc, hterm⟩ := heds ed List.mem_cons_self
    obtain ⟨hs, hdd, hhs, hhdd, htr, hposs⟩ := (hg0.edges e ed he).ends
    have hne := (hg0.edges e ed he).poss_ne nofun
    obtain rfl := Option.mem_unique hhd0 (hsrc ▸ hhs)
    obtain ⟨hdd', hhdd', hdds, _, _⟩ := hx.ext.heads _ hdd hhdd
    have hstep := hg.addEdge newHead ed.dst ed.poss nhd hdd' hnh hhdd' (by rw [hns, hdds]; exact htr) hne (by
      intro n hn
      obtain ⟨nd, hnd, hfit⟩ := hposs n hn
      obtain ⟨tk, sp, ht⟩ := hterm n hn
      refine ⟨⟨tk, sp, by rw [hx.nodes]; exact ht⟩, nd, by rw [hx.nodes]; exact hnd, ?_⟩
      rw [hns, hnf]
      exact NodeFits.ext hx.ext hfit)
    have hx1 : FExt g0 (g.addEdge newHead ed.dst ed.poss).1 := by
      refine ⟨hx.ext.trans (ext_addEdge _ _ _ _), hx.nodes, hx.size, fun e' ed' he' => ?_⟩
      rcases addEdge_edge_cases he' with he' | ⟨-, rfl⟩
      · exact hx.edges e' ed' he'
      · exact Or.inr hnew
    exact ih (fun ed' h' => heds ed' (List.mem_cons_of_mem _ h')) _ hstep hx1 hnh

theorem mem_edgesOf {g : Gss} {h : Nat} {ed : Edge} (hm : ed ∈ edgesOf g (g.backedges h)) :
    ∃ e : Nat, g.edges[e]? = some ed ∧ ed.src = h := by
  unfold edgesOf at hm
  rw [List.mem_filterMap] at hm
  obtain ⟨e, he, hed⟩ := hm
  obtain ⟨ed', hed', hsrc⟩ := mem_backedges.mp he
  obtain rfl := Option.mem_unique hed' hed
  exact ⟨e, hed', hsrc⟩

theorem headForLookahead_ginv {env : Env} {g : Gss} (hg : GInv env g) {headIdx : Nat} {hd : Head}
    (hhd : g.heads[headIdx]? = some hd) (hterm : TermEdges g headIdx) (tk : Tok)
    (htk : posLt hd.pos tk.span.s = false) :
    ∀ r, headForLookahead g hd headIdx tk = r → GInv env r.1 ∧ FExt g r.1 ∧
      r.1.heads[r.2]? = some { hd with tok := some tk } ∧ r.1.heads[headIdx]? = some hd := by
  rintro r rfl
  unfold headForLookahead
  dsimp only
  have hok := hg.heads _ hd hhd
  have hok' : HeadOk env { hd with tok := some tk } :=
    ⟨hok.range, hok.start, hok.span, fun tk' h => by injection h with h; subst h; exact htk⟩
  have hnh : (g.addHead { hd with tok := some tk }).1.heads[g.heads.size]? = some { hd with tok := some tk } := by
    rw [addHead_heads, if_pos rfl]
  obtain ⟨r1, r2, r3⟩ := copyEdges_ginv hg (headIdx := headIdx) (newHead := g.heads.size) (hd0 := hd)
    (nhd := { hd with tok := some tk }) hhd rfl rfl (Nat.le_refl _) (edgesOf g (g.backedges headIdx))
    (fun ed hm => by
      obtain ⟨e, he, hsrc⟩ := mem_edgesOf hm
      exact ⟨e, he, hsrc, hterm e ed he hsrc⟩)
    (g.addHead { hd with tok := some tk }).1 (hg.addHead _ hok') (fext_addHead g _) hnh
  rw [addHead_idx]
  exact ⟨r1, r2, by rw [r3]; exact hnh, by rw [r3]; exact addHead_old hhd⟩

theorem splitHeads_ginv {env : Env} {F : Nat} {headIdx : Nat} {hd : Head} (hF : hd.frontier = F) (position : Pos)
    (toks : List Tok) (htoks : ∀ tk ∈ toks, posLt hd.pos tk.span.s = false) :
    ∀ (g : Gss) (fr : Frontier), GInv env g → g.heads[headIdx]? = some hd → TermEdges g headIdx → FrontierOk g F fr →
      ∀ r, splitHeads hd headIdx position toks (g, fr) = r → GInv env r.1 ∧ FExt g r.1 ∧ FrontierOk r.1 F r.2 := by
  induction toks with
  | nil =>
    rintro g fr hg - - hfr r rfl
    exact ⟨hg, FExt.refl g, hfr⟩
  | cons tk rest ih =>
    rintro g fr hg hhd hterm hfr r rfl
    obtain ⟨h1, h2, h3, h4⟩ := headForLookahead_ginv hg hhd hterm tk (htoks tk List.mem_cons_self) _ rfl
    obtain ⟨k1, k2, k3⟩ := ih (fun tk' h => htoks tk' (List.mem_cons_of_mem _ h)) _ _ h1 h4
      (hterm.fext h2 (lt_size_of_getElem? hhd))
      (FrontierOk.insert (k := (position, tk.kind)) _ h3 rfl hF rfl (hfr.ext h2.ext)) _ rfl
    exact ⟨k1, h2.trans k2, k3⟩

theorem setHead_ginv {env : Env} {g : Gss} (hg : GInv env g) {i : Nat} {old hd : Head} (hold : g.heads[i]? = some old)
    (hnone : old.tok = none) (hs : hd.state = old.state) (hf : hd.frontier = old.frontier) (hok : HeadOk env hd) :
    GInv env (g.setHead i hd) ∧ FExt g (g.setHead i hd) ∧ (g.setHead i hd).heads[i]? = some hd := by
  have ht : ∀ tk, old.tok = some tk → hd.tok = some tk := fun tk h => by rw [hnone] at h; cases h
  refine ⟨hg.setHead i old hd hold hs hf ht hok,
    ⟨ext_setHead g i old hd hold hs hf ht, rfl, Nat.le_of_eq (setHead_size g i hd).symm, fun _ _ h => Or.inl h⟩, ?_⟩
  rw [setHead_heads, if_pos rfl, if_pos (lt_size_of_getElem? hold)]

theorem layoutBefore_ok (env : Env) (hd : Head) (tk : Tok) (h : posLt hd.pos tk.span.s = false) :
    layoutBefore env hd tk = .ok hd.lay := by
  unfold layoutBefore; rw [h]; rfl

def LookPos (hd0 : Head) (cx : Ctx) (toks : List Tok) : Prop :=
  cx.state = hd0.state ∧ posLt cx.pos cx.span.s = false ∧ ∀ tk ∈ toks, posLt cx.pos tk.span.s = false

/-- what `frontierHead` does at the base head `h` (which is `hd0`): a head that has its lookahead joins the frontier; one
    without moves behind the layout and gets the first token found, every further token a copy of the head -/
inductive FHStep (env : Env) (pp : Bool) (fuel : Nat) (g : Gss) (fr : Frontier) (h : Nat) (hd0 : Head) :
    Gss × Frontier → Prop
  | keep (tk : Tok) : hd0.tok = some tk → FHStep env pp fuel g fr h hd0 (g, frInsert (hd0.pos, tk.kind) hd0.state h fr)
  | dead (cx : Ctx) : hd0.tok = none → findLookaheadsCtx env pp fuel hd0.toCtx = (cx, .ok []) → LookPos hd0 cx [] →
      FHStep env pp fuel g fr h hd0 (g.setHead h (hd0.withCtx cx), fr)
  | live (cx : Ctx) (tk : Tok) (more : List Tok) : hd0.tok = none →
      findLookaheadsCtx env pp fuel hd0.toCtx = (cx, .ok (tk :: more)) → LookPos hd0 cx (tk :: more) →
      FHStep env pp fuel g fr h hd0 (splitHeads { hd0.withCtx cx with tok := some tk } h cx.pos more
        (g.setHead h { hd0.withCtx cx with tok := some tk }, frInsert (cx.pos, tk.kind) cx.state h fr))

theorem lookahead_pos {env : Env} {pp : Bool} {fuel : Nat} {hd0 : Head} (hok0 : HeadOk env hd0) {cx : Ctx} {toks : List Tok}
    (hr : findLookaheadsCtx env pp fuel hd0.toCtx = (cx, .ok toks)) : LookPos hd0 cx toks := by
  obtain ⟨ls, lsp, lpos, ltoks⟩ := findLookaheadsCtx_sat (A := True) (E := True) env (fun h => absurd trivial h) pp fuel hd0.toCtx
  rw [hr] at ls lsp lpos ltoks
  have hspan : posLe cx.span.s cx.pos := by
    rw [lsp]; exact posLe.after (show posLe hd0.span.s hd0.pos from hok0.span) lpos
  refine ⟨ls, hspan, fun tk hm => ?_⟩
  rcases ltoks tk hm with h | h
  · rw [h]; exact posLe_refl _
  · rw [h]; exact hspan

theorem frontierHead_spec {env : Env} (hl : ¬ A → LayoutSafe env) (pp : Bool) (fuel : Nat) {g : Gss} {fr : Frontier}
    {h : Nat} {hd0 : Head} (hhd0 : g.heads[h]? = some hd0) (hok0 : HeadOk env hd0) :
    SatE A E (FHStep env pp fuel g fr h hd0) (frontierHead env pp fuel (g, fr) h) := by
  unfold frontierHead
  refine SatE.bind_ok (head_ok hhd0) ?_
  dsimp only
  split
  · rename_i tk htk
    exact .keep tk htk
  · rename_i htk
    have ltoks := (findLookaheadsCtx_sat (A := A) (E := E) env hl pp fuel hd0.toCtx).toks
    generalize hr : findLookaheadsCtx env pp fuel hd0.toCtx = r at ltoks ⊢
    obtain ⟨cx, o⟩ := r
    cases o with
    | ok toks =>
      refine SatE.bind_ok (a := toks) rfl ?_
      cases toks with
      | nil => exact .dead cx htk hr (lookahead_pos hok0 hr)
      | cons tk more =>
        have hp := lookahead_pos hok0 hr
        exact SatE.bind_ok (layoutBefore_ok env (hd0.withCtx cx) tk (hp.2.2 tk List.mem_cons_self)) (.live cx tk more htk hr hp)
    | err e => exact ltoks
    | panic s => exact ltoks
    | fuel => trivial

theorem HeadOk.moved {env : Env} {hd0 hd : Head} (h : HeadOk env hd0) (hs : hd.state = hd0.state)
    (hf : hd.frontier = hd0.frontier) (hspan : posLt hd.pos hd.span.s = false)
    (htok : ∀ tk, hd.tok = some tk → posLt hd.pos tk.span.s = false) : HeadOk env hd :=
  ⟨hs ▸ h.range, by rw [hs, hf]; exact h.start, hspan, htok⟩

theorem FHStep.ginv {env : Env} {pp : Bool} {fuel F : Nat} {g : Gss} {fr : Frontier} {h : Nat} {hd0 : Head}
    {r : Gss × Frontier} (s : FHStep env pp fuel g fr h hd0 r) (hg : GInv env g) (hfr : FrontierOk g F fr)
    (hhd0 : g.heads[h]? = some hd0) (hF : hd0.frontier = F) (hterm : TermEdges g h) :
    GInv env r.1 ∧ FExt g r.1 ∧ FrontierOk r.1 F r.2 := by
  have hok0 := hg.heads _ hd0 hhd0
  cases s with
  | keep tk htk => exact ⟨hg, FExt.refl g, FrontierOk.insert hd0 hhd0 rfl hF (by rw [htk]; rfl) hfr⟩
  | dead cx htk _ hp =>
    obtain ⟨ls, hspan, -⟩ := hp
    obtain ⟨k1, k2, -⟩ := setHead_ginv (hd := hd0.withCtx cx) hg hhd0 htk ls rfl
      (hok0.moved ls rfl hspan fun tk h => absurd (htk.symm.trans h) nofun)
    exact ⟨k1, k2, hfr.ext k2.ext⟩
  | live cx tk more htk _ hp =>
    obtain ⟨ls, hspan, htoks⟩ := hp
    obtain ⟨k1, k2, k3⟩ := setHead_ginv (hd := { hd0.withCtx cx with tok := some tk }) hg hhd0 htk ls rfl
      (hok0.moved ls rfl hspan fun tk' h => Option.some.inj h ▸ htoks tk List.mem_cons_self)
    obtain ⟨j1, j2, j3⟩ := splitHeads_ginv (env := env) (headIdx := h) (hd := { hd0.withCtx cx with tok := some tk }) hF cx.pos more
      (fun tk' hm => htoks tk' (List.mem_cons_of_mem _ hm)) _ _ k1 k3 (hterm.fext k2 (lt_size_of_getElem? hhd0))
      (FrontierOk.insert (k := (cx.pos, tk.kind)) _ k3 rfl hF rfl (hfr.ext k2.ext)) _ rfl
    exact ⟨j1, k2.trans j2, j3⟩

/-- `create_frontier` keeps `GInv`, `FExt`, `FrontierOk`; `I` is whatever else is to be carried over the base heads, given
    what each `frontierHead` did -/
theorem createFrontier_hoare {env : Env} (hl : ¬ A → LayoutSafe env) (pp : Bool) (fuel : Nat) {F : Nat}
    {g : Gss} (hg : GInv env g) {base : List Nat} (hb : BaseOk g F base) {I : List Nat → Gss × Frontier → Prop}
    (h0 : I [] (g, []))
    (step : ∀ {pre : List Nat} {h : Nat} {post : List Nat} {g1 : Gss} {fr1 : Frontier} {hd0 : Head} {r : Gss × Frontier},
      base = pre ++ h :: post → GInv env g1 → FExt g g1 → FrontierOk g1 F fr1 → g1.heads[h]? = some hd0 →
      FHStep env pp fuel g1 fr1 h hd0 r → I pre (g1, fr1) → I (pre ++ [h]) r) :
    SatE A E (fun r => GInv env r.1 ∧ FExt g r.1 ∧ FrontierOk r.1 F r.2 ∧ I base r) (createFrontier env pp fuel g base) := by
  unfold createFrontier
  refine foldO_hoare (I := fun pre r => GInv env r.1 ∧ FExt g r.1 ∧ FrontierOk r.1 F r.2 ∧ I pre r)
    ⟨hg, FExt.refl g, fun _ _ h => absurd h List.not_mem_nil, h0⟩ ?_
  rintro pre h post ⟨g1, fr1⟩ hl' ⟨hg1, hx1, hfr1, hi⟩
  obtain ⟨⟨hd, hhd, hF⟩, hterm⟩ := (hb.fext hx1) h (hl' ▸ List.mem_append_right _ List.mem_cons_self)
  exact (frontierHead_spec hl pp fuel hhd (hg1.heads _ hd hhd)).mono fun r s =>
    let ⟨k1, k2, k3⟩ := s.ginv hg1 hfr1 hhd hF hterm
    ⟨k1, hx1.trans k2, k3, step hl' hg1 hx1 hfr1 hhd s hi⟩

theorem keyLt_irrefl (k : Pos × Nat) : keyLt k k = false := by
  unfold keyLt
  have : posLt k.1 k.1 = false := posLe_refl k.1
  simp [this]

def FrShape (k : Pos × Nat) (fr : Frontier) (sub : SubFrontier) : Prop :=
  (fr = [] ∧ sub = []) ∨ (fr = [(k, sub)] ∧ sub ≠ [])

theorem FrShape.insert {k : Pos × Nat} {fr : Frontier} {sub : SubFrontier} (hs : FrShape k fr sub) (s h : Nat) :
    FrShape k (frInsert k s h fr) (sfInsert s h sub) := by
  rcases hs with ⟨h1, h2⟩ | ⟨h1, _⟩
  · subst h1; subst h2
    right
    exact ⟨by simp [frInsert, sfInsert], by simp [sfInsert]⟩
  · subst h1
    right
    refine ⟨?_, List.ne_nil_of_mem (sfInsert_ins s h sub).self⟩
    simp [frInsert, keyLt_irrefl]

end Rustemo.Glr
