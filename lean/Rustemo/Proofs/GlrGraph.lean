import Rustemo.Proofs.GlrBasic
import Rustemo.Proofs.CoreSound
import Rustemo.Model.GlrCert
/-!
`GInv`: for every edge `src → dst` the automaton has `state(dst) --X--> state(src)` on the accessing symbol `X` of
`state(src)`, and every possibility packed on the edge fits (`NodeFits`): a terminal node is the token kind `X` shifted
from the level of `dst`; a nonterminal node is a production of `X` whose children are parent links spelling a prefix of
the right-hand side from `dst` up to the level of `src`, the missing tail nullable.  `NodeFits` mentions heads and the
ends of edges only, hence is stable under `Ext` (a head keeps state, level and, once set, lookahead; an edge its ends).
-/

namespace Rustemo.Glr

/-- the parent links `es` spell `Xs`, starting at head `r` and ending at a head of level `j` -/
def ChildrenOk (t : Table) (g : Gss) : List Nat → List Nat → Nat → Nat → Prop
  | [], Xs, r, j => Xs = [] ∧ ∃ hd, g.heads[r]? = some hd ∧ hd.frontier = j
  | e :: es, Xs, r, j => ∃ ed hs X Xs', g.edges[e]? = some ed ∧ g.heads[ed.src]? = some hs ∧
      Xs = X :: Xs' ∧ ed.dst = r ∧ t.symAt hs.state = X ∧ ChildrenOk t g es Xs' ed.src j

def NodeFits (env : Env) (g : Gss) (nd : SNode) (X r j : Nat) : Prop :=
  match nd with
  | .term tk _ => tk.kind = X ∧ X < env.g.nterms ∧ ∃ hd, g.heads[r]? = some hd ∧ hd.frontier + 1 = j
  | .nonterm p _ _ ch => ∃ pr, env.g.prods[p]? = some pr ∧ pr.lhs = X ∧ ch.length ≤ pr.rhs.length ∧
      (∀ Y ∈ pr.rhs.drop ch.length, Nullable env.g Y) ∧
      ChildrenOk env.t g ch (pr.rhs.take ch.length) r j

structure EdgeOk (env : Env) (g : Gss) (ed : Edge) (ne : Prop) : Prop where
  ends : ∃ hs hd, g.heads[ed.src]? = some hs ∧ g.heads[ed.dst]? = some hd ∧
    env.t.trans env.g hd.state (env.t.symAt hs.state) hs.state ∧
    ∀ n ∈ ed.poss, ∃ nd, g.nodes[n]? = some nd ∧ NodeFits env g nd (env.t.symAt hs.state) ed.dst hs.frontier
  poss_ne : ne → ed.poss ≠ []

/-- `start`: so that an edge from an accepted head goes down to level 0 (`accepted_edge`); `span`, `tok`: neither starts
    after the position, so `create_frontier` takes no slice (`layoutBefore_ok`) -/
structure HeadOk (env : Env) (hd : Head) : Prop where
  range : hd.state < env.t.states.size
  start : (hd.state = 0 ∧ hd.frontier = 0) ∨ ∀ au ∈ autosOf env.g env.t, hd.state ≠ au.start
  span : posLt hd.pos hd.span.s = false
  tok : ∀ tk, hd.tok = some tk → posLt hd.pos tk.span.s = false

def isTermNode (g : Gss) (n : Nat) : Prop := ∃ tk sp, g.nodes[n]? = some (.term tk sp)

/-- `x`: an edge that may carry no possibility; the engine is reasoned about at `GInv`, the case `none` -/
structure GInvX (env : Env) (g : Gss) (x : Option Nat) : Prop where
  heads : ∀ (h : Nat) (hd : Head), g.heads[h]? = some hd → HeadOk env hd
  edges : ∀ (e : Nat) (ed : Edge), g.edges[e]? = some ed → EdgeOk env g ed (x ≠ some e)
  /-- a fold rewrites the children of a nonterminal node in place, for the one edge it sits on (`FoldSpec.ginv`); terminal
      nodes are shared by the copies `head_for_lookahead` makes of an edge -/
  uniq : ∀ (e e' : Nat) (ed ed' : Edge) (n : Nat), g.edges[e]? = some ed → g.edges[e']? = some ed' → n ∈ ed.poss → n ∈ ed'.poss →
    ¬ isTermNode g n → e = e'

abbrev GInv (env : Env) (g : Gss) : Prop := GInvX env g none

structure Ext (g g' : Gss) : Prop where
  heads : ∀ (h : Nat) (hd : Head), g.heads[h]? = some hd → ∃ hd' : Head, g'.heads[h]? = some hd' ∧ hd'.state = hd.state ∧
    hd'.frontier = hd.frontier ∧ (∀ tk, hd.tok = some tk → hd'.tok = some tk)
  edges : ∀ (e : Nat) (ed : Edge), g.edges[e]? = some ed → ∃ ed' : Edge, g'.edges[e]? = some ed' ∧ ed'.src = ed.src ∧ ed'.dst = ed.dst

theorem Ext.refl (g : Gss) : Ext g g :=
  ⟨fun _ hd h => ⟨hd, h, rfl, rfl, fun _ h => h⟩, fun _ ed h => ⟨ed, h, rfl, rfl⟩⟩

theorem Ext.trans {a b c : Gss} (h1 : Ext a b) (h2 : Ext b c) : Ext a c := by
  constructor
  · intro h hd hh
    obtain ⟨hd', hh', hs, hf, ht⟩ := h1.heads h hd hh
    obtain ⟨hd'', hh'', hs', hf', ht'⟩ := h2.heads h hd' hh'
    exact ⟨hd'', hh'', by rw [hs', hs], by rw [hf', hf], fun tk htk => ht' tk (ht tk htk)⟩
  · intro e ed he
    obtain ⟨ed', he', hs, hd⟩ := h1.edges e ed he
    obtain ⟨ed'', he'', hs', hd'⟩ := h2.edges e ed' he'
    exact ⟨ed'', he'', by rw [hs', hs], by rw [hd', hd]⟩

/-- `ChildrenOk` with the end head named instead of its level: from head `u` to head `v` -/
def ChainEnd (t : Table) (g : Gss) : List Nat → List Nat → Nat → Nat → Prop
  | [], Xs, u, v => Xs = [] ∧ u = v
  | e :: es, Xs, u, v => ∃ (ed : Edge) (hs : Head) (X : Nat) (Xs' : List Nat), g.edges[e]? = some ed ∧
      g.heads[ed.src]? = some hs ∧ Xs = X :: Xs' ∧ ed.dst = u ∧ t.symAt hs.state = X ∧ ChainEnd t g es Xs' ed.src v

theorem ChainEnd.mono_on {t : Table} {g g' : Gss} : ∀ {P Xs : List Nat} {u v : Nat},
    (∀ e ∈ P, ∀ (ed : Edge) (hs : Head), g.edges[e]? = some ed → g.heads[ed.src]? = some hs →
      ∃ (ed' : Edge) (hs' : Head), g'.edges[e]? = some ed' ∧ ed'.src = ed.src ∧ ed'.dst = ed.dst ∧
        g'.heads[ed.src]? = some hs' ∧ hs'.state = hs.state) →
    ChainEnd t g P Xs u v → ChainEnd t g' P Xs u v
  | [] => fun _ h => h
  | e :: es => by
    intro hP h
    obtain ⟨ed, hs, X, Xs', hed, hhs, hXs, hdst, hsym, hr⟩ := h
    obtain ⟨ed', hs', hed', hsrc', hdst', hhs', hst'⟩ := hP e List.mem_cons_self ed hs hed hhs
    exact ⟨ed', hs', X, Xs', hed', hsrc' ▸ hhs', hXs, hdst'.trans hdst, hst' ▸ hsym,
      hsrc' ▸ ChainEnd.mono_on (fun e' h' => hP e' (List.mem_cons_of_mem _ h')) hr⟩

theorem ChainEnd.mono {t : Table} {g g' : Gss}
    (hh : ∀ (i : Nat) (hd : Head), g.heads[i]? = some hd → ∃ hd' : Head, g'.heads[i]? = some hd' ∧ hd'.state = hd.state)
    (he : ∀ (e : Nat) (ed : Edge), g.edges[e]? = some ed →
      ∃ ed' : Edge, g'.edges[e]? = some ed' ∧ ed'.src = ed.src ∧ ed'.dst = ed.dst)
    {P Xs : List Nat} {u v : Nat} (h : ChainEnd t g P Xs u v) : ChainEnd t g' P Xs u v :=
  ChainEnd.mono_on (fun e _ ed hs hed hhs =>
    let ⟨ed', a, b, c⟩ := he e ed hed
    let ⟨hs', d, f⟩ := hh _ hs hhs
    ⟨ed', hs', a, b, c, d, f⟩) h

theorem ChainEnd.ext {t : Table} {g g' : Gss} (hx : Ext g g') {P Xs : List Nat} {u v : Nat}
    (h : ChainEnd t g P Xs u v) : ChainEnd t g' P Xs u v :=
  ChainEnd.mono (fun i hd hi => let ⟨hd', h1, h2, _⟩ := hx.heads i hd hi; ⟨hd', h1, h2⟩) hx.edges h

theorem ChainEnd.transfer {t : Table} {g g' : Gss} : ∀ {P Xs : List Nat} {u v : Nat},
    (∀ e ∈ P, g.edges[e]? = g'.edges[e]?) →
    (∀ e ∈ P, ∀ ed : Edge, g'.edges[e]? = some ed → g.heads[ed.src]? = g'.heads[ed.src]?) →
    ChainEnd t g' P Xs u v → ChainEnd t g P Xs u v :=
  fun hE hH => ChainEnd.mono_on fun e he ed hs hed hhs =>
    ⟨ed, hs, (hE e he).trans hed, rfl, rfl, (hH e he ed hed).trans hhs, rfl⟩

theorem ChainEnd.length {t : Table} {g : Gss} : ∀ {P Xs : List Nat} {u v : Nat}, ChainEnd t g P Xs u v →
    P.length = Xs.length
  | [] => fun h => by rw [h.1]
  | _ :: es => by
    intro h
    obtain ⟨ed, hs, X, Xs', _, _, rfl, _, _, hr⟩ := h
    simp [ChainEnd.length hr]

theorem ChainEnd.append {t : Table} {g : Gss} : ∀ {P1 P2 Xs1 Xs2 : List Nat} {u w v : Nat},
    ChainEnd t g P1 Xs1 u w → ChainEnd t g P2 Xs2 w v → ChainEnd t g (P1 ++ P2) (Xs1 ++ Xs2) u v
  | [] => by intro h1 h2; rw [h1.1, h1.2]; simpa using h2
  | _ :: _ => by
    intro h1 h2
    obtain ⟨ed, hs, X, Xs', he, hhs, hXs, hdst, hsym, hr⟩ := h1
    subst hXs
    exact ⟨ed, hs, X, Xs' ++ _, he, hhs, by simp, hdst, hsym, ChainEnd.append hr h2⟩

theorem ChainEnd.split {t : Table} {g : Gss} : ∀ (i : Nat) {P Xs : List Nat} {u v : Nat},
    ChainEnd t g P Xs u v → ∃ w, ChainEnd t g (P.take i) (Xs.take i) u w ∧ ChainEnd t g (P.drop i) (Xs.drop i) w v
  | 0, _ => fun h => ⟨_, ⟨rfl, rfl⟩, h⟩
  | i+1, [] => by
    intro h
    obtain ⟨rfl, rfl⟩ := h
    exact ⟨_, ⟨rfl, rfl⟩, ⟨rfl, rfl⟩⟩
  | i+1, e :: es => by
    intro h
    obtain ⟨ed, hs, X, Xs', he, hhs, hXs, hdst, hsym, hr⟩ := h
    subst hXs
    obtain ⟨w, h1, h2⟩ := ChainEnd.split i hr
    exact ⟨w, ⟨ed, hs, X, _, he, hhs, rfl, hdst, hsym, h1⟩, h2⟩

theorem ChainEnd.last {t : Table} {g : Gss} {pre Xs : List Nat} {e u w : Nat}
    (h : ChainEnd t g (pre ++ [e]) Xs u w) :
    ∃ (w' : Nat) (ed : Edge), ChainEnd t g pre (Xs.take pre.length) u w' ∧ g.edges[e]? = some ed ∧ ed.src = w ∧ ed.dst = w' := by
  obtain ⟨w', h1, h2⟩ := ChainEnd.split pre.length h
  simp only [List.take_left', List.drop_left'] at h1 h2
  obtain ⟨ed, hs, X, Xs', he, _, _, hdst, _, hr⟩ := h2
  exact ⟨w', ed, h1, he, hr.2, hdst⟩

theorem ChainEnd.link {t : Table} {g : Gss} {P Xs : List Nat} {u v : Nat} (h : ChainEnd t g P Xs u v) {i e : Nat}
    (hi : P[i]? = some e) : ∃ (w : Nat) (ed : Edge) (hs : Head), ChainEnd t g (P.take i) (Xs.take i) u w ∧
      g.edges[e]? = some ed ∧ g.heads[ed.src]? = some hs ∧ ed.dst = w ∧ Xs[i]? = some (t.symAt hs.state) := by
  obtain ⟨w, h1, h2⟩ := ChainEnd.split i h
  obtain ⟨r, hr⟩ : ∃ r, P.drop i = e :: r := ⟨_, drop_eq_cons_iff.mpr ⟨hi, rfl⟩⟩
  rw [hr] at h2
  obtain ⟨ed, hs, X, Xs', he, hhs, hXs, hdst, hsym, _⟩ := h2
  exact ⟨w, ed, hs, h1, he, hhs, hdst, hsym ▸ (drop_eq_cons_iff.mp hXs).1⟩

theorem ChainEnd.end_unique {t : Table} {g : Gss} : ∀ {P Xs Xs' : List Nat} {u v v' : Nat},
    ChainEnd t g P Xs u v → ChainEnd t g P Xs' u v' → v = v'
  | [] => fun h1 h2 => by rw [← h1.2, ← h2.2]
  | _ :: _ => by
    intro h1 h2
    obtain ⟨ed, _, _, _, he, _, _, _, _, hr⟩ := h1
    obtain ⟨ed', _, _, _, he', _, _, _, _, hr'⟩ := h2
    obtain rfl := Option.mem_unique he he'
    exact ChainEnd.end_unique hr hr'

theorem ChainEnd.lastEdge {t : Table} {g : Gss} {P : List Nat} : ∀ {Xs : List Nat} {u v : Nat}, ChainEnd t g P Xs u v →
    P ≠ [] → ∃ (e : Nat) (ed : Edge), P[P.length - 1]? = some e ∧ g.edges[e]? = some ed ∧ ed.src = v := by
  induction P with
  | nil => exact fun _ hne => absurd rfl hne
  | cons e es ih =>
    intro _ u v h _
    obtain ⟨ed, hs, X, Xs', he, hhs, hXs, hdst, hsym, hr⟩ := h
    cases es with
    | nil => exact ⟨e, ed, rfl, he, hr.2⟩
    | cons e2 es2 =>
      obtain ⟨e', ed', h1, h2, h3⟩ := ih hr (List.cons_ne_nil _ _)
      exact ⟨e', ed', h1, h2, h3⟩

theorem ChainEnd.end_cases {t : Table} {g : Gss} {P Xs : List Nat} {u v : Nat} (h : ChainEnd t g P Xs u v) :
    (P = [] ∧ v = u) ∨ ∃ e ∈ P, ∃ ed : Edge, g.edges[e]? = some ed ∧ ed.src = v := by
  cases P with
  | nil => exact Or.inl ⟨rfl, h.2.symm⟩
  | cons e es =>
    obtain ⟨e', ed, h1, h2, h3⟩ := h.lastEdge (List.cons_ne_nil _ _)
    exact Or.inr ⟨e', List.mem_of_getElem? h1, ed, h2, h3⟩

theorem ChainEnd.edge_mem {t : Table} {g : Gss} : ∀ {P Xs : List Nat} {u v : Nat}, ChainEnd t g P Xs u v →
    ∀ e ∈ P, ∃ ed : Edge, g.edges[e]? = some ed
  | [] => fun _ _ he => absurd he List.not_mem_nil
  | _ :: _ => by
    intro h e he
    obtain ⟨ed, _, _, _, hed, _, _, _, _, hr⟩ := h
    rcases List.mem_cons.mp he with rfl | he
    · exact ⟨ed, hed⟩
    · exact ChainEnd.edge_mem hr e he

theorem ChainEnd.toChildren {t : Table} {g : Gss} : ∀ {P Xs : List Nat} {u v : Nat} {hv : Head},
    ChainEnd t g P Xs u v → g.heads[v]? = some hv → ChildrenOk t g P Xs u hv.frontier
  | [] => fun h hh => ⟨h.1, _, by rw [h.2]; exact hh, rfl⟩
  | _ :: _ => by
    intro h hh
    obtain ⟨ed, hs, X, Xs', he, hhs, hXs, hdst, hsym, hr⟩ := h
    exact ⟨ed, hs, X, Xs', he, hhs, hXs, hdst, hsym, ChainEnd.toChildren hr hh⟩

theorem ChildrenOk.toChain {t : Table} {g : Gss} : ∀ {P Xs : List Nat} {u j : Nat},
    ChildrenOk t g P Xs u j → ∃ (v : Nat) (hv : Head), ChainEnd t g P Xs u v ∧ g.heads[v]? = some hv ∧ hv.frontier = j
  | [] => fun h => ⟨_, h.2.choose, ⟨h.1, rfl⟩, h.2.choose_spec.1, h.2.choose_spec.2⟩
  | _ :: _ => by
    intro h
    obtain ⟨ed, hs, X, Xs', he, hhs, hXs, hdst, hsym, hr⟩ := h
    obtain ⟨v, hv, hc, hh, hf⟩ := ChildrenOk.toChain hr
    exact ⟨v, hv, ⟨ed, hs, X, Xs', he, hhs, hXs, hdst, hsym, hc⟩, hh, hf⟩

theorem ChildrenOk.ext {t : Table} {g g' : Gss} (hx : Ext g g') (es Xs : List Nat) (r j : Nat)
    (h : ChildrenOk t g es Xs r j) : ChildrenOk t g' es Xs r j := by
  obtain ⟨v, hv, hc, hhv, hf⟩ := ChildrenOk.toChain h
  obtain ⟨hv', hhv', _, hf', _⟩ := hx.heads v hv hhv
  exact hf ▸ hf' ▸ (ChainEnd.ext hx hc).toChildren hhv'

theorem childrenOk_mem {t : Table} {g : Gss} {es Xs : List Nat} {r j : Nat} (h : ChildrenOk t g es Xs r j) (e : Nat)
    (he : e ∈ es) : ∃ ed : Edge, g.edges[e]? = some ed :=
  let ⟨_, _, hc, _⟩ := ChildrenOk.toChain h
  hc.edge_mem e he

theorem ChildrenOk.level_unique {t : Table} {g : Gss} :
    ∀ (es Xs Xs' : List Nat) (r j j' : Nat), es ≠ [] → ChildrenOk t g es Xs r j → ChildrenOk t g es Xs' r' j' → j = j' := by
  intro es Xs Xs' r j j' hne h1 h2
  obtain ⟨v, hv, hc, hhv, rfl⟩ := h1.toChain
  obtain ⟨v', hv', hc', hhv', rfl⟩ := h2.toChain
  -- the first link fixes the root
  obtain rfl : r = r' := by
    cases es with
    | nil => exact absurd rfl hne
    | cons e es =>
      obtain ⟨ed, _, _, _, he, _, _, hd, _⟩ := hc
      obtain ⟨ed', _, _, _, he', _, _, hd', _⟩ := hc'
      rw [← hd, ← hd', Option.mem_unique he he']
  cases hc.end_unique hc'
  rw [Option.mem_unique hhv hhv']

theorem NodeFits.ext {env : Env} {g g' : Gss} (hx : Ext g g') {nd : SNode} {X r j : Nat}
    (h : NodeFits env g nd X r j) : NodeFits env g' nd X r j := by
  cases nd with
  | term tk sp =>
    obtain ⟨h1, h2, hd, hh, hf⟩ := h
    obtain ⟨hd', hh', _, hf', _⟩ := hx.heads r hd hh
    exact ⟨h1, h2, hd', hh', by rw [hf', hf]⟩
  | nonterm p sp l ch =>
    obtain ⟨pr, hpr, hl, hlen, hnul, hch⟩ := h
    exact ⟨pr, hpr, hl, hlen, hnul, ChildrenOk.ext hx _ _ _ _ hch⟩

theorem EdgeOk.ext {env : Env} {g g' : Gss} (hx : Ext g g') {ed : Edge} {ne : Prop}
    (hn : ∀ n ∈ ed.poss, ∀ nd, g.nodes[n]? = some nd → g'.nodes[n]? = some nd)
    (h : EdgeOk env g ed ne) : EdgeOk env g' ed ne := by
  obtain ⟨⟨hs, hd, hhs, hhd, htr, hposs⟩, hne⟩ := h
  obtain ⟨hs', hhs', hst, hfr, _⟩ := hx.heads _ hs hhs
  obtain ⟨hd', hhd', hst', _, _⟩ := hx.heads _ hd hhd
  refine ⟨⟨hs', hd', hhs', hhd', by rw [hst, hst']; exact htr, ?_⟩, hne⟩
  intro n hnp
  obtain ⟨nd, hnd, hfit⟩ := hposs n hnp
  exact ⟨nd, hn n hnp nd hnd, by rw [hst, hfr]; exact NodeFits.ext hx hfit⟩

theorem isTermNode.mono {g g' : Gss} (hn : ∀ (n : Nat) (nd : SNode), g.nodes[n]? = some nd → g'.nodes[n]? = some nd)
    {n : Nat} (h : isTermNode g n) : isTermNode g' n := by
  obtain ⟨tk, sp, h⟩ := h
  exact ⟨tk, sp, hn n _ h⟩

theorem GInv.fits {env : Env} {g : Gss} (hg : GInv env g) {e : Nat} {ed : Edge} (hed : g.edges[e]? = some ed)
    {hs : Head} (hhs : g.heads[ed.src]? = some hs) {n : Nat} (hn : n ∈ ed.poss) :
    ∃ nd, g.nodes[n]? = some nd ∧ NodeFits env g nd (env.t.symAt hs.state) ed.dst hs.frontier := by
  obtain ⟨hs', _, hhs', _, _, hposs⟩ := (hg.edges e ed hed).ends
  obtain rfl := Option.mem_unique hhs hhs'
  exact hposs n hn

theorem poss_chain {env : Env} {g : Gss} (hg : GInv env g) {e : Nat} {ed : Edge} (hed : g.edges[e]? = some ed)
    {hs : Head} (hhs : g.heads[ed.src]? = some hs) {n p : Nat} {sp : Span} {l : Option Slice} {C : List Nat}
    (hn : n ∈ ed.poss) (hnd : g.nodes[n]? = some (.nonterm p sp l C)) :
    ∃ pr, env.g.prods[p]? = some pr ∧ C.length ≤ pr.rhs.length ∧ ∃ (v : Nat) (hv : Head),
      ChainEnd env.t g C (pr.rhs.take C.length) ed.dst v ∧ g.heads[v]? = some hv ∧ hv.frontier = hs.frontier := by
  obtain ⟨nd, hnd', hfit⟩ := hg.fits hed hhs hn
  obtain rfl := Option.mem_unique hnd hnd'
  obtain ⟨pr, hpr, _, hlen, _, hch⟩ := hfit
  exact ⟨pr, hpr, hlen, ChildrenOk.toChain hch⟩

theorem GInvX.poss_lt {env : Env} {g : Gss} {x : Option Nat} (h : GInvX env g x) {e : Nat} {ed : Edge} {n : Nat}
    (he : g.edges[e]? = some ed) (hn : n ∈ ed.poss) : n < g.nodes.size := by
  obtain ⟨_, _, _, _, _, hposs⟩ := (h.edges e ed he).ends
  obtain ⟨nd, hnd, _⟩ := hposs n hn
  exact lt_size_of_getElem? hnd

theorem ginv_srcs {env : Env} {g : Gss} (hg : GInv env g) :
    ∀ (e : Nat) (ed : Edge), g.edges[e]? = some ed → ed.src < g.heads.size ∧ ed.dst < g.heads.size := by
  intro e ed he
  obtain ⟨hs, hd, hhs, hhd, _⟩ := (hg.edges e ed he).ends
  exact ⟨lt_size_of_getElem? hhs, lt_size_of_getElem? hhd⟩

theorem GInv.edge_trans {env : Env} {g : Gss} (hg : GInv env g) {e : Nat} {ed : Edge}
    {hs hd : Head} (he : g.edges[e]? = some ed) (hhs : g.heads[ed.src]? = some hs) (hhd : g.heads[ed.dst]? = some hd) :
    env.t.trans env.g hd.state (env.t.symAt hs.state) hs.state := by
  obtain ⟨hs', hd', hhs', hhd', htr, _⟩ := (hg.edges e ed he).ends
  rw [Option.mem_unique hhs hhs', Option.mem_unique hhd hhd']
  exact htr

theorem GInv.of_ext {env : Env} {g g' : Gss} (h : GInv env g) (hx : Ext g g')
    (hheads : ∀ (i : Nat) (hd : Head), g'.heads[i]? = some hd → HeadOk env hd)
    (hedges : g'.edges = g.edges)
    (hnodes : ∀ (n : Nat) (nd : SNode), g.nodes[n]? = some nd → g'.nodes[n]? = some nd) :
    GInv env g' := by
  constructor
  · exact hheads
  · intro e ed he
    rw [hedges] at he
    exact EdgeOk.ext hx (fun n _ nd hnd => hnodes n nd hnd) (h.edges e ed he)
  · intro e e' ed ed' n he he' hn hn' hnt
    rw [hedges] at he he'
    exact h.uniq e e' ed ed' n he he' hn hn' (fun ht => hnt (ht.mono hnodes))

theorem GInv.empty (env : Env) : GInv env {} :=
  ⟨fun _ _ h => by simp at h, fun _ _ h => by simp at h, fun _ _ _ _ _ h => by simp at h⟩

theorem ext_addHead (g : Gss) (hd : Head) : Ext g (g.addHead hd).1 := by
  constructor
  · intro i hd0 hi
    exact ⟨hd0, addHead_old hi, rfl, rfl, fun _ h => h⟩
  · intro e ed he
    exact ⟨ed, he, rfl, rfl⟩

theorem GInv.addHead {env : Env} {g : Gss} (h : GInv env g) (hd : Head)
    (hok : HeadOk env hd) : GInv env (g.addHead hd).1 := by
  refine h.of_ext (ext_addHead g hd) (fun i hd' hi => ?_) rfl fun _ _ hn => hn
  rw [addHead_heads] at hi
  split at hi
  · exact Option.some.inj hi ▸ hok
  · exact h.heads i hd' hi

theorem ext_setHead (g : Gss) (i : Nat) (old hd : Head) (hold : g.heads[i]? = some old)
    (hs : hd.state = old.state) (hf : hd.frontier = old.frontier)
    (ht : ∀ tk, old.tok = some tk → hd.tok = some tk) : Ext g (g.setHead i hd) := by
  constructor
  · intro j hd0 hj
    rw [setHead_heads]
    by_cases hij : i = j
    · subst hij
      obtain rfl := Option.mem_unique hold hj
      have := lt_size_of_getElem? hold
      exact ⟨hd, by simp [this], hs, hf, ht⟩
    · exact ⟨hd0, by simp [hij, hj], rfl, rfl, fun _ h => h⟩
  · intro e ed he
    exact ⟨ed, he, rfl, rfl⟩

theorem GInv.setHead {env : Env} {g : Gss} (h : GInv env g) (i : Nat) (old hd : Head)
    (hold : g.heads[i]? = some old) (hs : hd.state = old.state) (hf : hd.frontier = old.frontier)
    (ht : ∀ tk, old.tok = some tk → hd.tok = some tk) (hok : HeadOk env hd) : GInv env (g.setHead i hd) := by
  refine h.of_ext (ext_setHead g i old hd hold hs hf ht) (fun j hd' hj => ?_) rfl fun _ _ hn => hn
  rw [setHead_heads] at hj
  by_cases hij : i = j
  · rw [if_pos hij, if_pos (lt_size_of_getElem? hold)] at hj
    exact Option.some.inj hj ▸ hok
  · rw [if_neg hij] at hj
    exact h.heads j hd' hj

theorem ext_addEdge (g : Gss) (s d : Nat) (ps : List Nat) : Ext g (g.addEdge s d ps).1 := by
  constructor
  · intro i hd hi; exact ⟨hd, hi, rfl, rfl, fun _ h => h⟩
  · intro e ed he
    exact ⟨ed, addEdge_old he, rfl, rfl⟩

theorem GInv.addEdge {env : Env} {g : Gss} (h : GInv env g) (s d : Nat) (ps : List Nat) (hs hd : Head)
    (hhs : g.heads[s]? = some hs) (hhd : g.heads[d]? = some hd)
    (htr : env.t.trans env.g hd.state (env.t.symAt hs.state) hs.state) (hne : ps ≠ [])
    (hps : ∀ n ∈ ps, isTermNode g n ∧ ∃ nd, g.nodes[n]? = some nd ∧ NodeFits env g nd (env.t.symAt hs.state) d hs.frontier) :
    GInv env (g.addEdge s d ps).1 := by
  have hx := ext_addEdge g s d ps
  refine ⟨h.heads, fun e ed he => ?_, fun e e' ed ed' n he he' hn hn' hnt => ?_⟩
  · rcases addEdge_edge_cases he with he | ⟨rfl, rfl⟩
    · exact EdgeOk.ext hx (fun n _ nd hnd => hnd) (h.edges e ed he)
    · refine ⟨⟨hs, hd, hhs, hhd, htr, fun n hn => ?_⟩, fun _ => hne⟩
      obtain ⟨_, nd, hnd, hfit⟩ := hps n hn
      exact ⟨nd, hnd, NodeFits.ext hx hfit⟩
  · have hnt : ¬ isTermNode g n := hnt
    rcases addEdge_edge_cases he with he | ⟨rfl, rfl⟩ <;> rcases addEdge_edge_cases he' with he' | ⟨rfl, rfl⟩
    · exact h.uniq e e' ed ed' n he he' hn hn' hnt
    · exact absurd (hps n hn').1 hnt
    · exact absurd (hps n hn).1 hnt
    · rfl

def HeadFun (g : Gss) : Prop :=
  ∀ (h h' : Nat) (hd hd' : Head), g.heads[h]? = some hd → g.heads[h']? = some hd' →
    hd.frontier = hd'.frontier → hd.state = hd'.state → h = h'

end Rustemo.Glr
