import Rustemo.Proofs.GlrDForest
import Rustemo.Proofs.ListFacts
/-!
The unfolding `U g k n` of the graph: the list of trees enumerated from node `n` unfolded to depth `k`; `InU` is membership
in it.  No invariant of the graph is used.  Soundness and completeness of the engine's forest need membership only (`inU_term_iff`,
`inU_nonterm_iff`); no-duplicates is about the list (`U_term`, `U_nonterm`).
-/

namespace Rustemo.Glr
open Rustemo.Front

/-- the enumeration order of `DPList.all` on plain lists -/
def prodL {α : Type} : List (List α) → List (List α)
  | [] => [[]]
  | l :: ls => l.flatMap (fun t => (prodL ls).map (fun ts => t :: ts))

theorem all_listToDP (ps : List DParent) : (listToDP ps).all = prodL (ps.map DParent.all) := by
  induction ps with
  | nil => rfl
  | cons p ps ih => rw [listToDP, DPList.all, ih, List.map_cons, prodL]

theorem all_listToDN (ns : List DNode) : (listToDN ns).all = (ns.map DNode.all).flatten := by
  induction ns with
  | nil => rfl
  | cons n ns ih => rw [listToDN, DNList.all, ih, List.map_cons, List.flatten_cons]

theorem mem_prodL {α : Type} (ls : List (List α)) (ts : List α) :
    ts ∈ prodL ls ↔ All2 (fun l t => t ∈ l) ls ts := by
  induction ls generalizing ts with
  | nil => exact ⟨fun h => List.mem_singleton.mp h ▸ .nil, fun h => by cases h; exact List.mem_singleton_self _⟩
  | cons l ls ih =>
    simp only [prodL, List.mem_flatMap, List.mem_map]
    constructor
    · rintro ⟨t, ht, ts', hts', rfl⟩
      exact .cons ht ((ih ts').mp hts')
    · intro h
      cases h with
      | cons ht hts => exact ⟨_, ht, _, (ih _).mpr hts, rfl⟩

theorem prodL_pairwise {α : Type} {R : α → α → Prop} (ls : List (List α))
    (h : ∀ l ∈ ls, l.Pairwise (fun a b => ¬ R a b)) :
    (prodL ls).Pairwise (fun ts ts' => ∃ (k : Nat) (t t' : α), ts[k]? = some t ∧ ts'[k]? = some t' ∧ ¬ R t t') := by
  induction ls with
  | nil => exact List.pairwise_singleton _ _
  | cons l ls ih =>
    have ih := ih fun l' hl' => h l' (List.mem_cons_of_mem _ hl')
    rw [prodL, List.pairwise_flatMap]
    constructor
    · intro t _
      rw [List.pairwise_map]
      exact ih.imp fun ⟨k, a, b, h1, h2, h3⟩ => ⟨k + 1, a, b, h1, h2, h3⟩
    · apply (h l List.mem_cons_self).imp
      intro a b hab x hx y hy
      obtain ⟨xs, _, rfl⟩ := List.mem_map.mp hx
      obtain ⟨ys, _, rfl⟩ := List.mem_map.mp hy
      exact ⟨0, a, b, rfl, rfl, hab⟩

theorem mem_all_listToDN (l : List DNode) (tr : Tree) : tr ∈ (listToDN l).all ↔ ∃ d ∈ l, tr ∈ d.all := by
  rw [all_listToDN, ← List.flatMap_def]
  exact List.mem_flatMap

theorem unfoldNode_succ (g : Gss) (k n : Nat) : unfoldNode g (k+1) n =
    (match g.nodes[n]? with
     | some (.term tk _) => DNode.term tk
     | some (.nonterm p sp _ ch) =>
       DNode.nonterm p sp (listToDP (ch.map fun e => DParent.mk (listToDN ((possOf g e).map (unfoldNode g k)))))
     | none => DNode.cut) := rfl

abbrev U (g : Gss) (k n : Nat) : List Tree := (unfoldNode g k n).all

abbrev UE (g : Gss) (k e : Nat) : List Tree := ((possOf g e).map (U g k)).flatten

theorem mem_UE {g : Gss} {k e : Nat} {t : Tree} : t ∈ UE g k e ↔ ∃ m ∈ possOf g e, t ∈ U g k m := by
  rw [UE, ← List.flatMap_def]
  exact List.mem_flatMap

theorem U_term {g : Gss} {k n : Nat} {tk : Tok} {sp : Span} (h : g.nodes[n]? = some (.term tk sp)) :
    U g (k + 1) n = [.leaf tk.kind tk.span tk.val none] := by
  unfold U
  rw [unfoldNode_succ, h]
  rfl

theorem U_nonterm {g : Gss} {k n p : Nat} {sp : Span} {l : Option Slice} {C : List Nat}
    (h : g.nodes[n]? = some (.nonterm p sp l C)) :
    U g (k + 1) n = (prodL (C.map (UE g k))).map (fun ts => Tree.node p sp none (TreeList.ofList ts)) := by
  unfold U
  rw [unfoldNode_succ, h]
  simp only [DNode.all, all_listToDP, List.map_map]
  congr 2
  apply List.map_congr_left
  intro e' _
  simp only [Function.comp, DParent.all, all_listToDN, List.map_map]
  rfl

theorem U_none {g : Gss} {k n : Nat} (h : g.nodes[n]? = none) : U g (k + 1) n = [] := by
  unfold U
  rw [unfoldNode_succ, h]
  rfl

def InU (g : Gss) (k n : Nat) (tr : Tree) : Prop := tr ∈ (unfoldNode g k n).all

theorem inU_iff {g : Gss} {k n : Nat} {tr : Tree} : InU g k n tr ↔ tr ∈ U g k n := Iff.rfl

theorem inU_term_iff {g : Gss} {k n : Nat} {tk : Tok} {sp : Span} {tr : Tree} (h : g.nodes[n]? = some (.term tk sp)) :
    InU g (k+1) n tr ↔ tr = .leaf tk.kind tk.span tk.val none := by
  rw [inU_iff, U_term h, List.mem_singleton]

theorem inU_nonterm_iff {g : Gss} {k n p : Nat} {sp : Span} {l : Option Slice} {ch : List Nat} {tr : Tree}
    (h : g.nodes[n]? = some (.nonterm p sp l ch)) :
    InU g (k+1) n tr ↔ ∃ trs, All2 (fun e t => ∃ m ∈ possOf g e, InU g k m t) ch trs ∧
      tr = .node p sp none (TreeList.ofList trs) := by
  rw [inU_iff, U_nonterm h, List.mem_map]
  constructor
  · rintro ⟨trs, htrs, rfl⟩
    rw [mem_prodL, All2.map_left] at htrs
    exact ⟨trs, htrs.imp fun _ _ => mem_UE.mp, rfl⟩
  · rintro ⟨trs, htrs, rfl⟩
    refine ⟨trs, ?_, rfl⟩
    rw [mem_prodL, All2.map_left]
    exact htrs.imp fun _ _ => mem_UE.mpr

theorem getTree_inU {r : GlrResult} {i : Nat} {tr : Tree} (h : r.getTree i = some tr) :
    ∃ m ∈ r.roots, InU r.gss (r.gss.nodes.size + 1) m tr := by
  obtain ⟨d, hd, hin⟩ := (mem_all_listToDN _ tr).mp (DNList.get_mem _ i tr h)
  obtain ⟨m, hm, rfl⟩ := List.mem_map.mp hd
  exact ⟨m, hm, hin⟩

theorem inU_mono {g : Gss} (k n : Nat) (tr : Tree) (h : InU g k n tr) : InU g (k+1) n tr := by
  induction k generalizing n tr with
  | zero => cases h
  | succ k ih =>
    cases hnd : g.nodes[n]? with
    | none => rw [inU_iff, U_none hnd] at h; cases h
    | some nd =>
      cases nd with
      | term tk sp => exact (inU_term_iff hnd).mpr ((inU_term_iff hnd).mp h)
      | nonterm p sp l ch =>
        obtain ⟨trs, htrs, rfl⟩ := (inU_nonterm_iff hnd).mp h
        exact (inU_nonterm_iff hnd).mpr ⟨trs, htrs.imp fun e t ⟨m, hm, hin⟩ => ⟨m, hm, ih m t hin⟩, rfl⟩

theorem inU_mono_le {g : Gss} {k k' n : Nat} {tr : Tree} (hle : k ≤ k') (h : InU g k n tr) : InU g k' n tr := by
  induction hle with
  | refl => exact h
  | step _ ih => exact inU_mono _ _ _ ih

theorem hasCut_listToDN (l : List DNode) : (listToDN l).hasCut = l.any DNode.hasCut := by
  induction l with
  | nil => rfl
  | cons d rest ih => rw [listToDN, DNList.hasCut, ih, List.any_cons]

theorem hasCut_listToDP (l : List DParent) : (listToDP l).hasCut = l.any DParent.hasCut := by
  induction l with
  | nil => rfl
  | cons d rest ih => rw [listToDP, DPList.hasCut, ih, List.any_cons]

theorem droots_noCut {r : GlrResult} (hc : r.droots.hasCut = false) :
    ∀ m ∈ r.roots, (unfoldNode r.gss (r.gss.nodes.size + 1) m).hasCut = false := by
  rw [GlrResult.droots, hasCut_listToDN, List.any_map, List.any_eq_false] at hc
  exact fun m hm => Bool.not_eq_true _ ▸ hc m hm

theorem hasCut_children {g : Gss} {k n p : Nat} {sp : Span} {l : Option Slice} {C : List Nat}
    (h : g.nodes[n]? = some (.nonterm p sp l C)) (hc : (unfoldNode g (k + 1) n).hasCut = false) :
    ∀ e' ∈ C, ∀ m ∈ possOf g e', (unfoldNode g k m).hasCut = false := by
  rw [unfoldNode_succ, h] at hc
  simp only [DNode.hasCut, hasCut_listToDP, List.any_map, List.any_eq_false, Function.comp, DParent.hasCut,
    hasCut_listToDN, Bool.not_eq_true] at hc
  exact hc

theorem unfold_stable {g : Gss} (k n : Nat) (h : (unfoldNode g k n).hasCut = false) :
    unfoldNode g (k+1) n = unfoldNode g k n := by
  induction k generalizing n with
  | zero => cases h
  | succ k ih =>
    rw [unfoldNode_succ g (k+1) n, unfoldNode_succ g k n]
    cases hnd : g.nodes[n]? with
    | none => rfl
    | some nd =>
      cases nd with
      | term tk sp => rfl
      | nonterm p sp l ch =>
        have hcc := hasCut_children hnd h
        simp only [DNode.nonterm.injEq, true_and]
        congr 1
        apply List.map_congr_left
        intro e he
        congr 2
        apply List.map_congr_left
        intro m hm
        exact ih m (hcc e he m hm)

theorem unfold_stable_le {g : Gss} {k k' n : Nat} (hle : k ≤ k') (h : (unfoldNode g k n).hasCut = false) :
    unfoldNode g k' n = unfoldNode g k n := by
  induction hle with
  | refl => rfl
  | step hle' ih =>
    rw [← ih]
    apply unfold_stable
    rw [ih]; exact h

theorem inU_fixed {g : Gss} {K k n : Nat} {tr : Tree} (hK : (unfoldNode g K n).hasCut = false) (h : InU g k n tr) :
    InU g K n tr := by
  rcases Nat.le_total k K with hle | hle
  · exact inU_mono_le hle h
  · unfold InU at h ⊢
    rw [unfold_stable_le hle hK] at h
    exact h

end Rustemo.Glr
