import Rustemo.Proofs.GlrState
/-!
`initial_process_frontier`: for every head of every sub-frontier the actions on its lookahead are recorded — a reduction
once per parent link (`initRed`), shifts, accepts.  `initialActions` is an equation (`initialActions_eq`), read as
membership (`IASpec`); the walks `initialHead_sat`, `initialSub_sat`, `initialProcess_sat` keep the lists good.
-/

namespace Rustemo.Glr

variable {A E : Prop}

/-- the reductions `initial_process_frontier` queues for one action of a frontier head -/
def initRed (g : Gss) (head : Nat) : Action → List Reduction
  | .reduce p len => if len = 0 then [⟨.node head, p, 0⟩] else (g.backedges head).map (fun e => ⟨.edge e, p, len⟩)
  | _ => []

theorem initialActions_eq (g : Gss) (head : Nat) : ∀ (acts : List Action) (q : List Reduction) (sh : List (Nat × Nat))
    (ac : List Nat), initialActions g head acts (q, sh, ac) =
      (q ++ acts.flatMap (initRed g head), (acts.filterMap (regShift head)).reverse ++ sh,
       ac ++ acts.filterMap (regAcc head))
  | [], q, sh, ac => by simp [initialActions]
  | .reduce p len :: rest, q, sh, ac => by
    simp only [initialActions, initRed, regShift, regAcc, List.filterMap_cons, List.flatMap_cons]
    split <;> rw [initialActions_eq, List.append_assoc]
  | .shift s :: rest, q, sh, ac => by
    simp only [initialActions, initRed, regShift, regAcc, List.filterMap_cons, List.flatMap_cons]
    rw [initialActions_eq]
    simp
  | .accept :: rest, q, sh, ac => by
    simp only [initialActions, initRed, regShift, regAcc, List.filterMap_cons, List.flatMap_cons]
    rw [initialActions_eq]
    simp

theorem mem_initRed {g : Gss} {head : Nat} {acts : List Action} {r : Reduction} :
    r ∈ acts.flatMap (initRed g head) ↔ ∃ p len, Action.reduce p len ∈ acts ∧
      ((len = 0 ∧ r = ⟨.node head, p, 0⟩) ∨ (0 < len ∧ ∃ e ∈ g.backedges head, r = ⟨.edge e, p, len⟩)) := by
  rw [List.mem_flatMap]
  constructor
  · rintro ⟨act, hact, hr⟩
    cases act with
    | reduce p len =>
      refine ⟨p, len, hact, ?_⟩
      simp only [initRed] at hr
      split at hr
      · exact Or.inl ⟨‹len = 0›, List.mem_singleton.mp hr⟩
      · obtain ⟨e, he, rfl⟩ := List.mem_map.mp hr
        exact Or.inr ⟨Nat.pos_of_ne_zero ‹¬ len = 0›, e, he, rfl⟩
    | shift s => cases hr
    | accept => cases hr
  · rintro ⟨p, len, hact, h⟩
    refine ⟨_, hact, ?_⟩
    simp only [initRed]
    rcases h with ⟨rfl, rfl⟩ | ⟨hl, e, he, rfl⟩
    · rw [if_pos rfl]; exact List.mem_singleton.mpr rfl
    · rw [if_neg (Nat.ne_of_gt hl)]; exact List.mem_map.mpr ⟨e, he, rfl⟩

theorem initialActions_listsOk {env : Env} (hT : TableOk env) {g : Gss} {F : Nat} {head : Nat} {hd : Head} {tk : Tok}
    (hhd : g.heads[head]? = some hd) (htk : hd.tok = some tk) (hF : hd.frontier = F) (acts : List Action)
    (acc : List Reduction × List (Nat × Nat) × List Nat) (hm : ∀ a ∈ acts, a ∈ env.t.cell hd.state tk.kind)
    (h : ListsOk env g F acc.1 acc.2.1 acc.2.2) :
    ListsOk env g F (initialActions g head acts acc).1 (initialActions g head acts acc).2.1
      (initialActions g head acts acc).2.2 := by
  obtain ⟨q, sh, ac⟩ := acc
  rw [initialActions_eq]
  have htok : hd.tok.isSome = true := by rw [htk]; rfl
  refine ⟨fun r hr => (List.mem_append.mp hr).elim (h.queue r) fun k => ?_,
    fun x hx => (List.mem_append.mp hx).elim (fun k => ?_) (h.shifts x),
    fun x hx => (List.mem_append.mp hx).elim (h.acc x) fun k => ?_⟩
  · obtain ⟨p, len, hact, hc⟩ := mem_initRed.mp k
    rcases hc with ⟨rfl, rfl⟩ | ⟨hl, e, he, rfl⟩
    · exact RedOk.of_action (start := .node head) hT hhd htok hF (hm _ hact) ⟨rfl, rfl⟩
    · obtain ⟨ed, hed, hsrc⟩ := mem_backedges.mp he
      exact RedOk.of_action (start := .edge e) hT hhd htok hF (hm _ hact) ⟨ed, hed, hsrc, hl⟩
  · obtain ⟨s, hact, rfl⟩ := mem_regShift.mp (List.mem_reverse.mp k)
    exact ⟨hd, tk, hhd, htk, hF, hm _ hact⟩
  · obtain ⟨hact, rfl⟩ := mem_regAcc.mp k
    exact ⟨hd, tk, hhd, htk, hm _ hact⟩

structure IASpec (g : Gss) (head : Nat) (acts : List Action) (acc r : List Reduction × List (Nat × Nat) × List Nat) :
    Prop where
  q_mono : ∀ x ∈ acc.1, x ∈ r.1
  s_mono : ∀ x ∈ acc.2.1, x ∈ r.2.1
  a_mono : ∀ x ∈ acc.2.2, x ∈ r.2.2
  red0 : ∀ p, Action.reduce p 0 ∈ acts → (⟨.node head, p, 0⟩ : Reduction) ∈ r.1
  red : ∀ p len, Action.reduce p len ∈ acts → 0 < len → ∀ e ∈ g.backedges head, (⟨.edge e, p, len⟩ : Reduction) ∈ r.1
  shift : ∀ s, Action.shift s ∈ acts → (head, s) ∈ r.2.1
  accept : Action.accept ∈ acts → head ∈ r.2.2
  q_inv : ∀ x ∈ r.1, x ∈ acc.1 ∨ x.start = .node head ∨ ∃ e ∈ g.backedges head, x.start = .edge e

theorem initialActions_spec (g : Gss) (head : Nat) (acts : List Action) :
    ∀ (acc r : List Reduction × List (Nat × Nat) × List Nat), initialActions g head acts acc = r →
      IASpec g head acts acc r := by
  rintro ⟨q, sh, ac⟩ r rfl
  rw [initialActions_eq]
  refine ⟨fun x hx => List.mem_append_left _ hx, fun x hx => List.mem_append_right _ hx,
    fun x hx => List.mem_append_left _ hx, ?_, ?_, ?_, ?_, ?_⟩
  · exact fun p hp => List.mem_append_right _ (mem_initRed.mpr ⟨p, 0, hp, Or.inl ⟨rfl, rfl⟩⟩)
  · exact fun p len hp hl e he => List.mem_append_right _ (mem_initRed.mpr ⟨p, len, hp, Or.inr ⟨hl, e, he, rfl⟩⟩)
  · exact fun s hs => List.mem_append_left _ (List.mem_reverse.mpr (mem_regShift.mpr ⟨s, hs, rfl⟩))
  · exact fun ha => List.mem_append_right _ (mem_regAcc.mpr ⟨ha, rfl⟩)
  · intro x hx
    rcases List.mem_append.mp hx with h | h
    · exact Or.inl h
    · obtain ⟨p, len, _, hc⟩ := mem_initRed.mp h
      rcases hc with ⟨_, rfl⟩ | ⟨_, e, he, rfl⟩
      · exact Or.inr (Or.inl rfl)
      · exact Or.inr (Or.inr ⟨e, he, rfl⟩)

theorem initialHead_eq {env : Env} {g : Gss} {e : Nat × Nat} {hd : Head} {tk : Tok} (hhd : g.heads[e.2]? = some hd)
    (htk : hd.tok = some tk) (acc : List Reduction × List (Nat × Nat) × List Nat) :
    initialHead env g acc e = .ok (initialActions g e.2 (env.t.cell e.1 tk.kind) acc) := by
  unfold initialHead tokKind
  rw [head_ok hhd, obind, htk]; rfl

theorem initialHead_sat {env : Env} (hT : TableOk env) {g : Gss} {F : Nat} {sub : SubFrontier} (hsub : SubOk g F sub)
    {acc : List Reduction × List (Nat × Nat) × List Nat} (hacc : ListsOk env g F acc.1 acc.2.1 acc.2.2)
    {e : Nat × Nat} (he : e ∈ sub) :
    SatE A E (fun r => ListsOk env g F r.1 r.2.1 r.2.2) (initialHead env g acc e) := by
  obtain ⟨hd, hhd, hs, hF, htok⟩ := hsub e.1 e.2 he
  obtain ⟨tk, htk, -⟩ := tokKind_ok htok
  rw [initialHead_eq hhd htk]
  exact initialActions_listsOk hT hhd htk hF _ acc (by rw [hs]; exact fun a h => h) hacc

structure InitOk (env : Env) (g : Gss) (F : Nat) (r : List (List Reduction) × List (Nat × Nat) × List Nat) : Prop where
  queues : ∀ q ∈ r.1, ∀ x ∈ q, RedOk env g F x
  shifts : ∀ s ∈ r.2.1, ShiftOk env g F s
  acc : ∀ h ∈ r.2.2, AccOk env g h

theorem initialSub_sat {env : Env} (hT : TableOk env) {g : Gss} {F : Nat}
    {acc : List (List Reduction) × List (Nat × Nat) × List Nat} (hacc : InitOk env g F acc)
    {sf : (Pos × Nat) × SubFrontier} (hsub : SubOk g F sf.2) :
    SatE A E (InitOk env g F) (initialSub env g acc sf) := by
  unfold initialSub
  apply SatE.bind (foldO_sat (I := fun r => ListsOk env g F r.1 r.2.1 r.2.2) sf.2 ([], acc.2.1, acc.2.2)
    ⟨fun _ h => absurd h List.not_mem_nil, hacc.shifts, hacc.acc⟩
    (fun s e he hs => initialHead_sat hT hsub hs he))
  intro r _ hr
  refine ⟨?_, hr.shifts, hr.acc⟩
  intro q hq x hx
  simp only [List.mem_append, List.mem_singleton] at hq
  rcases hq with hq | hq
  · exact hacc.queues q hq x hx
  · subst hq; exact hr.queue x hx

theorem initialProcess_sat {env : Env} (hT : TableOk env) {st : St} {F : Nat} (hs : StOk env F st)
    {fr : Frontier} (hfr : FrontierOk st.gss F fr) :
    SatE A E (fun r => StOk env F r.2 ∧ r.2.gss = st.gss ∧ ∀ q ∈ r.1, ∀ x ∈ q, RedOk env st.gss F x)
      (initialProcess env st fr) := by
  unfold initialProcess
  apply SatE.bind (foldO_sat (I := InitOk env st.gss F) fr ([], st.shifts, st.accepted)
    ⟨fun _ h => absurd h List.not_mem_nil, hs.shifts, hs.acc⟩
    (fun acc sf hsf hacc => initialSub_sat hT hacc (hfr sf.1 sf.2 hsf)))
  intro r _ hr
  exact ⟨⟨hs.g, hr.shifts, hr.acc⟩, rfl, hr.queues⟩

/-- what the fold of `initialHead` over (a part of) a sub-frontier of lookahead kind `a` records -/
structure IFSpec (env : Env) (g : Gss) (a : Nat) (l : SubFrontier) (acc r : List Reduction × List (Nat × Nat) × List Nat) :
    Prop where
  q_mono : ∀ x ∈ acc.1, x ∈ r.1
  s_mono : ∀ x ∈ acc.2.1, x ∈ r.2.1
  a_mono : ∀ x ∈ acc.2.2, x ∈ r.2.2
  red0 : ∀ s h p, (s, h) ∈ l → Action.reduce p 0 ∈ env.t.cell s a → (⟨.node h, p, 0⟩ : Reduction) ∈ r.1
  red : ∀ s h p len, (s, h) ∈ l → Action.reduce p len ∈ env.t.cell s a → 0 < len →
    ∀ e ∈ g.backedges h, (⟨.edge e, p, len⟩ : Reduction) ∈ r.1
  shift : ∀ s h s', (s, h) ∈ l → Action.shift s' ∈ env.t.cell s a → (h, s') ∈ r.2.1
  accept : ∀ s h, (s, h) ∈ l → Action.accept ∈ env.t.cell s a → h ∈ r.2.2
  q_inv : ∀ x ∈ r.1, x ∈ acc.1 ∨ ∃ s h, (s, h) ∈ l ∧ (x.start = .node h ∨ ∃ e ∈ g.backedges h, x.start = .edge e)

theorem initialFold_spec {env : Env} {g : Gss} {a : Nat} : ∀ (l : SubFrontier)
    (acc r : List Reduction × List (Nat × Nat) × List Nat),
    (∀ s h, (s, h) ∈ l → ∃ (hd : Head) (tk : Tok), g.heads[h]? = some hd ∧ hd.tok = some tk ∧ tk.kind = a) →
    foldO (initialHead env g) l acc = .ok r → IFSpec env g a l acc r := by
  intro l
  induction l with
  | nil =>
    intro acc r _ h
    cases h
    exact ⟨fun _ h => h, fun _ h => h, fun _ h => h, fun _ _ _ h => (nomatch h), fun _ _ _ _ h => (nomatch h),
      fun _ _ _ h => (nomatch h), fun _ _ h => (nomatch h), fun _ h => Or.inl h⟩
  | cons x rest ih =>
    obtain ⟨s0, h0⟩ := x
    intro acc r hk h
    obtain ⟨acc1, h1, h2⟩ := obind_eq_ok h
    obtain ⟨hd, tk, hhd, htk, hka⟩ := hk s0 h0 List.mem_cons_self
    have hacc1 : initialActions g h0 (env.t.cell s0 a) acc = acc1 :=
      Outcome.ok.inj ((hka ▸ initialHead_eq hhd htk acc).symm.trans h1)
    have sp := initialActions_spec g h0 (env.t.cell s0 a) acc acc1 hacc1
    have ih := ih acc1 r (fun s h hm => hk s h (List.mem_cons_of_mem _ hm)) h2
    refine ⟨fun x hx => ih.q_mono x (sp.q_mono x hx), fun x hx => ih.s_mono x (sp.s_mono x hx),
      fun x hx => ih.a_mono x (sp.a_mono x hx), ?_, ?_, ?_, ?_, ?_⟩
    · intro s h p hm hact
      rcases List.mem_cons.mp hm with heq | hr
      · cases heq; exact ih.q_mono _ (sp.red0 p hact)
      · exact ih.red0 s h p hr hact
    · intro s h p len hm hact hl e he
      rcases List.mem_cons.mp hm with heq | hr
      · cases heq; exact ih.q_mono _ (sp.red p len hact hl e he)
      · exact ih.red s h p len hr hact hl e he
    · intro s h s' hm hact
      rcases List.mem_cons.mp hm with heq | hr
      · cases heq; exact ih.s_mono _ (sp.shift s' hact)
      · exact ih.shift s h s' hr hact
    · intro s h hm hact
      rcases List.mem_cons.mp hm with heq | hr
      · cases heq; exact ih.a_mono _ (sp.accept hact)
      · exact ih.accept s h hr hact
    · intro x hx
      rcases ih.q_inv x hx with h | ⟨s, h', hm, hh⟩
      · rcases sp.q_inv x h with k | k | k
        · exact Or.inl k
        · exact Or.inr ⟨s0, h0, List.mem_cons_self, Or.inl k⟩
        · exact Or.inr ⟨s0, h0, List.mem_cons_self, Or.inr k⟩
      · exact Or.inr ⟨s, h', List.mem_cons_of_mem _ hm, hh⟩

theorem initialProcess_one {env : Env} {st : St} {k : Pos × Nat} {sub : SubFrontier} {qs : List (List Reduction)} {st2 : St}
    (h : initialProcess env st [(k, sub)] = .ok (qs, st2)) :
    ∃ r, foldO (initialHead env st.gss) sub ([], st.shifts, st.accepted) = .ok r ∧ qs = [r.1] ∧
      st2 = ⟨st.gss, r.2.1, r.2.2⟩ := by
  obtain ⟨r0, h0, h⟩ := obind_eq_ok h
  obtain ⟨r1, h1, h0⟩ := obind_eq_ok h0
  obtain ⟨r, hfold, h1⟩ := obind_eq_ok h1
  cases h1; cases h0; cases h
  exact ⟨r, hfold, rfl, rfl⟩

theorem reduceAll_one {env : Env} {fuel : Nat} {k : Pos × Nat} {sub : SubFrontier} {q : List Reduction} {st st3 : St}
    (h : reduceAll env fuel [(k, sub)] [q] st = .ok st3) :
    ∃ rs, reducerLoop env fuel ⟨st.gss, q, st.shifts, st.accepted, sub⟩ = .ok rs ∧ st3 = ⟨rs.gss, rs.shifts, rs.accepted⟩ := by
  obtain ⟨rs, hloop, h⟩ := obind_eq_ok h
  cases h
  exact ⟨rs, hloop, rfl⟩

end Rustemo.Glr
