import Rustemo.Model.Glr
/-!
The token string of a run as a list of kinds: `kindsOf tok i j` for the levels `i … j-1` (what an edge between two levels spans),
`Props.C07.kinds n tok = kindsOf tok 0 n` for the whole input, as the property statements write it.
-/

namespace Rustemo.Glr

def kindsOf (tok : Nat → Tok) (i j : Nat) : List Nat := (List.range' i (j - i)).map fun x => (tok x).kind

theorem kindsOf_self (tok : Nat → Tok) (i : Nat) : kindsOf tok i i = [] := by simp [kindsOf]

theorem kindsOf_length (tok : Nat → Tok) (i j : Nat) : (kindsOf tok i j).length = j - i := by simp [kindsOf]

theorem kindsOf_cons (tok : Nat → Tok) {i j : Nat} (h : i < j) : kindsOf tok i j = (tok i).kind :: kindsOf tok (i + 1) j := by
  unfold kindsOf
  have : j - i = (j - (i + 1)) + 1 := by omega
  rw [this, List.range'_succ]
  simp

theorem kindsOf_append (tok : Nat → Tok) {i i' j : Nat} (h1 : i ≤ i') (h2 : i' ≤ j) :
    kindsOf tok i j = kindsOf tok i i' ++ kindsOf tok i' j := by
  obtain ⟨a, rfl⟩ := Nat.exists_eq_add_of_le h1
  obtain ⟨b, rfl⟩ := Nat.exists_eq_add_of_le h2
  unfold kindsOf
  rw [Nat.add_sub_cancel_left, Nat.add_sub_cancel_left, Nat.add_assoc, Nat.add_sub_cancel_left, ← List.map_append,
    List.range'_append_1]

theorem kindsOf_snoc (tok : Nat → Tok) (k : Nat) : kindsOf tok 0 (k + 1) = kindsOf tok 0 k ++ [(tok k).kind] := by
  rw [kindsOf_append tok (Nat.zero_le k) (Nat.le_succ k), kindsOf_cons tok (Nat.lt_succ_self k), kindsOf_self]

theorem kindsOf_split {tok : Nat → Tok} {i j : Nat} (hij : i ≤ j) {l1 l2 : List Nat} (h : l1 ++ l2 = kindsOf tok i j) :
    ∃ i', i ≤ i' ∧ i' ≤ j ∧ l1 = kindsOf tok i i' ∧ l2 = kindsOf tok i' j := by
  have hlen := congrArg List.length h
  rw [List.length_append, kindsOf_length] at hlen
  have h1 : i ≤ i + l1.length := Nat.le_add_right _ _
  have h2 : i + l1.length ≤ j :=
    Nat.add_sub_cancel' hij ▸ Nat.add_le_add_left (hlen ▸ Nat.le_add_right _ _) i
  rw [kindsOf_append tok h1 h2] at h
  exact ⟨_, h1, h2, List.append_inj h (by rw [kindsOf_length, Nat.add_sub_cancel_left])⟩

theorem kindsOf_head_append {tok : Nat → Tok} {i j : Nat} (hij : i ≤ j) (rest : List Nat) :
    (kindsOf tok i j ++ (tok j).kind :: rest).head? = some (tok i).kind := by
  obtain ⟨a, rfl⟩ := Nat.exists_eq_add_of_le hij
  unfold kindsOf
  rw [Nat.add_sub_cancel_left]
  cases a with
  | zero => simp
  | succ a => simp [List.range'_succ]

theorem kindsOf_head {tok : Nat → Tok} {i j : Nat} (hij : i ≤ j) (b : Nat) (hb : b = (tok j).kind) :
    ((kindsOf tok i j) ++ [b]).head? = some (tok i).kind :=
  hb ▸ kindsOf_head_append hij []

theorem kindsOf_one (tok : Nat → Tok) (k : Nat) : kindsOf tok k (k + 1) = [(tok k).kind] := by
  rw [kindsOf_cons tok (Nat.lt_succ_self k), kindsOf_self]

theorem kindsOf_eq_singleton {tok : Nat → Tok} {i j a : Nat} (hij : i ≤ j) (h : [a] = kindsOf tok i j) :
    j = i + 1 ∧ a = (tok i).kind := by
  have hlen := congrArg List.length h
  rw [kindsOf_length] at hlen
  obtain rfl : j = i + 1 := by rw [← Nat.add_sub_cancel' hij, ← hlen]; rfl
  rw [kindsOf_one] at h
  exact ⟨rfl, (List.cons.inj h).1⟩

def _root_.Rustemo.Props.C07.kinds (n : Nat) (tok : Nat → Tok) : List Nat := (List.range n).map (fun i => (tok i).kind)

theorem _root_.Rustemo.Props.C07.kinds_eq (n : Nat) (tok : Nat → Tok) : Props.C07.kinds n tok = kindsOf tok 0 n := by
  unfold Props.C07.kinds kindsOf; rw [List.range_eq_range']; rfl

end Rustemo.Glr
