import Rustemo.Proofs.GlrClosure
/-!
`FrameLt F g g'`: heads of a level below `F`, the edges that start at them and the nodes packed on those edges are the same
in `g` and `g'` (none added, none changed); everything else only grows.
`LevelDone env g tok k sub`: in `g` the sub-frontier `sub` of level `k` is closed under reduction (every `KChain` covered) and
every head of level `k` with an action on `tok k` is in it (`LevelRed`, the reducer's part), and every shift on `tok k` from it
was performed (`ShiftedW`).
-/

namespace Rustemo.Glr

structure FrameLt (F : Nat) (g g' : Gss) : Prop where
  heads_fwd : ∀ (i : Nat) (hd : Head), g.heads[i]? = some hd → hd.frontier < F → g'.heads[i]? = some hd
  heads_bwd : ∀ (i : Nat) (hd : Head), g'.heads[i]? = some hd → hd.frontier < F → g.heads[i]? = some hd
  edges_fwd : ∀ (e : Nat) (ed : Edge) (hs : Head), g.edges[e]? = some ed → g.heads[ed.src]? = some hs →
    hs.frontier < F → g'.edges[e]? = some ed
  edges_bwd : ∀ (e : Nat) (ed : Edge) (hs : Head), g'.edges[e]? = some ed → g'.heads[ed.src]? = some hs →
    hs.frontier < F → g.edges[e]? = some ed
  nodes : ∀ (e : Nat) (ed : Edge) (hs : Head) (n : Nat), g.edges[e]? = some ed → g.heads[ed.src]? = some hs →
    hs.frontier < F → n ∈ ed.poss → g'.nodes[n]? = g.nodes[n]?
  mono_heads : ∀ (i : Nat) (hd : Head), g.heads[i]? = some hd →
    ∃ hd' : Head, g'.heads[i]? = some hd' ∧ hd'.state = hd.state ∧ hd'.frontier = hd.frontier
  mono_edges : ∀ (e : Nat) (ed : Edge), g.edges[e]? = some ed →
    ∃ ed' : Edge, g'.edges[e]? = some ed' ∧ ed'.src = ed.src ∧ ed'.dst = ed.dst ∧ ∀ n ∈ ed.poss, n ∈ ed'.poss
  mono_terms : ∀ (n : Nat) (tk : Tok) (sp : Span), g.nodes[n]? = some (.term tk sp) → g'.nodes[n]? = some (.term tk sp)

theorem FrameLt.refl (F : Nat) (g : Gss) : FrameLt F g g :=
  ⟨fun _ _ h _ => h, fun _ _ h _ => h, fun _ _ _ h _ _ => h, fun _ _ _ h _ _ => h, fun _ _ _ _ _ _ _ _ => rfl,
   fun _ hd h => ⟨hd, h, rfl, rfl⟩, fun _ ed h => ⟨ed, h, rfl, rfl, fun _ hn => hn⟩, fun _ _ _ h => h⟩

theorem FrameLt.trans {F : Nat} {a b c : Gss} (h1 : FrameLt F a b) (h2 : FrameLt F b c) : FrameLt F a c := by
  constructor
  · intro i hd hi hf; exact h2.heads_fwd i hd (h1.heads_fwd i hd hi hf) hf
  · intro i hd hi hf; exact h1.heads_bwd i hd (h2.heads_bwd i hd hi hf) hf
  · intro e ed hs he hh hf
    exact h2.edges_fwd e ed hs (h1.edges_fwd e ed hs he hh hf) (h1.heads_fwd _ hs hh hf) hf
  · intro e ed hs he hh hf
    exact h1.edges_bwd e ed hs (h2.edges_bwd e ed hs he hh hf) (h2.heads_bwd _ hs hh hf) hf
  · intro e ed hs n he hh hf hn
    rw [h2.nodes e ed hs n (h1.edges_fwd e ed hs he hh hf) (h1.heads_fwd _ hs hh hf) hf hn,
      h1.nodes e ed hs n he hh hf hn]
  · intro i hd hi
    obtain ⟨x, hx, s1, f1⟩ := h1.mono_heads i hd hi
    obtain ⟨y, hy, s2, f2⟩ := h2.mono_heads i x hx
    exact ⟨y, hy, by rw [s2, s1], by rw [f2, f1]⟩
  · intro e ed he
    obtain ⟨x, hx, s1, d1, p1⟩ := h1.mono_edges e ed he
    obtain ⟨y, hy, s2, d2, p2⟩ := h2.mono_edges e x hx
    exact ⟨y, hy, by rw [s2, s1], by rw [d2, d1], fun n hn => p2 n (p1 n hn)⟩
  · intro n tk sp hn; exact h2.mono_terms n tk sp (h1.mono_terms n tk sp hn)

theorem FrameLt.mono {F F' : Nat} {g g' : Gss} (h : FrameLt F g g') (hle : F' ≤ F) : FrameLt F' g g' :=
  ⟨fun i hd hi hf => h.heads_fwd i hd hi (Nat.lt_of_lt_of_le hf hle),
   fun i hd hi hf => h.heads_bwd i hd hi (Nat.lt_of_lt_of_le hf hle),
   fun e ed hs he hh hf => h.edges_fwd e ed hs he hh (Nat.lt_of_lt_of_le hf hle),
   fun e ed hs he hh hf => h.edges_bwd e ed hs he hh (Nat.lt_of_lt_of_le hf hle),
   fun e ed hs n he hh hf hn => h.nodes e ed hs n he hh (Nat.lt_of_lt_of_le hf hle) hn,
   h.mono_heads, h.mono_edges, h.mono_terms⟩

theorem FrameLt.of_heads {F : Nat} {g g' : Gss} (he : g'.edges = g.edges) (hn : g'.nodes = g.nodes)
    (fwd : ∀ (i : Nat) (hd : Head), g.heads[i]? = some hd → hd.frontier < F → g'.heads[i]? = some hd)
    (bwd : ∀ (i : Nat) (hd : Head), g'.heads[i]? = some hd → hd.frontier < F → g.heads[i]? = some hd)
    (mono : ∀ (i : Nat) (hd : Head), g.heads[i]? = some hd →
      ∃ hd' : Head, g'.heads[i]? = some hd' ∧ hd'.state = hd.state ∧ hd'.frontier = hd.frontier) : FrameLt F g g' :=
  ⟨fwd, bwd, fun _ _ _ h _ _ => he ▸ h, fun _ _ _ h _ _ => he ▸ h, fun _ _ _ _ _ _ _ _ => by rw [hn], mono,
    fun _ ed h => ⟨ed, he ▸ h, rfl, rfl, fun _ hn => hn⟩, fun _ _ _ h => hn ▸ h⟩

theorem FrameLt.of_nodes {F : Nat} {g g' : Gss} (hh : g'.heads = g.heads) (he : g'.edges = g.edges)
    (nodes : ∀ (e : Nat) (ed : Edge) (hs : Head) (n : Nat), g.edges[e]? = some ed → g.heads[ed.src]? = some hs →
      hs.frontier < F → n ∈ ed.poss → g'.nodes[n]? = g.nodes[n]?)
    (terms : ∀ (n : Nat) (tk : Tok) (sp : Span), g.nodes[n]? = some (.term tk sp) → g'.nodes[n]? = some (.term tk sp)) :
    FrameLt F g g' :=
  ⟨fun _ _ h _ => hh ▸ h, fun _ _ h _ => hh ▸ h, fun _ _ _ h _ _ => he ▸ h, fun _ _ _ h _ _ => he ▸ h, nodes,
    fun _ hd h => ⟨hd, hh ▸ h, rfl, rfl⟩, fun _ ed h => ⟨ed, he ▸ h, rfl, rfl, fun _ hn => hn⟩, terms⟩

theorem frame_setHead (F : Nat) (g : Gss) (i : Nat) (old hd : Head) (hold : g.heads[i]? = some old)
    (hF : F ≤ old.frontier) (hf : hd.frontier = old.frontier) (hs : hd.state = old.state) :
    FrameLt F g (g.setHead i hd) := by
  have hi : (g.setHead i hd).heads[i]? = some hd := by
    rw [setHead_heads, if_pos rfl, if_pos (lt_size_of_getElem? hold)]
  have hne : ∀ j, ¬ i = j → (g.setHead i hd).heads[j]? = g.heads[j]? := fun j hij => by
    rw [setHead_heads, if_neg hij]
  refine .of_heads rfl rfl ?_ ?_ ?_
  · intro j x hj hx
    by_cases hij : i = j
    · subst hij; cases hold.symm.trans hj; omega
    · rw [hne j hij]; exact hj
  · intro j x hj hx
    by_cases hij : i = j
    · subst hij; cases hi.symm.trans hj; omega
    · rw [hne j hij] at hj; exact hj
  · intro j x hj
    by_cases hij : i = j
    · subst hij; cases hold.symm.trans hj
      exact ⟨hd, hi, hs, hf⟩
    · exact ⟨x, by rw [hne j hij]; exact hj, rfl, rfl⟩

theorem frame_addNode {env : Env} (F : Nat) {g : Gss} {x : Option Nat} (hg : GInvX env g x) (nd : SNode) :
    FrameLt F g (g.addNode nd).1 := by
  refine .of_nodes rfl rfl ?_ (fun n tk sp hn => addNode_old hn)
  intro e ed hs n he _ _ hn
  rw [addNode_nodes, if_neg (Nat.ne_of_lt (hg.poss_lt he hn))]

theorem Sol.frame {g g' : Gss} {nh : Head} {hA dst : Nat} {nd : SNode} {e n : Nat} {hc ec : Bool} {poss : List Nat}
    (s : Sol g g' nh hA dst nd e n hc ec poss) {F : Nat} {hs : Head} (hhs : g'.heads[hA]? = some hs)
    (hF : F ≤ hs.frontier)
    (hp : ∀ (e : Nat) (ed : Edge) (n : Nat), g.edges[e]? = some ed → n ∈ ed.poss → n < g.nodes.size) :
    FrameLt F g g' := by
  refine ⟨fun i hd hi _ => s.heads_old hi, ?_, ?_, ?_, ?_, fun i hd hi => ⟨hd, s.heads_old hi, rfl, rfl⟩,
    fun _ _ hi => s.edge_fwd hi, fun m _ _ h => s.nodes_old h⟩
  · intro i hd hi hlt
    rcases s.heads_new hi with k | ⟨_, rfl, _⟩
    · exact k
    · cases Option.mem_unique hhs hi
      exact absurd hlt (Nat.not_lt.mpr hF)
  · intro i ed x hi hx hlt
    rcases s.edges_old hi with ⟨_, k⟩ | ⟨_, _, rfl⟩
    · exact k
    · cases Option.mem_unique hhs (s.heads_old hx)
      exact absurd hlt (Nat.not_lt.mpr hF)
  · intro i ed x hi hx hlt
    rcases s.edges_new hi with ⟨_, k⟩ | ⟨_, rfl⟩
    · exact k
    · cases Option.mem_unique hhs hx
      exact absurd hlt (Nat.not_lt.mpr hF)
  · intro i ed x m hi _ _ hm
    rw [s.nodes, Array.getElem?_push, if_neg (Nat.ne_of_lt (hp i ed m hi hm))]

theorem FoldSpec.frame {env : Env} (F : Nat) {g g' : Gss} {prod : Nat} {parents ns : List Nat}
    (h : FoldSpec g prod parents ns g') (hg : GInv env g) {e0 : Nat} {ed0 : Edge} {hs0 : Head}
    (he0 : g.edges[e0]? = some ed0) (hhs0 : g.heads[ed0.src]? = some hs0) (hF : F ≤ hs0.frontier)
    (hns : ∀ n ∈ ns, n ∈ ed0.poss) : FrameLt F g g' := by
  cases h with
  | same h1 _ => rw [h1]; exact FrameLt.refl _ _
  | one n0 sp l C0 hn0 hnd0 _ _ hh hee hnn =>
    refine .of_nodes hh hee ?_ ?_
    · intro e ed hs n he hhs hsl hn
      rw [hnn]
      by_cases h : n0 = n
      · -- a nonterminal node is packed on one edge only
        subst h
        have hnt : ¬ isTermNode g n0 := by
          rintro ⟨tk, sp', ht⟩; cases hnd0.symm.trans ht
        cases hg.uniq e e0 ed ed0 n0 he he0 hn (hns n0 hn0) hnt
        cases he.symm.trans he0
        cases hhs.symm.trans hhs0
        omega
      · rw [if_neg h]
    · intro n tk sp' hn
      rw [hnn]
      by_cases h : n0 = n
      · subst h; cases hnd0.symm.trans hn
      · rw [if_neg h]; exact hn

theorem FrameLt.chain_fwd {F : Nat} {g g' : Gss} (h : FrameLt F g g') {t : Table} {P Xs : List Nat} {u v : Nat}
    (hc : ChainEnd t g P Xs u v) : ChainEnd t g' P Xs u v :=
  ChainEnd.mono (fun i hd hi => let ⟨hd', a, b, _⟩ := h.mono_heads i hd hi; ⟨hd', a, b⟩)
    (fun e ed he => let ⟨ed', a, b, c, _⟩ := h.mono_edges e ed he; ⟨ed', a, b, c⟩) hc

theorem chain_level {t : Table} {g : Gss} {F : Nat} (hu : GU F g) {P : List Nat} :
    ∀ {Xs : List Nat} {u v : Nat} {hdu hdv : Head}, ChainEnd t g P Xs u v → g.heads[u]? = some hdu →
      g.heads[v]? = some hdv → hdu.frontier ≤ hdv.frontier := by
  induction P with
  | nil =>
    intro _ u v hdu hdv hc h1 h2
    cases (hc.2 ▸ h1).symm.trans h2
    exact Nat.le_refl _
  | cons e es ih =>
    intro _ u v hdu hdv hc h1 h2
    obtain ⟨ed, hs, X, Xs', he, hhs, hXs, hdst, hsym, hr⟩ := hc
    exact Nat.le_trans (hu.edgeMono e ed hs hdu he hhs (hdst ▸ h1)) (ih hr hhs h2)

theorem FrameLt.chain_back {t : Table} {F F' : Nat} {g g' : Gss} (h : FrameLt F g g') (hu' : GU F' g') {P : List Nat} :
    ∀ {Xs : List Nat} {u v : Nat} {hdv : Head}, ChainEnd t g' P Xs u v → g'.heads[v]? = some hdv →
      hdv.frontier < F → ChainEnd t g P Xs u v := by
  induction P with
  | nil => exact fun hc _ _ => hc
  | cons e es ih =>
    intro _ u v hdv hc hv hlt
    obtain ⟨ed, hs, X, Xs', he, hhs, hXs, hdst, hsym, hr⟩ := hc
    have hsl : hs.frontier < F := Nat.lt_of_le_of_lt (chain_level hu' hr hhs hv) hlt
    exact ⟨ed, hs, X, Xs', h.edges_bwd e ed hs he hhs hsl, h.heads_bwd _ hs hhs hsl, hXs, hdst, hsym, ih hr hv hlt⟩

structure LevelRed (env : Env) (g : Gss) (tok : Nat → Tok) (k : Nat) (sub : SubFrontier) : Prop where
  subOk : ∀ (s h : Nat), (s, h) ∈ sub → ∃ hd : Head, g.heads[h]? = some hd ∧ hd.state = s ∧ hd.frontier = k
  closed : ∀ (u p : Nat) (pr : Prod) (P : List Nat) (s' : Nat), KChain env k (tok k).kind g sub u p pr P s' →
    Covered ⟨g, [], [], [], sub⟩ u p P s'
  alive : ∀ (h : Nat) (hd : Head), g.heads[h]? = some hd → hd.frontier = k →
    env.t.cell hd.state (tok k).kind ≠ [] → (hd.state, h) ∈ sub

theorem LevelRed.frame {env : Env} {g g' : Gss} {tok : Nat → Tok} {k F F' : Nat} {sub : SubFrontier}
    (hd : LevelRed env g tok k sub) (hf : FrameLt F g g') (hk : k < F) (hu' : GU F' g') :
    LevelRed env g' tok k sub := by
  have hsubv : ∀ v, InSub sub v → ∃ hv : Head, g.heads[v]? = some hv ∧ g'.heads[v]? = some hv ∧ hv.frontier = k := by
    rintro v ⟨s, hs⟩
    obtain ⟨hv, h1, _, h3⟩ := hd.subOk s v hs
    exact ⟨hv, h1, hf.heads_fwd v hv h1 (h3 ▸ hk), h3⟩
  constructor
  · intro s h hs
    obtain ⟨x, h1, h2, h3⟩ := hd.subOk s h hs
    exact ⟨x, hf.heads_fwd h x h1 (h3 ▸ hk), h2, h3⟩
  · intro u p pr P s' hk'
    obtain ⟨v, hch, hin⟩ := hk'.chain
    obtain ⟨hv, hv0, hv1, hvl⟩ := hsubv v hin
    have hvF : hv.frontier < F := hvl ▸ hk
    have hch0 := hf.chain_back hu' hch hv1 hvF
    obtain ⟨hu, hhu, hitem, hgoto⟩ := hk'.root
    have hhu0 := hf.heads_bwd u hu hhu (Nat.lt_of_le_of_lt (chain_level hu' hch hhu hv1) hvF)
    have hk0 : KChain env k (tok k).kind g sub u p pr P s' := by
      refine ⟨⟨hu, hhu0, hitem, hgoto⟩, hk'.prod, hk'.notAug, hk'.len, ⟨v, hch0, hin⟩, ?_, hk'.live⟩
      intro i hi w hw hcw hhw hwl
      exact hk'.nullOk i hi w hw (hf.chain_fwd hcw) (hf.heads_fwd w hw hhw (hwl ▸ hk)) hwl
    obtain ⟨hA, e, ed, n, sp, l, C, h1, h2, h3, h4, h5, h6, h7⟩ := hd.closed u p pr P s' hk0
    have hAin : InSub sub hA := ⟨s', sfGet_mem h1⟩
    obtain ⟨hhA, hA0, _, hAl⟩ := hsubv hA hAin
    have hA0' : g.heads[ed.src]? = some hhA := by rw [h3]; exact hA0
    refine ⟨hA, e, ed, n, sp, l, C, h1, hf.edges_fwd e ed hhA h2 hA0' (hAl ▸ hk), h3, h4, h5, ?_, h7⟩
    show g'.nodes[n]? = _
    rw [hf.nodes e ed hhA n h2 hA0' (hAl ▸ hk) h5]
    exact h6
  · intro h x hx hxl hne
    exact hd.alive h x (hf.heads_bwd h x hx (hxl ▸ hk)) hxl hne

/-- the shift `x = (head, target state)` of `tk` from level `F` was performed -/
def ShiftedW (g : Gss) (F : Nat) (tk : Tok) (x : Nat × Nat) : Prop :=
  ∃ (v : Nat) (hv : Head) (e : Nat) (ed : Edge) (n : Nat) (sp : Span), g.heads[v]? = some hv ∧ hv.state = x.2 ∧
    hv.frontier = F + 1 ∧ g.edges[e]? = some ed ∧ ed.src = v ∧ ed.dst = x.1 ∧ n ∈ ed.poss ∧
    g.nodes[n]? = some (.term tk sp)

theorem ShiftedW.frame {g g' : Gss} {F F' : Nat} {tk : Tok} {x : Nat × Nat} (h : ShiftedW g F tk x)
    (hf : FrameLt F' g g') : ShiftedW g' F tk x := by
  obtain ⟨v, hv, e, ed, n, sp, h1, h2, h3, h4, h5, h6, h7, h8⟩ := h
  obtain ⟨hv', k1, k2, k3⟩ := hf.mono_heads v hv h1
  obtain ⟨ed', m1, m2, m3, m4⟩ := hf.mono_edges e ed h4
  exact ⟨v, hv', e, ed', n, sp, k1, by rw [k2, h2], by rw [k3, h3], m1, by rw [m2, h5], by rw [m3, h6], m4 n h7,
    hf.mono_terms n _ sp h8⟩

structure LevelDone (env : Env) (g : Gss) (tok : Nat → Tok) (k : Nat) (sub : SubFrontier) : Prop where
  subOk : ∀ (s h : Nat), (s, h) ∈ sub → ∃ hd : Head, g.heads[h]? = some hd ∧ hd.state = s ∧ hd.frontier = k
  closed : ∀ (u p : Nat) (pr : Prod) (P : List Nat) (s' : Nat), KChain env k (tok k).kind g sub u p pr P s' →
    Covered ⟨g, [], [], [], sub⟩ u p P s'
  shifted : ∀ (s u s' : Nat), (s, u) ∈ sub → Action.shift s' ∈ env.t.cell s (tok k).kind →
    ∃ (v : Nat) (hv : Head) (e : Nat) (ed : Edge) (n : Nat) (sp : Span), g.heads[v]? = some hv ∧ hv.state = s' ∧
      hv.frontier = k + 1 ∧ g.edges[e]? = some ed ∧ ed.src = v ∧ ed.dst = u ∧ n ∈ ed.poss ∧
      g.nodes[n]? = some (.term (tok k) sp)
  alive : ∀ (h : Nat) (hd : Head), g.heads[h]? = some hd → hd.frontier = k →
    env.t.cell hd.state (tok k).kind ≠ [] → (hd.state, h) ∈ sub

theorem LevelDone.toRed {env : Env} {g : Gss} {tok : Nat → Tok} {k : Nat} {sub : SubFrontier}
    (h : LevelDone env g tok k sub) : LevelRed env g tok k sub := ⟨h.subOk, h.closed, h.alive⟩

theorem LevelRed.done {env : Env} {g : Gss} {tok : Nat → Tok} {k : Nat} {sub : SubFrontier} (hr : LevelRed env g tok k sub)
    (hs : ∀ (s u s' : Nat), (s, u) ∈ sub → Action.shift s' ∈ env.t.cell s (tok k).kind → ShiftedW g k (tok k) (u, s')) :
    LevelDone env g tok k sub :=
  ⟨hr.subOk, hr.closed, hs, hr.alive⟩

theorem LevelDone.frame {env : Env} {g g' : Gss} {tok : Nat → Tok} {k F F' : Nat} {sub : SubFrontier}
    (hd : LevelDone env g tok k sub) (hf : FrameLt F g g') (hk : k < F) (hu' : GU F' g') :
    LevelDone env g' tok k sub :=
  (hd.toRed.frame hf hk hu').done fun s u s' hs hact => ShiftedW.frame (x := (u, s')) (hd.shifted s u s' hs hact) hf

end Rustemo.Glr
