import Rustemo.Proofs.GlrPos
import Rustemo.Proofs.GlrCompleteDefs
import Rustemo.Proofs.LexTokRun
import Rustemo.Model.GlrLexCert
/-!
`LexDet` discharged for grammars all of whose terminals are distinct one-character string recognizers and that have no Layout
rule (`Cert.singleCharLexer`), full parse: `GlrParser::find_lookaheads` (model `Glr.findLookaheadsCtx`) offers a head at byte `i`
in state `s` exactly the token of byte `i` (STOP at the end of the input) if `s` has an action on it, and nothing otherwise.
The lexing lemma (`findLookaheads_core`) does not need "nothing to skip": the head is moved to where the lexer stops (`lexPos`)
and offered the token of the byte there; `Proofs/GlrLexDetWs.lean` instantiates it with whitespace.

Why `partialParse = false`: with partial parsing a state that has no action on the next token but has one on STOP
is offered a synthetic STOP (`stopOrNone`), which `LexDet.look` excludes (it asks for NO token there).
-/

namespace Rustemo
open Rustemo.Glr

theorem nodupB_sound : ∀ (l : List Nat), nodupB l = true → l.Nodup := by
  intro l
  induction l with
  | nil => intro _; exact List.nodup_nil
  | cons x xs ih =>
    intro h
    unfold nodupB at h
    simp only [Bool.and_eq_true, Bool.not_eq_true', List.contains_eq_mem, decide_eq_false_iff_not] at h
    exact List.nodup_cons.mpr ⟨h.1, ih h.2⟩

/-- the tokens a lookahead filter must reduce to one: grammar order, or every state's list repetition free -/
def LexUnique (env : Env) : Prop := env.grammarOrder = true ∨ ∀ s, ((env.t.sorted s).map (·.1)).Nodup

theorem lexUniqueOk_sound (env : Env) (h : lexUniqueOk env = true) : LexUnique env := by
  unfold lexUniqueOk at h
  simp only [Bool.or_eq_true] at h
  refine h.imp id fun h s => ?_
  unfold Table.sorted
  split
  · rename_i st hst
    exact nodupB_sound _ (forStates_iff.mp h _ _ hst)
  · exact List.nodup_nil

theorem knownBytes_of_sentence {g : Grammar} {input : List Nat} (h : Sentence g (tokensOf g input)) :
    knownBytes g input = true := by
  unfold knownBytes
  rw [List.all_eq_true]
  intro b hb
  simpa using sentence_lt h _ (List.mem_map_of_mem hb)

theorem length_le_one_of_all_eq {toks : List Tok} {tk : Tok} (h : ∀ x ∈ toks, x = tk)
    (hnd : (toks.map (·.kind)).Nodup) : toks.length ≤ 1 := by
  obtain ⟨n, rfl⟩ : ∃ n, toks = List.replicate n tk := ⟨_, List.eq_replicate_iff.mpr ⟨rfl, h⟩⟩
  rw [List.map_replicate, List.nodup_replicate] at hnd
  rwa [List.length_replicate]

theorem keepToks_all_eq (longest go : Bool) (tk : Tok) (toks : List Tok) (hne : toks ≠ [])
    (h : ∀ x ∈ toks, x = tk) (hone : go = true ∨ toks.length ≤ 1) : keepToks longest go toks = [tk] := by
  unfold keepToks
  simp only [filter_maxLen_all_eq tk toks h, ite_self]
  cases toks with
  | nil => exact absurd rfl hne
  | cons x rest =>
    have hx := h x List.mem_cons_self
    rcases hone with hgo | hlen
    · simp [hgo, hx]
    · have : rest = [] := List.eq_nil_of_length_eq_zero (by simpa using hlen)
      subst this
      simp [hx]

theorem findLookaheads_core (env : Env) (he : CharEnvWs env) (hc : SingleChar env.g env.t) (hu : LexUnique env)
    (fuel : Nat) (ctx : Ctx) (hle : (lexPos env ctx.pos).pos ≤ env.input.length)
    (a : Nat) (ha : a = lookahead (toksFrom env.g env.input (lexPos env ctx.pos).pos)) :
    (findLookaheadsCtx env false fuel ctx).1.pos = lexPos env ctx.pos ∧
    (findLookaheadsCtx env false fuel ctx).2 =
      .ok (if (env.t.cell ctx.state a).isEmpty then [] else [tokAt env (lexPos env ctx.pos) a]) := by
  obtain ⟨h1, h2⟩ := findLookaheads_noLayout env hc.noLayout he.custom fuel ctx
  obtain ⟨hall, hnil⟩ := tokenIter_sorted env he.recog hc ctx.state (lexPos env ctx.pos) hle a ha
  refine ⟨h1, ?_⟩
  rw [h2]
  by_cases hcell : env.t.cell ctx.state a = []
  · rw [hnil.mpr hcell, hcell, keepToks_nil]
    rfl
  · have hone : env.grammarOrder = true ∨
        (tokenIter env (lexPos env ctx.pos) (env.t.sorted ctx.state)).length ≤ 1 :=
      hu.imp id fun h => length_le_one_of_all_eq hall ((tokenIterAux_kinds env _ _ false).nodup (h ctx.state))
    rw [keepToks_all_eq _ _ _ _ (mt hnil.mp hcell) hall hone, if_neg (by simpa using hcell)]

/-- position of byte `i` (`position_after` of the first `i` bytes, one token at a time) -/
def bytePos (env : Env) : Nat → Pos
  | 0 => Pos.start
  | i+1 => posAfter (sliceOf env.input ((bytePos env i).pos, tokLen env.input (bytePos env i).pos)) (bytePos env i)

/-- token `i` of the input: the terminal of byte `i` (one byte long), STOP (empty) at the end -/
def byteTok (env : Env) (i : Nat) : Tok := tokAt env (bytePos env i) (lookahead (toksFrom env.g env.input i))

theorem bytePos_pos (env : Env) : ∀ i, i ≤ env.input.length → (bytePos env i).pos = i
  | 0, _ => rfl
  | i+1, hi => by
    rw [bytePos, tokEnd_pos, bytePos_pos env i (by omega), tokLen_of_lt (by omega)]

theorem byteTok_kind (env : Env) (i : Nat) (hi : i < env.input.length) :
    (byteTok env i).kind = charToTerm env.g env.input[i] := by
  unfold byteTok tokAt
  simp only [toksFrom_cons hi, lookahead, List.headD_cons]

/-- any fuel: without a Layout rule `find_lookaheads` uses none -/
theorem lexDet_bytes (env : Env) (hc : SingleChar env.g env.t) (he : CharEnv env)
    (hk : knownBytes env.g env.input = true) (hu : LexUnique env) (fuel : Nat) :
    LexDet env false fuel env.input.length (byteTok env) (bytePos env) (bytePos env) := by
  refine ⟨rfl, ?_, ?_, ?_, ?_⟩
  · intro i _
    rfl
  · intro i hi ctx hp _
    have hpos : lexPos env ctx.pos = bytePos env i := by rw [lexPos_noskip env he.skip, hp]
    have := findLookaheads_core env ⟨he.recog, he.custom⟩ hc hu fuel ctx (by rw [hpos, bytePos_pos env i hi]; exact hi)
      (lookahead (toksFrom env.g env.input i)) (by rw [hpos, bytePos_pos env i hi])
    rw [hpos] at this
    exact this
  · unfold byteTok tokAt
    simp only [toksFrom_nil (Nat.le_refl _), lookahead, List.headD_nil]
  · intro i hi
    rw [byteTok_kind env i hi]
    exact ⟨Nat.pos_of_ne_zero (charToTerm_ne_zero hc env.input[i]),
      of_decide_eq_true (List.all_eq_true.mp hk _ (List.getElem_mem hi))⟩

theorem lexDet_checked (env : Env) (hlex : Cert.singleCharLexer env.g env.t = true) (henv : charEnvOk env = true)
    (hknown : knownBytes env.g env.input = true) (huniq : lexUniqueOk env = true) (fuel : Nat) :
    LexDet env false fuel env.input.length (byteTok env) (bytePos env) (bytePos env) ∧
    (List.range env.input.length).map (fun i => (byteTok env i).kind) = tokensOf env.g env.input :=
  ⟨lexDet_bytes env (Cert.singleCharLexer_sound _ _ hlex) (charEnvOk_sound env henv) hknown
    (lexUniqueOk_sound env huniq) fuel, by
    apply List.ext_getElem
    · simp [tokensOf]
    · intro i h1 h2
      simp only [List.length_map, List.length_range] at h1
      simp only [List.getElem_map, List.getElem_range, tokensOf]
      exact byteTok_kind env i h1⟩

theorem lexDet_of_singleChar (env : Env) (hlex : Cert.singleCharLexer env.g env.t = true)
    (henv : charEnvOk env = true) (hknown : knownBytes env.g env.input = true) (huniq : lexUniqueOk env = true)
    (fuel : Nat) :
    ∃ n tok P L, LexDet env false fuel n tok P L ∧
      (List.range n).map (fun i => (tok i).kind) = tokensOf env.g env.input ∧
      n = env.input.length ∧ (∀ i, i ≤ n → (L i).pos = i) :=
  have h := lexDet_checked env hlex henv hknown huniq fuel
  ⟨_, _, _, _, h.1, h.2, rfl, bytePos_pos env⟩

end Rustemo
