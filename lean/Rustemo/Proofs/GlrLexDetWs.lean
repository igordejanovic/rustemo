import Rustemo.Proofs.GlrLexDet
/-!
`LexDet` without the restriction "whitespace skipping off, or nothing to skip" of `CharEnv`: `StringLexer::skip` (model `skip`)
moves a head from `headPos env i` to the start `tokStart env i` of token `i`; the tokens are `wsTok env i`, their kinds
`tokensOfWs` (Model/GlrLexCert.lean), a direct recursion on byte offsets.  Still: no Layout rule, full parse, string lexer.
-/

namespace Rustemo
open Rustemo.Glr

theorem charEnvWsOk_sound (env : Env) (h : charEnvWsOk env = true) : CharEnvWs env := by
  unfold charEnvWsOk at h
  simp only [Bool.and_eq_true, List.all_eq_true, List.mem_range, beq_iff_eq, Option.isNone_iff_eq_none] at h
  obtain ⟨h1, h2⟩ := h
  exact ⟨fun k pos hk hp => h1 k hk pos (by omega), h2⟩

theorem skipLen_eq (env : Env) (p : Nat) : skipLen env.skipWs env.input p = wsAt env p := by
  unfold skipLen wsAt
  split
  · exact Nat.min_eq_left (List.length_drop ▸ wsPrefixLen_le _ _)
  · rfl

theorem lexPos_le (env : Env) {p : Pos} (h : p.pos ≤ env.input.length) : (lexPos env p).pos ≤ env.input.length := by
  rw [lexPos_pos]
  have := wsAt_le env p.pos
  omega

/-- start of token `i` (after the whitespace in front of it) -/
def tokStart (env : Env) : Nat → Pos
  | 0 => lexPos env Pos.start
  | i+1 => lexPos env
      (posAfter (sliceOf env.input ((tokStart env i).pos, tokLen env.input (tokStart env i).pos)) (tokStart env i))

/-- end of token `i - 1` = where the heads of level `i` start -/
def headPos (env : Env) : Nat → Pos
  | 0 => Pos.start
  | i+1 => posAfter (sliceOf env.input ((tokStart env i).pos, tokLen env.input (tokStart env i).pos)) (tokStart env i)

theorem tokStart_eq (env : Env) (i : Nat) : tokStart env i = lexPos env (headPos env i) := by
  cases i <;> rfl

def wsTok (env : Env) (i : Nat) : Tok :=
  tokAt env (tokStart env i) (lookahead (toksFrom env.g env.input (tokStart env i).pos))

theorem headPos_succ_pos (env : Env) (i : Nat) :
    (headPos env (i+1)).pos = (tokStart env i).pos + tokLen env.input (tokStart env i).pos :=
  tokEnd_pos _ _

theorem tokStart_pos (env : Env) (i : Nat) :
    (tokStart env i).pos = (headPos env i).pos + skipLen env.skipWs env.input (headPos env i).pos := by
  rw [tokStart_eq, lexPos_pos, skipLen_eq]

theorem headPos_le (env : Env) : ∀ i, (headPos env i).pos ≤ env.input.length
  | 0 => Nat.zero_le _
  | i+1 => by
    have h := lexPos_le env (headPos_le env i)
    rw [← tokStart_eq] at h
    rw [headPos_succ_pos]
    rcases Nat.lt_or_ge (tokStart env i).pos env.input.length with hlt | hge
    · rw [tokLen_of_lt hlt]; exact hlt
    · rw [tokLen, if_pos hge]; exact h

theorem tokStart_le (env : Env) (i : Nat) : (tokStart env i).pos ≤ env.input.length := by
  rw [tokStart_eq]
  exact lexPos_le env (headPos_le env i)

theorem wsTok_kind (env : Env) (i : Nat) (hi : (tokStart env i).pos < env.input.length) :
    (wsTok env i).kind = charToTerm env.g (env.input.getD (tokStart env i).pos 0) := by
  unfold wsTok tokAt
  simp only [toksFrom_cons hi, lookahead, List.headD_cons]
  congr 1
  simp [List.getD_eq_getElem?_getD, List.getElem?_eq_getElem hi]

theorem tokensFromWs_headPos (env : Env) : ∀ (fuel i : Nat), env.input.length < (headPos env i).pos + fuel →
    ∃ m, tokensFromWs env.g env.skipWs env.input fuel (headPos env i).pos =
        (List.range' i m).map (fun j => (wsTok env j).kind) ∧
      (∀ j, j < m → (tokStart env (i + j)).pos < env.input.length) ∧
      (tokStart env (i + m)).pos = env.input.length
  | 0, i, h => absurd h (Nat.not_lt.mpr (headPos_le env i))
  | fuel+1, i, h => by
    unfold tokensFromWs
    simp only [← tokStart_pos]
    by_cases hq : env.input.length ≤ (tokStart env i).pos
    · exact ⟨0, by simp [hq], fun j hj => absurd hj (Nat.not_lt_zero j), Nat.le_antisymm (tokStart_le env i) hq⟩
    · have hlt : (tokStart env i).pos < env.input.length := Nat.lt_of_not_le hq
      have hp : (headPos env (i+1)).pos = (tokStart env i).pos + 1 := by rw [headPos_succ_pos, tokLen_of_lt hlt]
      -- the lexer only moves forward, so one unit of fuel less is enough from the next head position
      have hf : env.input.length < (headPos env (i+1)).pos + fuel := by
        rw [hp, tokStart_pos]
        exact Nat.lt_of_lt_of_le h (by omega)
      obtain ⟨m, h1, h2, h3⟩ := tokensFromWs_headPos env fuel (i+1) hf
      refine ⟨m+1, ?_, ?_, ?_⟩
      · rw [if_neg hq, List.range'_succ, List.map_cons, wsTok_kind env i hlt, ← hp, h1]
      · intro j hj
        cases j with
        | zero => exact hlt
        | succ j =>
          have := h2 j (Nat.lt_of_succ_lt_succ hj)
          rwa [Nat.add_right_comm] at this
      · rwa [Nat.add_right_comm] at h3

def nToks (env : Env) : Nat := (tokensOfWs env.g env.skipWs env.input).length

theorem nToks_spec (env : Env) :
    (List.range (nToks env)).map (fun i => (wsTok env i).kind) = tokensOfWs env.g env.skipWs env.input ∧
    (∀ j, j < nToks env → (tokStart env j).pos < env.input.length) ∧
    (tokStart env (nToks env)).pos = env.input.length := by
  obtain ⟨m, h1, h2, h3⟩ := tokensFromWs_headPos env (env.input.length + 1) 0
    (by show env.input.length < 0 + (env.input.length + 1); omega)
  have h1' : tokensOfWs env.g env.skipWs env.input = (List.range' 0 m).map (fun j => (wsTok env j).kind) := h1
  have hm : nToks env = m := by unfold nToks; rw [h1']; simp
  simp only [Nat.zero_add] at h2 h3
  rw [hm, h1', List.range_eq_range']
  exact ⟨rfl, h2, h3⟩

theorem wsTok_kinds (env : Env) :
    (List.range (nToks env)).map (fun i => (wsTok env i).kind) = tokensOfWs env.g env.skipWs env.input :=
  (nToks_spec env).1

theorem knownBytes_ws_of_sentence {g : Grammar} {b : Bool} {input : List Nat} (h : Sentence g (tokensOfWs g b input)) :
    knownToks g b input = true := by
  unfold knownToks
  rw [List.all_eq_true]
  intro a ha
  simpa using sentence_lt h a ha

theorem lexDet_ws (env : Env) (hc : SingleChar env.g env.t) (he : CharEnvWs env)
    (hk : knownToks env.g env.skipWs env.input = true) (hu : LexUnique env) (fuel : Nat) :
    LexDet env false fuel (nToks env) (wsTok env) (headPos env) (tokStart env) := by
  obtain ⟨_, k2, k3⟩ := nToks_spec env
  refine ⟨rfl, ?_, ?_, ?_, ?_⟩
  · intro i _
    rfl
  · intro i _ ctx hp _
    have hpos : lexPos env ctx.pos = tokStart env i := by rw [hp, tokStart_eq]
    have := findLookaheads_core env he hc hu fuel ctx (by rw [hpos]; exact tokStart_le env i)
      (lookahead (toksFrom env.g env.input (lexPos env ctx.pos).pos)) rfl
    rw [hpos] at this
    exact this
  · unfold wsTok tokAt
    simp only [toksFrom_nil (Nat.le_of_eq k3.symm), lookahead, List.headD_nil]
  · intro i hi
    have hq := k2 i hi
    have h0 : (wsTok env i).kind ≠ 0 := by
      rw [wsTok_kind env i hq]; exact charToTerm_ne_zero hc _
    have h1 : (wsTok env i).kind < env.g.nterms := by
      unfold knownToks at hk
      rw [List.all_eq_true] at hk
      have hm : (wsTok env i).kind ∈ tokensOfWs env.g env.skipWs env.input := by
        rw [← wsTok_kinds env]
        exact List.mem_map_of_mem (f := fun i => (wsTok env i).kind) (List.mem_range.mpr hi)
      simpa using hk _ hm
    exact ⟨Nat.pos_of_ne_zero h0, h1⟩

theorem lexDet_ws_checked (env : Env) (hlex : Cert.singleCharLexer env.g env.t = true) (henv : charEnvWsOk env = true)
    (hknown : knownToks env.g env.skipWs env.input = true) (huniq : lexUniqueOk env = true) (fuel : Nat) :
    LexDet env false fuel (nToks env) (wsTok env) (headPos env) (tokStart env) ∧
    (List.range (nToks env)).map (fun i => (wsTok env i).kind) = tokensOfWs env.g env.skipWs env.input :=
  ⟨lexDet_ws env (Cert.singleCharLexer_sound _ _ hlex) (charEnvWsOk_sound env henv) hknown
    (lexUniqueOk_sound env huniq) fuel, wsTok_kinds env⟩

theorem lexDet_of_singleChar_ws (env : Env) (hlex : Cert.singleCharLexer env.g env.t = true)
    (henv : charEnvWsOk env = true) (hknown : knownToks env.g env.skipWs env.input = true)
    (huniq : lexUniqueOk env = true) (fuel : Nat) :
    ∃ n tok P L, LexDet env false fuel n tok P L ∧
      (List.range n).map (fun i => (tok i).kind) = tokensOfWs env.g env.skipWs env.input :=
  ⟨_, _, _, _, lexDet_ws_checked env hlex henv hknown huniq fuel⟩

theorem skipLen_zero {b : Bool} {input : List Nat} (h : b = false ∨ noWsBytes input = true) (p : Nat) :
    skipLen b input p = 0 := by
  unfold skipLen
  rcases h with h | h
  · simp [h]
  · rw [wsPrefixLen_noWs h, Nat.zero_min, ite_self]

theorem tokensFromWs_noskip {g : Grammar} {b : Bool} {input : List Nat} (h : b = false ∨ noWsBytes input = true) :
    ∀ (fuel p : Nat), input.length - p < fuel → tokensFromWs g b input fuel p = toksFrom g input p := by
  intro fuel
  induction fuel with
  | zero => intro p hp; omega
  | succ fuel ih =>
    intro p hp
    unfold tokensFromWs
    simp only [skipLen_zero h, Nat.add_zero]
    split
    · rename_i hle
      exact (toksFrom_nil hle).symm
    · rename_i hlt
      have hlt' : p < input.length := by omega
      rw [toksFrom_cons hlt', ih (p+1) (by omega)]
      congr 1
      simp [List.getD_eq_getElem?_getD, List.getElem?_eq_getElem hlt']

theorem tokensOfWs_noskip {g : Grammar} {b : Bool} {input : List Nat} (h : b = false ∨ noWsBytes input = true) :
    tokensOfWs g b input = tokensOf g input := by
  unfold tokensOfWs
  rw [tokensFromWs_noskip h _ _ (by omega), toksFrom_zero]

end Rustemo
