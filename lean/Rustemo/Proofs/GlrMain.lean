import Rustemo.Proofs.GlrFrontier
import Rustemo.Proofs.GlrInitial
import Rustemo.Proofs.GlrReducer
/-!
One shift is a `Sol` with a terminal node; the three phases of a level compose to `parse_sat`: with `A := True` every
result satisfies `ResultOk`, with `A := False` no panic site is reached.
-/

namespace Rustemo.Glr

variable {A E : Prop}

def MapOk (g : Gss) (F' : Nat) (m : BaseMap) : Prop :=
  ∀ k i, (k, i) ∈ m → (∃ hd : Head, g.heads[i]? = some hd ∧ hd.state = k.1 ∧ hd.frontier = F') ∧ TermEdges g i

theorem MapOk.ext {g g' : Gss} {F' : Nat} {m : BaseMap} (hx : Ext g g') (ht : ∀ i, TermEdges g i → TermEdges g' i)
    (h : MapOk g F' m) : MapOk g' F' m := by
  intro k i hki
  obtain ⟨⟨hd, hhd, h1, h2⟩, hti⟩ := h k i hki
  obtain ⟨hd', hhd', h1', h2', _⟩ := hx.heads _ hd hhd
  exact ⟨⟨hd', hhd', by rw [h1', h1], by rw [h2', h2]⟩, ht i hti⟩

/-- one call of `shiftOne` for the recorded shift `x = (head, target state)`: the head is `hd`, on level `F` with lookahead
    `tk`; the step is a `Sol` with the terminal node of `tk`, whose head `v` was found in or added to the base map -/
structure ShiftRun (env : Env) (F : Nat) (g : Gss) (m : BaseMap) (x : Nat × Nat) (r : Gss × BaseMap)
    (hd : Head) (tk : Tok) (v e : Nat) (hc ec : Bool) (poss : List Nat) : Prop where
  hhd : g.heads[x.1]? = some hd
  htk : hd.tok = some tk
  hF : hd.frontier = F
  hact : Action.shift x.2 ∈ env.t.cell hd.state tk.kind
  sol : Sol g r.1 ⟨x.2, F + 1, posAfter (sliceOf env.input tk.val) hd.pos, tk.span, none, none⟩ v x.1
    (.term tk tk.span) e g.nodes.size hc ec poss
  ins : GetOrIns (x.2, posAfter (sliceOf env.input tk.val) hd.pos) v hc m r.2

theorem shiftOne_spec {env : Env} {F : Nat} {g : Gss} {m : BaseMap} {x : Nat × Nat} {hd : Head} {tk : Tok}
    (hhd : g.heads[x.1]? = some hd) (htk : hd.tok = some tk) (hF : hd.frontier = F)
    (hact : Action.shift x.2 ∈ env.t.cell hd.state tk.kind) (hm : ∀ k v, (k, v) ∈ m → ∃ hv : Head, g.heads[v]? = some hv) :
    SatE A E (fun r => ∃ (v e : Nat) (hc ec : Bool) (poss : List Nat), ShiftRun env F g m x r hd tk v e hc ec poss)
      (shiftOne env (F + 1) (g, m) x) := by
  unfold shiftOne
  refine SatE.bind_ok (head_ok hhd) (SatE.bind_ok (by unfold tokOf; rw [htk]) ?_)
  dsimp only
  split
  · rename_i v hget
    obtain ⟨hv, hhv⟩ := hm _ _ (baseGet_mem hget)
    refine SatE.bind_ok (head_ok hhv) ?_
    obtain ⟨e, ec, poss, s⟩ := Sol.of_addSolution (g := g) (gX := g)
      (nh := ⟨x.2, F + 1, posAfter (sliceOf env.input tk.val) hd.pos, tk.span, none, none⟩) (hc := false) rfl rfl rfl v x.1
      (.term tk tk.span) nofun
    -- the projections of the pair are reduced first: the unifier would unfold the graph operations instead
    dsimp only [SatE]
    exact ⟨v, e, false, ec, poss, hhd, htk, hF, hact, s, .found _ (baseGet_mem hget)⟩
  · rename_i hget
    obtain ⟨e, ec, poss, s⟩ := Sol.of_addSolution (g := g)
      (gX := (g.addHead ⟨x.2, F + 1, posAfter (sliceOf env.input tk.val) hd.pos, tk.span, none, none⟩).1) (hc := true)
      rfl rfl rfl g.heads.size x.1 (.term tk tk.span) fun _ => rfl
    dsimp only [SatE]
    exact ⟨_, e, true, ec, poss, hhd, htk, hF, hact, s, .added _ _ (find?_fst_none hget) (baseInsert_ins _ _ _)⟩

theorem Sol.termEdges {g g' : Gss} {nh : Head} {hA dst : Nat} {tk : Tok} {sp : Span} {e n : Nat} {hc ec : Bool}
    {poss : List Nat} (s : Sol g g' nh hA dst (.term tk sp) e n hc ec poss) {i : Nat} (h : TermEdges g i) :
    TermEdges g' i := by
  intro j ed hj hsrc m hm
  rcases s.poss_new hj hm with ⟨ed0, k0, ks, -, hm0⟩ | ⟨rfl, -⟩
  · exact (h j ed0 k0 (ks.trans hsrc) m hm0).mono fun _ _ => s.nodes_old
  · exact ⟨tk, sp, s.node⟩

section

variable {env : Env} {F : Nat} {g : Gss} {m : BaseMap} {x : Nat × Nat} {r : Gss × BaseMap} {hd : Head} {tk : Tok} {v e : Nat}
  {hc ec : Bool} {poss : List Nat}

theorem ShiftRun.term (d : ShiftRun env F g m x r hd tk v e hc ec poss) (hT : TableOk env) : tk.kind < env.g.nterms :=
  hT.s.shift_term _ _ _ d.hact

theorem ShiftRun.trans (d : ShiftRun env F g m x r hd tk v e hc ec poss) (hT : TableOk env) :
    env.t.trans env.g hd.state tk.kind x.2 :=
  (Table.trans_term (d.term hT)).mpr d.hact

theorem ShiftRun.sym (d : ShiftRun env F g m x r hd tk v e hc ec poss) (hT : TableOk env) : env.t.symAt x.2 = tk.kind :=
  hT.sym _ _ _ (d.trans hT)

/-- the head the shift lands on; `TermEdges g v` for a new head: no old edge starts there -/
theorem ShiftRun.target (d : ShiftRun env F g m x r hd tk v e hc ec poss) (hg : GInv env g) (hm : MapOk g (F + 1) m) :
    ∃ hv : Head, r.1.heads[v]? = some hv ∧ hv.state = x.2 ∧ hv.frontier = F + 1 ∧ TermEdges g v := by
  cases d.ins with
  | found _ hmem =>
    obtain ⟨⟨shd, hshd, hss, hsf⟩, ht⟩ := hm _ _ hmem
    exact ⟨shd, d.sol.heads_old hshd, hss, hsf, ht⟩
  | added =>
    refine ⟨_, d.sol.head_new rfl, rfl, rfl, fun j ed hj hsrc => ?_⟩
    exact absurd (ginv_srcs hg j ed hj).1 (by rw [hsrc, d.sol.newHead rfl]; exact Nat.lt_irrefl _)

theorem ShiftRun.ginv (d : ShiftRun env F g m x r hd tk v e hc ec poss) (hT : TableOk env) (hg : GInv env g)
    (hm : MapOk g (F + 1) m) : GInv env r.1 := by
  obtain ⟨hv, hhv, hvs, hvf, -⟩ := d.target hg hm
  have hsym := d.sym hT
  refine d.sol.ginv hg
    (fun _ => ⟨hT.tot.shift_range _ _ _ d.hact, Or.inr (hT.not_start (d.trans hT)), ?_, by intro tk' h; simp at h⟩)
    hhv d.hhd (by rw [hvs, hsym]; exact d.trans hT)
    ⟨by rw [hvs, hsym], by rw [hvs, hsym]; exact d.term hT, hd, d.hhd, by rw [hvf, d.hF]⟩
  exact posLe.after (show posLe tk.span.s hd.pos from (hg.heads _ hd d.hhd).tok tk d.htk) ⟨_, rfl⟩

theorem ShiftRun.mapOk (d : ShiftRun env F g m x r hd tk v e hc ec poss) (hg : GInv env g) (hm : MapOk g (F + 1) m) :
    MapOk r.1 (F + 1) r.2 := by
  obtain ⟨hv, hhv, hvs, hvf, hvt⟩ := d.target hg hm
  intro k i hki
  rcases d.ins.mem hki with h | ⟨_, heq⟩
  · exact hm.ext d.sol.ext (fun i => d.sol.termEdges) k i h
  · cases heq
    exact ⟨⟨hv, hhv, hvs, hvf⟩, d.sol.termEdges hvt⟩

end

/-- the shifter keeps `GInv` and leaves a base of terminal-edge heads; `I` is whatever else is to be carried over the
    recorded shifts, given what each `shiftOne` did -/
theorem shifter_hoare {env : Env} (hT : TableOk env) {F : Nat} {st : St} (hs : StOk env F st)
    {I : List (Nat × Nat) → Gss × BaseMap → Prop} (h0 : I [] (st.gss, []))
    (step : ∀ {pre : List (Nat × Nat)} {x : Nat × Nat} {post : List (Nat × Nat)} {g : Gss} {m : BaseMap} {r : Gss × BaseMap}
      {hd : Head} {tk : Tok} {v e : Nat} {hc ec : Bool} {poss : List Nat}, st.shifts = pre ++ x :: post → GInv env g →
      Ext st.gss g → MapOk g (F + 1) m → ShiftRun env F g m x r hd tk v e hc ec poss → GInv env r.1 → I pre (g, m) →
      I (pre ++ [x]) r) :
    SatE A E (fun r => StOk env (F + 1) r.1 ∧ Ext st.gss r.1.gss ∧ BaseOk r.1.gss (F + 1) r.2 ∧
        r.1.accepted = st.accepted ∧ r.1.shifts = [] ∧ ∃ m, r.2 = m.map (·.2) ∧ I st.shifts (r.1.gss, m))
      (shifter env (F + 1) st) := by
  unfold shifter
  refine SatE.bind (foldO_hoare (I := fun pre r => GInv env r.1 ∧ Ext st.gss r.1 ∧ MapOk r.1 (F + 1) r.2 ∧ I pre r)
    ⟨hs.g, Ext.refl _, fun _ _ h => absurd h List.not_mem_nil, h0⟩ ?_) ?_
  · rintro pre sh post ⟨g1, m1⟩ hl ⟨h1, h2, h3, hi⟩
    obtain ⟨hd, tk, hhd, htk, hF, hact⟩ := (hs.shifts sh (hl ▸ List.mem_append_right _ List.mem_cons_self)).ext h2
    exact (shiftOne_spec hhd htk hF hact fun k v hkv => let ⟨⟨x, hx, _⟩, _⟩ := h3 k v hkv; ⟨x, hx⟩).mono
      fun r ⟨_, _, _, _, _, d⟩ =>
        have hg' := d.ginv hT h1 h3
        ⟨hg', h2.trans d.sol.ext, d.mapOk h1 h3, step hl h1 h2 h3 d hg' hi⟩
  rintro ⟨g', m⟩ - ⟨h1, h2, h3, hi⟩
  refine ⟨⟨h1, fun _ h => absurd h List.not_mem_nil, fun h hh => (hs.acc h hh).ext h2⟩, h2, ?_, rfl, rfl, m, rfl, hi⟩
  intro i hi
  simp only [List.mem_map] at hi
  obtain ⟨⟨k, i'⟩, hki, rfl⟩ := hi
  obtain ⟨⟨hd, hhd, _, hf⟩, hte⟩ := h3 k i' hki
  exact ⟨⟨hd, hhd, hf⟩, hte⟩

theorem shifter_nil {env : Env} {F : Nat} {st st' : St} {base' : List Nat} (hnil : st.shifts = [])
    (h : shifter env F st = .ok (st', base')) : base' = [] := by
  unfold shifter at h
  rw [hnil] at h
  injection h with h
  injection h with _ e2
  exact e2.symm

def RootAt (env : Env) (g : Gss) (N n : Nat) : Prop :=
  ∃ (e : Nat) (ed : Edge) (hs hd : Head), g.edges[e]? = some ed ∧ n ∈ ed.poss ∧ g.heads[ed.src]? = some hs ∧
    g.heads[ed.dst]? = some hd ∧ hd.frontier = 0 ∧ hd.state = 0 ∧ hs.frontier = N ∧ env.t.symAt hs.state = env.g.startIdx

structure ResultOk (env : Env) (r : GlrResult) : Prop where
  g : GInv env r.gss
  roots : ∀ n ∈ r.roots, ∃ N, RootAt env r.gss N n

theorem mem_forestRoots {g : Gss} {accepted : List Nat} {m : Nat} : m ∈ forestRoots g accepted ↔
    ∃ v ∈ accepted, ∃ (e : Nat) (ed : Edge), g.edges[e]? = some ed ∧ ed.src = v ∧ m ∈ ed.poss := by
  unfold forestRoots
  simp only [List.mem_flatMap, mem_backedges]
  constructor
  · rintro ⟨v, hv, e, ⟨ed, hed, hsrc⟩, hm⟩
    exact ⟨v, hv, e, ed, hed, hsrc, possOf_eq hed ▸ hm⟩
  · rintro ⟨v, hv, e, ed, hed, hsrc, hm⟩
    exact ⟨v, hv, e, ⟨ed, hed, hsrc⟩, (possOf_eq hed).symm ▸ hm⟩

theorem accepted_edge {env : Env} (hT : TableOk env) {g : Gss} (hg : GInv env g) {v : Nat} (hacc : AccOk env g v)
    {e : Nat} {ed : Edge} (hed : g.edges[e]? = some ed) (hsrc : ed.src = v) :
    ∃ hs hd : Head, g.heads[ed.src]? = some hs ∧ g.heads[ed.dst]? = some hd ∧ hd.frontier = 0 ∧
      env.t.symAt hs.state = env.g.startIdx ∧ hd.state = 0 := by
  obtain ⟨hda, tka, hhda, _, hact⟩ := hacc
  obtain ⟨hs, hd, hhs, hhd, htr, _⟩ := (hg.edges e ed hed).ends
  obtain rfl := Option.mem_unique hhda (hsrc ▸ hhs)
  obtain ⟨au, hau, hstart, hX⟩ := hT.s.accept_trans hact htr
  have h0 : hd.state = 0 ∧ hd.frontier = 0 := by
    rcases (hg.heads _ hd hhd).start with h | h
    · exact h
    · exact absurd hstart (h au hau)
  have hmain : au = ⟨0, 0, env.g.startIdx⟩ :=
    hT.s.distinct au hau _ (mem_autosOf_main _ _) (by rw [← hstart, h0.1])
  exact ⟨hda, hd, hhs, hhd, h0.2, by rw [hX, hmain], h0.1⟩

theorem forestRoots_rootAt {env : Env} (hT : TableOk env) {g : Gss} (hg : GInv env g) {accepted : List Nat}
    (hacc : ∀ h ∈ accepted, AccOk env g h) : ∀ n ∈ forestRoots g accepted,
      ∃ v ∈ accepted, ∃ hs : Head, g.heads[v]? = some hs ∧ RootAt env g hs.frontier n := by
  intro n hn
  obtain ⟨v, hv, e, ed, hed, hsrc, hn⟩ := mem_forestRoots.mp hn
  obtain ⟨hs, hd, hhs, hhd, h0, hX, hs0⟩ := accepted_edge hT hg (hacc v hv) hed hsrc
  exact ⟨v, hv, hs, hsrc ▸ hhs, e, ed, hs, hd, hed, hn, hhs, hhd, h0, hs0, rfl, hX⟩

theorem dedup_ne_nil : ∀ (l : List Nat), l ≠ [] → dedup l [] ≠ []
  | [], h => absurd rfl h
  | x :: rest, _ => by simp [dedup]

theorem expectedOf_ok {env : Env} (hT : TableOk env) {g : Gss} (hg : GInv env g) :
    ∀ (l : List Nat), (∀ h ∈ l, ∃ hd : Head, g.heads[h]? = some hd) →
      ∃ ex, expectedOf env g l = .ok ex ∧ (l ≠ [] → ex ≠ [])
  | [], _ => ⟨[], rfl, fun h => absurd rfl h⟩
  | h :: rest, hl => by
    obtain ⟨hd, hhd⟩ := hl h List.mem_cons_self
    obtain ⟨more, hm, _⟩ := expectedOf_ok hT hg rest fun h' hh' => hl h' (List.mem_cons_of_mem _ hh')
    refine ⟨_, by rw [expectedOf, head_ok hhd, obind, hm, obind], fun _ hnil => ?_⟩
    exact hT.tot.sorted_lt (hg.heads _ hd hhd).range (List.map_eq_nil_iff.mp (List.append_eq_nil_iff.mp hnil).1)

theorem makeError_eq {env : Env} (hT : TableOk env) {g : Gss} (hg : GInv env g) {lastBase : List Nat}
    (hne : lastBase ≠ []) (hl : ∀ h ∈ lastBase, ∃ hd : Head, g.heads[h]? = some hd) :
    ∃ b ∈ lastBase, ∃ (hd : Head) (ks : List Nat), g.heads[b]? = some hd ∧ ks ≠ [] ∧
      makeError env g lastBase = .err (.expected hd.pos ks) := by
  obtain ⟨ex, hex, hexne⟩ := expectedOf_ok hT hg lastBase hl
  cases lastBase with
  | nil => exact absurd rfl hne
  | cons b rest =>
    obtain ⟨hd, hhd⟩ := hl b List.mem_cons_self
    refine ⟨b, List.mem_cons_self, hd, dedup ex [], hhd, dedup_ne_nil ex (hexne hne), ?_⟩
    simp only [makeError, hex, obind, head_ok hhd]
    split
    · exact absurd ‹dedup ex [] = []› (dedup_ne_nil ex (hexne hne))
    · rfl

theorem frontierStep_sat {env : Env} (hT : TableOk env) (hl : ¬ A → LayoutSafe env) (pp : Bool) (fuel : Nat) {F : Nat}
    {st : St} (hs : StOk env F st) {base : List Nat} (hb : BaseOk st.gss F base) :
    SatE A E (fun r => StOk env (F + 1) r.1 ∧ Ext st.gss r.1.gss ∧ BaseOk r.1.gss (F + 1) r.2)
      (frontierStep env pp fuel F st base) := by
  unfold frontierStep
  apply SatE.bind (createFrontier_hoare hl pp fuel hs.g hb (I := fun _ _ => True) trivial (by intros; trivial))
  rintro ⟨g1, fr⟩ - ⟨hg1, hx1, hfr, -⟩
  have hs1 : StOk env F { st with gss := g1 } :=
    ⟨hg1, fun s h => (hs.shifts s h).ext hx1.ext, fun a h => (hs.acc a h).ext hx1.ext⟩
  apply SatE.bind (initialProcess_sat hT hs1 hfr)
  rintro ⟨qs, st2⟩ - ⟨hs2, hg2, hq⟩
  simp only at hs2 hg2 hq ⊢
  apply SatE.bind (reduceAll_sat hT fuel fr qs st2 hs2 (by rw [hg2]; exact hfr) (by rw [hg2]; exact hq))
  rintro st3 - ⟨hs3, hx3⟩
  rw [hg2] at hx3
  exact (shifter_hoare hT hs3 (I := fun _ _ => True) trivial (by intros; trivial)).mono
    fun r ⟨k1, k2, k3, _⟩ => ⟨k1, (hx1.ext.trans hx3).trans k2, k3⟩

theorem mainLoop_sat {env : Env} (hT : TableOk env) (hl : ¬ A → LayoutSafe env) (pp : Bool) (fuel : Nat) :
    ∀ (n F : Nat) (st : St) (base lastBase : List Nat), StOk env F st → BaseOk st.gss F base →
      (base = [] → lastBase ≠ []) → (∀ h ∈ lastBase, ∃ hd : Head, st.gss.heads[h]? = some hd) →
      SatE A True (ResultOk env) (mainLoop env pp fuel n F st base lastBase) := by
  intro n
  induction n with
  | zero => exact fun _ _ _ _ _ _ _ _ => trivial
  | succ n ih =>
    intro F st base lastBase hs hb hne hlast
    unfold mainLoop
    cases base with
    | nil =>
      refine SatE.ite (fun _ => ⟨hs.g, fun n hn => let ⟨_, _, x, _, h⟩ := forestRoots_rootAt hT hs.g hs.acc n hn; ⟨x.frontier, h⟩⟩) fun _ => by
        obtain ⟨_, _, _, _, _, _, h⟩ := makeError_eq hT hs.g (hne rfl) hlast
        rw [h]; trivial
    | cons b rest =>
      refine SatE.bind (frontierStep_sat hT hl pp fuel hs hb) fun r _ ⟨hs', hx', hb'⟩ => ?_
      refine ih (F + 1) r.1 r.2 _ hs' hb' (fun hnil => ?_) fun h hh => ?_
      · rw [hnil]; exact List.cons_ne_nil _ _
      · -- the last non-empty base consists of heads of the graph, which only grows
        have : ∃ hd : Head, st.gss.heads[h]? = some hd := by
          split at hh
          · exact ((hb h hh).1).imp fun _ h => h.1
          · exact hlast h hh
        obtain ⟨hd, hhd⟩ := this
        exact (hx'.heads _ hd hhd).imp fun _ h => h.1

theorem startGraph_head : (({} : Gss).addHead startHead).1.heads[0]? = some startHead := by
  rw [addHead_heads]; rfl

theorem startGraph_heads {h : Nat} {hd : Head} (hh : (({} : Gss).addHead startHead).1.heads[h]? = some hd) :
    h = 0 ∧ hd = startHead := by
  rw [addHead_heads] at hh
  split at hh
  · exact ⟨‹h = _›, (Option.some.inj hh).symm⟩
  · simp at hh

theorem startGraph_noEdge {e : Nat} {ed : Edge} : ¬ (({} : Gss).addHead startHead).1.edges[e]? = some ed := by
  simp [Gss.addHead]

theorem startGraph_ok {env : Env} (hT : TableOk env) :
    StOk env 0 { gss := (({} : Gss).addHead startHead).1 } ∧
    BaseOk (({} : Gss).addHead startHead).1 0 [(({} : Gss).addHead startHead).2] := by
  refine ⟨⟨(GInv.empty env).addHead startHead ⟨hT.tot.start_ok, Or.inl ⟨rfl, rfl⟩, by decide, nofun⟩,
    fun _ h => absurd h List.not_mem_nil, fun _ h => absurd h List.not_mem_nil⟩, fun h hh => ?_⟩
  rw [List.mem_singleton.mp hh]
  exact ⟨⟨startHead, startGraph_head, rfl⟩, fun e ed he => absurd he startGraph_noEdge⟩

theorem parse_sat {env : Env} (hT : TableOk env) (hl : ¬ A → LayoutSafe env) (pp : Bool) (fuel : Nat) :
    SatE A True (ResultOk env) (parse env pp fuel) :=
  mainLoop_sat hT hl pp fuel fuel 0 _ _ [] (startGraph_ok hT).1 (startGraph_ok hT).2 nofun
    fun _ h => absurd h List.not_mem_nil

end Rustemo.Glr
