import Rustemo.Proofs.GlrSound
import Rustemo.Model.GlrNoDupCert
/-!
Different indices give different derivations.  The trees of two possibilities of one edge are never the same derivation
(`U_cross`); members of a product of pairwise different alternatives differ in a factor (`prodL_pairwise`, GlrInForest); `SameDerivation` of
two nodes goes down to the children: so the unfolding has no duplicates (`U_nodup`), and the roots are possibilities of ONE edge.
-/

namespace Rustemo.Glr

theorem listElision_common (fs : TreeList) (ts ts' : List Tree) (h1 : TreeList.ElisionOf fs (TreeList.ofList ts))
    (h2 : TreeList.ElisionOf fs (TreeList.ofList ts')) (k : Nat) (t t' : Tree) (hk : ts[k]? = some t)
    (hk' : ts'[k]? = some t') : Tree.SameDerivation t t' := by
  induction ts generalizing fs ts' k with
  | nil => cases hk
  | cons a as ih =>
    cases ts' with
    | nil => cases hk'
    | cons b bs =>
      cases fs with
      | nil => cases h1
      | cons f fs =>
        cases k with
        | zero => cases hk; cases hk'; exact ⟨f, h1.1, h2.1⟩
        | succ k => exact ih fs bs h1.2 h2.2 k hk hk'

theorem sameDerivation_node {p p' : Nat} {sp sp' : Span} {l l' : Option Slice} {ts ts' : List Tree}
    (h : Tree.SameDerivation (.node p sp l (TreeList.ofList ts)) (.node p' sp' l' (TreeList.ofList ts'))) :
    p = p' ∧ ∀ (k : Nat) (t t' : Tree), ts[k]? = some t → ts'[k]? = some t' → Tree.SameDerivation t t' := by
  obtain ⟨full, h1, h2⟩ := h
  cases full with
  | leaf a _ _ _ => simp [Tree.ElisionOf] at h1
  | node q _ _ fs =>
    simp only [Tree.ElisionOf] at h1 h2
    exact ⟨by rw [← h1.1, ← h2.1], listElision_common fs ts ts' h1.2 h2.2⟩

theorem not_sameDerivation_leaf_node {a : Nat} {sp : Span} {v : Slice} {l : Option Slice} {p : Nat} {sp' : Span}
    {l' : Option Slice} {cs : TreeList} : ¬ Tree.SameDerivation (.leaf a sp v l) (.node p sp' l' cs) := by
  rintro ⟨full, h1, h2⟩
  cases full with
  | leaf _ _ _ _ => simp [Tree.ElisionOf] at h2
  | node _ _ _ _ => simp [Tree.ElisionOf] at h1

/-- what is NOT established by the run invariant (see notes/Glr.md): the possibility lists are duplicate free -/
structure PossFacts (g : Gss) : Prop where
  possNodup : ∀ (e : Nat) (ed : Edge), g.edges[e]? = some ed → ed.poss.Nodup
  termOne : ∀ (e : Nat) (ed : Edge) (n n' : Nat) (tk tk' : Tok) (sp sp' : Span), g.edges[e]? = some ed → n ∈ ed.poss →
    n' ∈ ed.poss → g.nodes[n]? = some (.term tk sp) → g.nodes[n']? = some (.term tk' sp') → n = n'
  possDistinct : ∀ (e : Nat) (ed : Edge) (n n' p : Nat) (sp sp' : Span) (l l' : Option Slice) (C C' : List Nat),
    g.edges[e]? = some ed → n ∈ ed.poss → n' ∈ ed.poss → n ≠ n' → g.nodes[n]? = some (.nonterm p sp l C) →
    g.nodes[n']? = some (.nonterm p sp' l' C') → ¬ (C <+: C' ∨ C' <+: C)

structure NoDupG (env : Env) (g : Gss) : Prop where
  ginv : GInv env g
  edgeUniq : ∀ (e e' : Nat) (ed ed' : Edge), g.edges[e]? = some ed → g.edges[e']? = some ed' →
    ed.src = ed'.src → ed.dst = ed'.dst → e = e'
  hfun : HeadFun g
  poss : PossFacts g
  transDet : ∀ (s X s1 s2 : Nat), env.t.trans env.g s X s1 → env.t.trans env.g s X s2 → s1 = s2

theorem treeOk_yield_len {env : Env} {g : Gss} {t : Tree} {X i j : Nat} (h : TreeOk env g t X i j) :
    i + t.yield.length = j := by
  rw [← toksOf_kinds t, List.length_map]
  exact LeavesAt.length h.2

theorem NoDupG.edge_eq {env : Env} {g : Gss} (G : NoDupG env g) {e e' : Nat} {ed ed' : Edge} {hs hs' : Head}
    (he : g.edges[e]? = some ed) (he' : g.edges[e']? = some ed') (hdst : ed.dst = ed'.dst)
    (hhs : g.heads[ed.src]? = some hs) (hhs' : g.heads[ed'.src]? = some hs') (hl : hs.frontier = hs'.frontier)
    (hX : env.t.symAt hs.state = env.t.symAt hs'.state) : e = e' := by
  obtain ⟨_, hd, a1, a2, tr, _⟩ := (G.ginv.edges e ed he).ends
  obtain ⟨_, hd', b1, b2, tr', _⟩ := (G.ginv.edges e' ed' he').ends
  cases Option.mem_unique hhs a1
  cases Option.mem_unique hhs' b1
  rw [hdst] at a2
  cases Option.mem_unique a2 b2
  rw [hX] at tr
  exact G.edgeUniq e e' ed ed' he he' (G.hfun _ _ hs hs' hhs hhs' hl (G.transDet _ _ _ _ tr tr')) hdst

/-- two different possibilities of one edge never unfold to the same derivation (no induction: a terminal and a
    non-terminal differ at the root; two non-terminals of one production have children lists that differ at a first
    index `i`, and there the two parent links hang on the same head, carry the same symbol and, the components having
    the same yield, come from the same level: they would be one edge) -/
theorem U_cross {env : Env} {g : Gss} (G : NoDupG env g) (k : Nat) {e : Nat} {ed : Edge} {n n' : Nat}
    (he : g.edges[e]? = some ed) (hn : n ∈ ed.poss) (hn' : n' ∈ ed.poss) (hne : n ≠ n') {t t' : Tree}
    (ht : InU g k n t) (ht' : InU g k n' t') : ¬ Tree.SameDerivation t t' := by
  intro hsame
  cases k with
  | zero => cases ht
  | succ k =>
    obtain ⟨hs, hd, hhs, hhd, _, hposs⟩ := (G.ginv.edges e ed he).ends
    obtain ⟨nd, hnd, hfit⟩ := hposs n hn
    obtain ⟨nd', hnd', hfit'⟩ := hposs n' hn'
    cases nd with
    | term tk sp =>
      cases nd' with
      | term tk' sp' => exact hne (G.poss.termOne e ed n n' tk tk' sp sp' he hn hn' hnd hnd')
      | nonterm p' sp' l' C' =>
        cases (inU_term_iff hnd).mp ht
        obtain ⟨ts', _, rfl⟩ := (inU_nonterm_iff hnd').mp ht'
        exact not_sameDerivation_leaf_node hsame
    | nonterm p sp l C =>
      cases nd' with
      | term tk' sp' =>
        cases (inU_term_iff hnd').mp ht'
        obtain ⟨ts, _, rfl⟩ := (inU_nonterm_iff hnd).mp ht
        exact not_sameDerivation_leaf_node hsame.symm
      | nonterm p' sp' l' C' =>
        obtain ⟨ts, hts, rfl⟩ := (inU_nonterm_iff hnd).mp ht
        obtain ⟨ts', hts', rfl⟩ := (inU_nonterm_iff hnd').mp ht'
        obtain ⟨rfl, hco⟩ := sameDerivation_node hsame
        obtain ⟨i, x, y, hx, hy, hxy, htake⟩ :=
          first_diff C C' (G.poss.possDistinct e ed n n' p sp sp' l l' C C' he hn hn' hne hnd hnd')
        obtain ⟨pr, hpr, _, _, _, hch⟩ := hfit
        obtain ⟨pr', hpr', _, _, _, hch'⟩ := hfit'
        cases hpr.symm.trans hpr'
        obtain ⟨_, _, hcC, _⟩ := hch.toChain
        obtain ⟨_, _, hcC', _⟩ := hch'.toChain
        obtain ⟨w, ex, hsx, c1, k1, k2, k5, k3⟩ := hcC.link hx
        obtain ⟨w', ey, hsy, c2, m1, m2, m5, m3⟩ := hcC'.link hy
        have hdst : ex.dst = ey.dst := by rw [k5, m5]; exact ChainEnd.end_unique c1 (htake ▸ c2)
        -- the components of the two trees at `i`, each from a possibility of its parent link
        obtain ⟨a, ha, ma, hma, hain⟩ := hts.get_left i x hx
        obtain ⟨b, hb, mb, hmb, hbin⟩ := hts'.get_left i y hy
        rw [possOf_eq k1] at hma
        rw [possOf_eq m1] at hmb
        obtain ⟨_, hdx, q1, q2, _⟩ := (G.ginv.edges x ex k1).ends
        obtain ⟨_, hdy, r1, r2, _⟩ := (G.ginv.edges y ey m1).ends
        rw [hdst] at q2
        cases Option.mem_unique q2 r2
        -- both span from the level of that head and have the same yield: the source heads are on one level
        refine hxy (G.edge_eq k1 m1 hdst k2 m2 ?_ ?_)
        · rw [← treeOk_yield_len (unfold_ok G.ginv k x ex _ _ ma k1 hma k2 (hdst ▸ q2) _ hain),
            ← treeOk_yield_len (unfold_ok G.ginv k y ey _ _ mb m1 hmb m2 r2 _ hbin), (hco i a b ha hb).yield]
        · exact Option.some.inj ((getElem?_of_take k3).symm.trans (getElem?_of_take m3))

theorem poss_pairwise {env : Env} {g : Gss} (G : NoDupG env g) (k : Nat) {e : Nat} {ed : Edge}
    (he : g.edges[e]? = some ed) {ms : List Nat} (hsub : ∀ m ∈ ms, m ∈ ed.poss) (hnd : ms.Nodup)
    (hin : ∀ m ∈ ms, (U g k m).Pairwise (fun a b => ¬ Tree.SameDerivation a b)) :
    ((ms.map (U g k)).flatten).Pairwise (fun a b => ¬ Tree.SameDerivation a b) := by
  rw [List.pairwise_flatten, List.pairwise_map]
  refine ⟨fun l hl => ?_, hnd.imp_of_mem fun hm hm' hne x hx y hy =>
    U_cross G k he (hsub _ hm) (hsub _ hm') hne hx hy⟩
  obtain ⟨m, hm, rfl⟩ := List.mem_map.mp hl
  exact hin m hm

theorem U_nodup {env : Env} {g : Gss} (G : NoDupG env g) (k : Nat) : ∀ (e : Nat) (ed : Edge) (n : Nat),
    g.edges[e]? = some ed → n ∈ ed.poss → (U g k n).Pairwise (fun a b => ¬ Tree.SameDerivation a b) := by
  induction k with
  | zero => intro e ed n _ _; exact List.Pairwise.nil
  | succ k ih =>
    intro e ed n he hn
    obtain ⟨_, _, _, _, _, hposs⟩ := (G.ginv.edges e ed he).ends
    obtain ⟨nd, hnd, hfit⟩ := hposs n hn
    cases nd with
    | term tk sp => rw [U_term hnd]; exact List.pairwise_singleton _ _
    | nonterm p sp l C =>
      rw [U_nonterm hnd, List.pairwise_map]
      obtain ⟨pr, _, _, _, _, hch⟩ := hfit
      -- the alternatives of each parent link are pairwise different, so two members of the product differ in a component
      have hfac : ∀ l' ∈ C.map (UE g k), l'.Pairwise (fun a b => ¬ Tree.SameDerivation a b) := by
        intro l' hl'
        obtain ⟨e', he'C, rfl⟩ := List.mem_map.mp hl'
        obtain ⟨ed', k1⟩ := childrenOk_mem hch e' he'C
        rw [UE, possOf_eq k1]
        exact poss_pairwise G k k1 (fun _ h => h) (G.poss.possNodup e' ed' k1) fun m hm => ih e' ed' m k1 hm
      apply (prodL_pairwise _ hfac).imp
      rintro ts ts' ⟨i, a, b, h1, h2, h3⟩ hsame
      exact h3 ((sameDerivation_node hsame).2 i a b h1 h2)

structure RootsG (env : Env) (r : GlrResult) (N : Nat) : Prop where
  nodup : r.roots.Nodup
  edge : ∀ m ∈ r.roots, RootAt env r.gss N m

theorem RootsG.one_edge {env : Env} {r : GlrResult} {N : Nat} (G : NoDupG env r.gss) (R : RootsG env r N) {m0 : Nat}
    (hm0 : m0 ∈ r.roots) : ∃ (e : Nat) (ed : Edge), r.gss.edges[e]? = some ed ∧ ∀ m ∈ r.roots, m ∈ ed.poss := by
  obtain ⟨e, ed, hs, hd, hed, _, hhs, hhd, hl0, hs0, hlN, hsy⟩ := R.edge m0 hm0
  refine ⟨e, ed, hed, fun m hm => ?_⟩
  obtain ⟨e', ed', hs', hd', hed', hmem', hhs', hhd', hl0', hs0', hlN', hsy'⟩ := R.edge m hm
  cases G.edge_eq hed hed' (G.hfun _ _ hd hd' hhd hhd' (hl0.trans hl0'.symm) (hs0.trans hs0'.symm)) hhs hhs'
    (hlN.trans hlN'.symm) (hsy.trans hsy'.symm)
  cases Option.mem_unique hed hed'
  exact hmem'

theorem getTree_nodup {env : Env} {r : GlrResult} {N : Nat} (G : NoDupG env r.gss) (R : RootsG env r N)
    (hc : r.droots.hasCut = false) {i j : Nat} {ti tj : Tree} (hi : r.getTree i = some ti) (hj : r.getTree j = some tj)
    (hsame : Tree.SameDerivation ti tj) : i = j := by
  obtain ⟨m0, hm0, _⟩ := getTree_inU hi
  obtain ⟨e, ed, hed, hsub⟩ := R.one_edge G hm0
  have hwf := DNList.wfd_of r.droots hc (droots_NE G.ginv fun m hm => ⟨e, ed, hed, hsub m hm⟩)
  have hall : r.droots.all.Pairwise (fun a b => ¬ Tree.SameDerivation a b) := by
    rw [GlrResult.droots, all_listToDN, List.map_map]
    exact poss_pairwise G _ hed hsub R.nodup fun m hm => U_nodup G _ e ed m hed (hsub m hm)
  have hlen : ∀ {k : Nat} {t : Tree}, r.getTree k = some t → ∃ hk : k < r.droots.all.length, r.droots.all[k] = t := by
    intro k t hk
    rw [GlrResult.getTree, DNList.get_eq _ k hwf] at hk
    exact List.getElem?_eq_some_iff.mp hk
  obtain ⟨hi1, rfl⟩ := hlen hi
  obtain ⟨hj1, rfl⟩ := hlen hj
  rw [List.pairwise_iff_getElem] at hall
  rcases Nat.lt_trichotomy i j with h | h | h
  · exact absurd hsame (hall i j hi1 hj1 h)
  · exact h
  · exact absurd hsame.symm (hall j i hj1 hi1 h)

/- `PossFacts` is decidable on a result graph: `possFactsB` (evaluated per input by the driver) is sound for it -/

theorem possFactsB_sound (g : Gss) (h : possFactsB g = true) : PossFacts g := by
  unfold possFactsB at h
  simp only [List.all_eq_true, Bool.and_eq_true, Bool.or_eq_true, beq_iff_eq, decide_eq_true_eq] at h
  have hed : ∀ (e : Nat) (ed : Edge), g.edges[e]? = some ed → ed ∈ g.edges.toList :=
    fun e ed he => Array.mem_toList_iff.mpr (Array.mem_of_getElem? he)
  refine ⟨fun e ed he => (h ed (hed e ed he)).1, ?_, ?_⟩
  · intro e ed n n' tk tk' sp sp' he hn hn' hnd hnd'
    rcases (h ed (hed e ed he)).2 n hn n' hn' with heq | hm
    · exact heq
    · rw [hnd, hnd'] at hm
      cases hm
  · intro e ed n n' p sp sp' l l' C C' he hn hn' hne hnd hnd' hcmp
    rcases (h ed (hed e ed he)).2 n hn n' hn' with heq | hm
    · exact hne heq
    · rw [hnd, hnd'] at hm
      simp [(zipEq_iff C C').mpr hcmp] at hm

/-- for the non-vacuity examples: the hypotheses of `parse_nodup` that are not established by the run invariant -/
def nodupHypsB (o : Outcome GlrResult) : Bool :=
  match o with
  | .ok r => possFactsB r.gss && decide r.roots.Nodup && !r.droots.hasCut
  | _ => false

end Rustemo.Glr
