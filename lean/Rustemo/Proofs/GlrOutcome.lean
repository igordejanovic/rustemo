import Rustemo.Proofs.GlrRunLoop
import Rustemo.Proofs.GlrPush
import Rustemo.Proofs.GlrSound
import Rustemo.Proofs.GlrNoDup
import Rustemo.Proofs.Viable
/-!
What a finished run gives under `LexDet`, read off the state `Final` in which the main loop ends: every derivation of a
sentence is among the roots (`accept_of_allDone`), every tree spells the whole token string, different indices give
different derivations if the possibility lists are duplicate free, and an error sits at the first offending token (no late
error by `JInv.stack`, no early error by `head_of_viable`).
-/

namespace Rustemo.Glr
open Rustemo.Props.C07

variable {env : Env} {pp : Bool} {fuel n : Nat} {tok : Nat → Tok} {P L : Nat → Pos}

def Good (full : Tree) (o : Outcome GlrResult) : Prop :=
  match o with
  | .ok r => ∃ (m k : Nat) (tr : Tree), m ∈ r.roots ∧ InU r.gss k m tr ∧ Tree.EqElide full tr
  | .err _ => False
  | _ => True

theorem RunInv.allDone (hK : CertOk env) {k : Nat} {st : St} {base : List Nat} {subs : Nat → SubFrontier}
    (RI : RunInv env tok P L (k + 1) st base subs) : AllDone env st.gss tok k subs :=
  ⟨hK.table, hK.complete, hK.gwf, RI.sok.g, fun j hj => RI.done j (Nat.lt_succ_of_le hj)⟩

/-- **no early stop**: a run whose last level is `k + 1`, without a head there, has not read a viable `tok k` — a
    sentence that begins with `tok 0 … tok k` would have had that token shifted (`head_of_viable`) -/
theorem RunInv.no_early_stop (hK : CertOk env) {k : Nat} {st : St}
    {subs : Nat → SubFrontier} (RI : RunInv env tok P L (k + 1) st [] subs) {T : Tree}
    (hv : T.Valid env.g env.g.startIdx) {rest : List Nat} (hy : T.yield = kindsOf tok 0 k ++ (tok k).kind :: rest) :
    False := by
  have halive0 : env.t.cell 0 (tok 0).kind ≠ [] :=
    start_alive hK.complete hK.gwf hv (by rw [hy, List.append_assoc]; exact kindsOf_head_append (Nat.zero_le _) _)
  obtain ⟨v, hv', hhv, hvf⟩ := head_of_viable (RI.allDone hK)
    (RI.start0 halive0).2 T hv rest hy
  cases RI.lb.all v hv' hhv hvf

theorem final_complete (hK : CertOk env)
    (hL : LexDet env pp fuel n tok P L)
    (full : Tree) (hv : full.Valid env.g env.g.startIdx) (hy : full.yield = kinds n tok)
    {o : Outcome GlrResult} (hfin : Final env n tok P L o) : Good full o := by
  rw [kinds_eq] at hy
  obtain ⟨F, st, lastBase, subs, RI, hF, ⟨hne, hall⟩, ho⟩ := hfin
  have halive0 : env.t.cell 0 (tok 0).kind ≠ [] :=
    start_alive hK.complete hK.gwf hv (by rw [hy]; exact kindsOf_head (Nat.zero_le n) 0 hL.stop.symm)
  obtain ⟨b, hb⟩ := List.exists_mem_of_ne_nil _ hne
  obtain ⟨hd, _, rfl⟩ := hall b hb
  -- the run did not stop before the last token: all levels `≤ n` are done
  have hFn : hd.frontier = n := by
    refine Nat.le_antisymm (Nat.le_of_succ_le_succ hF) (Nat.not_lt.mp fun hlt => ?_)
    exact RI.no_early_stop hK hv
      (by rw [hy, kindsOf_append tok (Nat.zero_le _) (Nat.le_of_lt hlt), kindsOf_cons tok hlt])
  rw [hFn] at RI
  obtain ⟨s', v, e, ed, m, k, tr, hin, hacc, he, hsrc, _, hm, hinu, heq⟩ :=
    accept_of_allDone (RI.allDone hK) (RI.start0 halive0).2
      hL.stop full hv hy
  have hvacc : v ∈ st.accepted := RI.acc n (Nat.lt_succ_self n) s' v hin (by rw [hL.stop]; exact hacc)
  have hne : st.accepted.isEmpty = false := by
    cases hx : st.accepted with
    | nil => rw [hx] at hvacc; simp at hvacc
    | cons _ _ => rfl
  rw [ho]
  simp only [hne, Bool.not_false, ↓reduceIte, Good]
  exact ⟨m, k, tr, mem_forestRoots.mpr ⟨_, hvacc, _, _, he, hsrc, hm⟩, hinu, heq⟩

theorem parse_complete_roots (hK : CertOk env)
    (hL : LexDet env pp fuel n tok P L) (full : Tree) (hv : full.Valid env.g env.g.startIdx)
    (hy : full.yield = kinds n tok) : Good full (parse env pp fuel) := by
  rcases parse_final hK hL with h | ⟨s, h⟩ | h
  · rw [h]; simp [Good]
  · rw [h]; simp [Good]
  · exact final_complete hK hL full hv hy h

theorem leaves_kinds {g : Gss} (hg : GInv env g)
    (hsym : ∀ (h : Nat) (hd : Head) (k : Nat), g.heads[h]? = some hd → hd.frontier = k + 1 →
      env.t.symAt hd.state < env.g.nterms → env.t.symAt hd.state = (tok k).kind) :
    ∀ (toks : List Tok) (i j : Nat), LeavesAt g toks i j → toks.map (·.kind) = kindsOf tok i j := by
  intro toks
  induction toks with
  | nil =>
    intro i j h
    cases (h : i = j)
    exact (kindsOf_self tok i).symm
  | cons tk rest ih =>
    intro i j h
    obtain ⟨⟨e, ed, hd, n, sp, he, hhd, hl, hn, hnd⟩, hr⟩ := h
    have hij : i < j := Nat.lt_of_lt_of_le (Nat.lt_succ_self i) (LeavesAt.length hr ▸ Nat.le_add_right _ _)
    rw [kindsOf_cons tok hij, List.map_cons, ih (i + 1) j hr]
    congr 1
    obtain ⟨hs', hd', hhs', hhd', _, hposs⟩ := (hg.edges e ed he).ends
    obtain ⟨nd, hnd', hfit⟩ := hposs n hn
    cases hnd.symm.trans hnd'
    obtain ⟨hk, hterm, hd'', hhd'', hlv⟩ := hfit
    cases hhd.symm.trans hhd''
    rw [hk]
    exact hsym _ hs' i hhs' (hl ▸ hlv.symm) hterm

/-- an accepting head is below `F`, so its lookahead is the token of its level, and only `tok n` is STOP -/
theorem RunInv.accept_level (hC : CompleteRN env.g env.t)
    (hL : LexDet env pp fuel n tok P L) {F : Nat} {st : St} {subs : Nat → SubFrontier}
    (RI : RunInv env tok P L F st [] subs) (hF : F ≤ n + 1) {v : Nat} {hda : Head} {tka : Tok}
    (hhda : st.gss.heads[v]? = some hda) (htka : hda.tok = some tka)
    (hact : Action.accept ∈ env.t.cell hda.state tka.kind) : hda.frontier = n := by
  have hk0 : tka.kind = 0 := hC.acceptStop _ _ hact
  have hlt : hda.frontier < F := by
    rcases Nat.lt_or_ge hda.frontier F with hlt | hge
    · exact hlt
    · have := RI.gu.noAbove v hda hhda
      exact nomatch RI.lb.all v hda hhda (by omega)
  have htk := (RI.below v hda hhda hlt).tok tka htka
  rcases Nat.lt_or_ge hda.frontier n with h1 | h1
  · have := (hL.terms hda.frontier h1).1
    rw [← htk, hk0] at this
    omega
  · omega

theorem RunInv.root_edge (hK : CertOk env) (hL : LexDet env pp fuel n tok P L)
    {F : Nat} {st : St} {subs : Nat → SubFrontier} (RI : RunInv env tok P L F st [] subs) (hF : F ≤ n + 1) {m : Nat}
    (hm : m ∈ forestRoots st.gss st.accepted) : RootAt env st.gss n m := by
  obtain ⟨v, hv, hs, hhs, hr⟩ := forestRoots_rootAt hK.table RI.sok.g RI.sok.acc m hm
  obtain ⟨hda, tka, hhda, htka, hact⟩ := RI.sok.acc v hv
  cases hhs.symm.trans hhda
  exact RI.accept_level hK.complete hL hF hhda htka hact ▸ hr

theorem parse_trees (hK : CertOk env)
    (hL : LexDet env pp fuel n tok P L)
    {r : GlrResult} (ho : parse env pp fuel = .ok r) {i : Nat} {tr : Tree} (h : r.getTree i = some tr) :
    tr.ValidElided env.g env.g.startIdx ∧ tr.yield = kinds n tok := by
  obtain ⟨F, st, subs, RI, hF, _, rfl⟩ := parse_ok_final hK hL ho
  obtain ⟨m, hm, hin⟩ := getTree_inU h
  obtain ⟨hval, hleaves⟩ := (RI.root_edge hK hL hF hm).treeOk RI.sok.g hin
  exact ⟨hval, by rw [kinds_eq, ← toksOf_kinds tr]; exact leaves_kinds RI.sok.g (RI.jinv.hsym hK.gwf) _ 0 n hleaves⟩

theorem parse_nodup (hK : CertOk env) (hL : LexDet env pp fuel n tok P L)
    {r : GlrResult} (ho : parse env pp fuel = .ok r) (hp : PossFacts r.gss) (hroots : r.roots.Nodup)
    (hc : r.droots.hasCut = false) {i j : Nat} {ti tj : Tree} (hi : r.getTree i = some ti) (hj : r.getTree j = some tj)
    (hsame : Tree.SameDerivation ti tj) : i = j := by
  obtain ⟨F, st, subs, RI, hF, _, rfl⟩ := parse_ok_final hK hL ho
  have G : NoDupG env st.gss := ⟨RI.sok.g, RI.gu.edgeUniq, RI.hfun, hp, fun _ _ _ _ h1 h2 => hK.complete.trans_det h1 h2⟩
  exact getTree_nodup G ⟨hroots, fun _ hm => RI.root_edge hK hL hF hm⟩ hc hi hj hsame

/-- `k + 1` is the number of levels the run created: `make_error` takes the position of a head of the last non-empty
    base (`LastAt`), and a head of a finished level `k` sits at `L k` (`RunInv.below`) -/
theorem parse_err_spec (hK : CertOk env) (hL : LexDet env pp fuel n tok P L)
    {e : PErr} (he : parse env pp fuel = .err e) :
    ∃ (k : Nat) (ks : List Nat), k ≤ n ∧ e = .expected (L k) ks ∧ ks ≠ [] ∧
      (ViableOk env.g env.t → ViablePrefix env.g (kinds k tok)) ∧
      (k < n → ¬ ViablePrefix env.g (kinds (k + 1) tok)) ∧ ¬ Sentence env.g (kinds n tok) := by
  have hfin := parse_err_final hK hL he
  -- a sentence is accepted (`Good T (.err e)` is `False`)
  have hsent : ¬ Sentence env.g (kinds n tok) := fun ⟨T, hv, hy⟩ => final_complete hK hL T hv hy hfin
  obtain ⟨F, st, lastBase, subs, RI, hF, ⟨hne, hall⟩, ho⟩ := hfin
  split at ho
  · cases ho
  obtain ⟨b, hb, hd, ks, hhd, hks, hme⟩ := makeError_eq hK.table RI.sok.g hne fun h hh => (hall h hh).imp fun _ k => k.1
  rw [hme] at ho
  cases ho
  obtain ⟨hd', hhd', hfr⟩ := hall b hb
  obtain rfl := Option.mem_unique hhd hhd'
  subst hfr
  refine ⟨hd.frontier, ks, Nat.le_of_succ_le_succ hF, by rw [(RI.below b hd hhd (Nat.lt_succ_self _)).pos], hks,
    fun hV => ?_, ?_, hsent⟩
  · -- no late error: the head has an LR stack spelling the tokens below it
    obtain ⟨stk, hp, _, hy⟩ := RI.jinv.stack RI.sok.g hhd
    rw [kinds_eq, ← hy]
    exact pathInv_viable hK.table.s hV hK.gwf stk hp
  · -- no early error: a viable token would have been shifted
    intro hkn ⟨rest2, T, hv, hy⟩
    rw [kinds_eq, kindsOf_snoc, List.append_assoc] at hy
    exact RI.no_early_stop hK hv hy

theorem parse_ok_spec (hK : CertOk env) (hL : LexDet env pp fuel n tok P L)
    {r : GlrResult} (hr : parse env pp fuel = .ok r) : Sentence env.g (kinds n tok) ∧ r.roots ≠ [] := by
  obtain ⟨F, st, subs, RI, hF, hacc, rfl⟩ := parse_ok_final hK hL hr
  have hJ := RI.jinv
  cases hal : st.accepted with
  | nil => exact absurd hal hacc
  | cons v rest =>
    have hv : v ∈ st.accepted := by rw [hal]; exact List.mem_cons_self
    have hg := RI.sok.g
    obtain ⟨hda, tka, hhda, htka, hact⟩ := RI.sok.acc v hv
    have hlv : hda.frontier = n := RI.accept_level hK.complete hL hF hhda htka hact
    have hconn := hJ.conn v hda hhda
    obtain ⟨stk, hp, htop, hy⟩ := hJ.stack hg hhda
    constructor
    · rw [kinds_eq, ← hlv, ← hy]
      exact pathInv_sentence hK.table.s stk hp (x := tka.kind) (by rw [htop]; exact hact)
    · -- the accepting head is not the start head, so it has an edge, which has a possibility
      rcases hconn.edge with h0 | ⟨e, ed, hed, hsrc⟩
      · exfalso
        subst h0
        obtain ⟨hd0, k1, k2, _⟩ := hJ.h0
        obtain rfl := Option.some.inj (hhda.symm.trans k1)
        exact hK.table.s.accept_ne_start (mem_autosOf_main _ _) (k2 ▸ hact)
      · have hpne := (hg.edges e ed hed).poss_ne (by simp)
        cases hps : ed.poss with
        | nil => exact absurd hps hpne
        | cons m ms =>
          have := (mem_forestRoots (g := st.gss) (m := m)).mpr ⟨v, hv, e, ed, hed, hsrc, by rw [hps]; simp⟩
          intro hnil
          simp only at hnil
          rw [hal, hnil] at this
          cases this

end Rustemo.Glr
