import Rustemo.Proofs.GlrBasic
import Rustemo.Proofs.NoPanic
import Rustemo.Proofs.StringLexer
/-!
`find_lookaheads` only moves positions forward.  Needed for one panic site only: `create_frontier` slices the input from
the head position to the start of the first lookahead token when that start lies *after* the position
(parser.rs:288-293).  It never does: tokens of the lexers start at the position, and the partial-parse STOP token carries
the span of the head, which never starts after the head's position (`findLookaheadsCtx_sat`).
`findLookaheads_noLayout`: without layout state and custom recognizer `find_lookaheads` is the string lexer at the position
behind the whitespace (for the lexer hypothesis `LexDet`, GlrLexDet).
-/

namespace Rustemo.Glr

variable {A E : Prop}

/-- `a ≤ b` in the derived order of `Position` -/
def posLe (a b : Pos) : Prop := posLt b a = false

theorem posLe_refl (a : Pos) : posLe a a := by simp [posLe, posLt]

/-- bytes leave the position alone or raise the byte offset, the first component of the order -/
theorem posLe.after {a b c : Pos} (h : posLe a b) : b.After c → posLe a c
  | ⟨[], e⟩ => by rw [e, posAfter_nil]; exact h
  | ⟨x :: bs, e⟩ => by
    unfold posLe posLt at h ⊢
    have hab : a.pos ≤ b.pos := Nat.not_lt.mp (of_decide_eq_false (Bool.or_eq_false_iff.mp h).1)
    have hac : a.pos < c.pos := by
      rw [e]; exact Nat.lt_of_le_of_lt hab (Nat.lt_add_of_pos_right (n := b.pos) (Nat.succ_pos bs.length))
    rw [decide_eq_false (Nat.lt_asymm hac), beq_false_of_ne (Nat.ne_of_gt hac)]; rfl

theorem tokenIterAux_span (env : Env) (pos : Pos) (l : List (Nat × Bool)) (m : Bool) (tk : Tok)
    (h : tk ∈ tokenIterAux env pos m l) : tk.span.s = pos := by
  obtain ⟨_, _, _, rfl⟩ := tokenIterAux_mem env pos l m tk h
  rfl

theorem customTokens_span (env : Env) (mode seed : Nat) (pos : Pos) :
    ∀ tk ∈ customTokens env mode seed pos, tk.span.s = pos := by
  intro tk h
  unfold customTokens at h
  split at h
  · simp only [List.mem_singleton] at h; subst h; rfl
  · split at h
    · split at h
      · simp only [List.mem_singleton] at h; subst h; rfl
      · simp at h
    · simp only [List.mem_singleton] at h; subst h; rfl

/-- `toks`: a token starts at the new position, or is the STOP token, which carries the span of the head -/
structure LookOk (A E : Prop) (ctx : Ctx) (r : Ctx × Outcome (List Tok)) : Prop where
  state : r.1.state = ctx.state
  span : r.1.span = ctx.span
  pos : ctx.pos.After r.1.pos
  toks : SatE A E (fun toks => ∀ tk ∈ toks, tk.span.s = r.1.pos ∨ tk.span = r.1.span) r.2

theorem lexNext_look (env : Env) (ctx : Ctx) (exp : List (Nat × Bool)) :
    LookOk A E ctx ((lexNext env ctx exp).1, .ok (lexNext env ctx exp).2) := by
  obtain ⟨hs, hsp, hp⟩ := lexNext_fwd env ctx exp
  refine ⟨hs, hsp, hp, fun tk h => Or.inl ?_⟩
  revert tk
  unfold lexNext
  split
  · exact customTokens_span env _ _ _
  · simp only
    split <;> exact tokenIterAux_span env _ _ _

theorem keepToks_sub (l g : Bool) (toks : List Tok) : ∀ tk ∈ keepToks l g toks, tk ∈ toks := by
  intro tk h
  unfold keepToks at h
  simp only at h
  split at h
  · have := List.mem_of_mem_take h
    split at this
    · exact (List.mem_filter.mp this).1
    · exact this
  · split at h
    · exact (List.mem_filter.mp h).1
    · exact h

theorem stopOrNone_span (pp : Bool) (exp : List (Nat × Bool)) (ctx : Ctx) :
    ∀ tk ∈ stopOrNone pp exp ctx, tk.span = ctx.span := by
  intro tk h
  unfold stopOrNone at h
  split at h
  · simp only [List.mem_singleton] at h; subst h; rfl
  · simp at h

section

variable {ctx c : Ctx} {toks toks' : List Tok}

theorem LookOk.sub (h : LookOk A E ctx (c, .ok toks)) (hs : ∀ tk ∈ toks', tk ∈ toks) : LookOk A E ctx (c, .ok toks') :=
  ⟨h.state, h.span, h.pos, fun tk htk => h.toks tk (hs tk htk)⟩

theorem LookOk.stop {o : Outcome (List Tok)} (h : LookOk A E ctx (c, o)) (pp : Bool) (exp : List (Nat × Bool)) :
    LookOk A E ctx (c, .ok (stopOrNone pp exp c)) :=
  ⟨h.state, h.span, h.pos, fun tk htk => Or.inr (stopOrNone_span _ _ _ tk htk)⟩

end

theorem lexKeep_look (env : Env) (pp : Bool) (exp : List (Nat × Bool)) (ctx : Ctx) :
    LookOk A E ctx ((lexKeep env pp exp ctx).1, .ok (lexKeep env pp exp ctx).2) := by
  have h := lexNext_look (A := A) (E := E) env ctx exp
  unfold lexKeep
  simp only
  split
  · exact h.stop pp exp
  · exact h.sub (keepToks_sub _ _ _)

theorem afterLayout_look (env : Env) (pp : Bool) (exp : List (Nat × Bool)) {ctx cy : Ctx} {cur : Pos}
    (h1 : cy.state = ctx.state) (h2 : cy.span = ctx.span) (h3 : ctx.pos.After cy.pos) (h4 : ctx.pos.After cur)
    {r : Outcome ParseResult} (hsafe : ¬ A → NotPanic r) : LookOk A E ctx (afterLayout env pp exp cur cy r) := by
  have hstop : LookOk A E ctx ({ cy with pos := cur }, Outcome.ok (stopOrNone pp exp { cy with pos := cur })) :=
    ⟨h1, h2, h4, fun tk htk => Or.inr (stopOrNone_span _ _ _ tk htk)⟩
  unfold afterLayout
  split
  · split
    · split
      · rename_i off len _ _
        have k := lexKeep_look (A := A) (E := E) env pp exp { cy with lay := some (off, len) }
        exact ⟨k.state.trans h1, k.span.trans h2, h3.trans k.pos, k.toks⟩
      · exact hstop
    · exact hstop
  · exact hstop
  · -- the layout parser panicked: allowed when `A` holds, excluded by `hsafe` otherwise; so the one walk serves
    -- soundness (`A := True`, nothing asked) and "no panic" (`A := False`, `LayoutSafe env` asked)
    exact ⟨h1, h2, h3, show A from Classical.byContradiction fun hA => hsafe hA⟩
  · exact ⟨h1, h2, h3, trivial⟩

theorem findLookaheadsCtx_sat (env : Env) (hl : ¬ A → LayoutSafe env) (pp : Bool) (fuel : Nat) (ctx : Ctx) :
    LookOk A E ctx (findLookaheadsCtx env pp fuel ctx) := by
  have h := lexNext_look (A := A) (E := E) env ctx (env.t.sorted ctx.state)
  unfold findLookaheadsCtx
  dsimp only
  split
  · exact h.sub (keepToks_sub _ _ _)
  · split
    · exact h.stop pp _
    · rename_i ls hls
      exact afterLayout_look env pp _ (cy := { (layoutParse env ls _ fuel).1 with state := _, span := _ }) h.state h.span
        (Pos.After.trans (q := (lexNext env ctx (env.t.sorted ctx.state)).1.pos) h.pos (layoutParse_after env ls _ fuel)) h.pos
        fun hA => hl hA ls hls _ fuel

theorem keepToks_nil (longest go : Bool) : keepToks longest go [] = [] := by
  cases longest <;> cases go <;> rfl

theorem findLookaheads_noLayout (env : Env) (hl : env.t.layoutState = none) (hcu : env.custom = none) (fuel : Nat)
    (ctx : Ctx) :
    (findLookaheadsCtx env false fuel ctx).1.pos = lexPos env ctx.pos ∧
    (findLookaheadsCtx env false fuel ctx).2 =
      .ok (keepToks env.longest env.grammarOrder (tokenIter env (lexPos env ctx.pos) (env.t.sorted ctx.state))) := by
  unfold findLookaheadsCtx
  simp only [lexNext_string env hcu, hl]
  cases tokenIter env (lexPos env ctx.pos) (env.t.sorted ctx.state) with
  | nil => exact ⟨rfl, by rw [keepToks_nil]; rfl⟩
  | cons x rest => exact ⟨rfl, rfl⟩

end Rustemo.Glr
