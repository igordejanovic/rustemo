import Rustemo.Proofs.GlrLevelDone
import Rustemo.Proofs.GlrDerivable
import Rustemo.Proofs.GlrInForest
import Rustemo.Proofs.GlrCompleteDefs
/-!
The forward induction of `push_tree` / `push_list` (CoreComplete), over a graph whose levels are done instead of along a run:
a leaf arrives because the shift was performed, a node because the chain of its children is covered, the level being closed.
`push_spine`: the same along the SPINE of a derivation tree of a sentence that EXTENDS `tok 0 … tok k`: only the levels `≤ k`
have to be done, so a viable token is shifted.
-/

namespace Rustemo.Glr
open Rustemo.Front

/-- the children `cs` (deriving `Xs`) pushed along the chain `P` from `u` to `v`, each on its parent link with a
    tree equal modulo elision; whenever the chain has reached the last level `j`, what remains has an empty yield
    (where a right-nulled reduction cuts the chain, `Pushed.cut` makes the nullable tail of that) -/
def Pushed (env : Env) (g : Gss) (j : Nat) : TreeList → List Nat → Nat → List Nat → List Tree → Nat → Prop
  | .nil, Xs, u, P, trs, v => Xs = [] ∧ P = [] ∧ trs = [] ∧ u = v
  | .cons c cs, Xs, u, P, trs, v =>
    ∃ (X : Nat) (Xs' : List Nat) (e : Nat) (P' : List Nat) (tr : Tree) (trs' : List Tree) (ed : Edge) (hs : Head)
      (m k : Nat), Xs = X :: Xs' ∧ P = e :: P' ∧ trs = tr :: trs' ∧ g.edges[e]? = some ed ∧
      g.heads[ed.src]? = some hs ∧ ed.dst = u ∧ env.t.symAt hs.state = X ∧ m ∈ ed.poss ∧ InU g k m tr ∧
      Tree.EqElide c tr ∧ (hs.frontier = j → cs.yield = []) ∧ Pushed env g j cs Xs' ed.src P' trs' v

theorem Pushed.chain {env : Env} {g : Gss} {j : Nat} : ∀ {cs : TreeList} {Xs : List Nat} {u : Nat} {P : List Nat}
    {trs : List Tree} {v : Nat}, Pushed env g j cs Xs u P trs v → ChainEnd env.t g P Xs u v
  | .nil => by
    intro h
    obtain ⟨h1, h2, _, h4⟩ := h
    rw [h1, h2]; exact ⟨rfl, h4⟩
  | .cons c cs => by
    intro h
    obtain ⟨X, Xs', e, P', tr, trs', ed, hs, m, k, h1, h2, _, h4, h5, h6, h7, _, _, _, _, hr⟩ := h
    rw [h1, h2]
    exact ⟨ed, hs, X, Xs', h4, h5, rfl, h6, h7, Pushed.chain hr⟩

theorem Pushed.lengths {env : Env} {g : Gss} {j : Nat} : ∀ {cs : TreeList} {Xs : List Nat} {u : Nat} {P : List Nat}
    {trs : List Tree} {v : Nat}, Pushed env g j cs Xs u P trs v → P.length = Xs.length ∧ trs.length = Xs.length
  | .nil => by
    intro h
    obtain ⟨h1, h2, h3, _⟩ := h
    rw [h1, h2, h3]; simp
  | .cons c cs => by
    intro h
    obtain ⟨X, Xs', e, P', tr, trs', ed, hs, m, k, h1, h2, h3, _, _, _, _, _, _, _, _, hr⟩ := h
    have := Pushed.lengths hr
    rw [h1, h2, h3]; simp [this.1, this.2]

theorem Pushed.cut {env : Env} {g : Gss} {j : Nat} : ∀ {cs : TreeList} {Xs : List Nat} {u : Nat} {P : List Nat}
    {trs : List Tree} {v : Nat}, Pushed env g j cs Xs u P trs v → cs.Valid env.g Xs →
      (∀ hu : Head, g.heads[u]? = some hu → hu.frontier = j → cs.yield = []) →
      ∀ (c : Nat) (w : Nat) (hw : Head) (Ys : List Nat), c ≤ P.length → ChainEnd env.t g (P.take c) Ys u w →
      g.heads[w]? = some hw → hw.frontier = j →
      TreeList.EqElide cs (TreeList.ofList (trs.take c)) ∧
      All2 (fun e t => ∃ m ∈ possOf g e, ∃ k, InU g k m t) (P.take c) (trs.take c) ∧
      ∀ Y ∈ Xs.drop c, Nullable env.g Y
  | .nil => by
    intro h _ _ c w hw Ys _ _ _ _
    obtain ⟨h1, h2, h3, _⟩ := h
    rw [h1, h2, h3, List.take_nil, List.take_nil, List.drop_nil]
    exact ⟨rfl, .nil, fun _ h => nomatch h⟩
  | .cons c0 cs => by
    intro h hv h0 c w hw Ys hc hch hhw hF
    obtain ⟨X, Xs', e, P', tr, trs', ed, hs, m, k, h1, h2, h3, h4, h5, h6, h7, h8, h9, h10, h11, hr⟩ := h
    subst h1 h2 h3
    cases c with
    | zero =>
      -- the chain is empty: `w` is the root
      have hy := h0 hw (hch.2 ▸ hhw) hF
      refine ⟨?_, .nil, valid_yield_nullable _ _ hv hy⟩
      simp only [TreeList.yield] at hy
      exact Or.inl ⟨hy, rfl⟩
    | succ c' =>
      obtain ⟨X', Xs'', hx, _, hvcs⟩ := hv
      injection hx with _ hx2; subst hx2
      simp only [List.take_succ_cons, List.drop_succ_cons, TreeList.ofList] at hch ⊢
      obtain ⟨ed', hs', _, Ys', he', hhs', _, _, _, hrest⟩ := hch
      obtain rfl := Option.mem_unique h4 he'
      obtain rfl := Option.mem_unique h5 hhs'
      obtain ⟨r1, r2, r3⟩ := Pushed.cut hr hvcs
        (fun hu hhu hFu => h11 (by rw [h5] at hhu; injection hhu with hhu; rw [hhu]; exact hFu))
        c' w hw Ys' (Nat.le_of_succ_le_succ hc) hrest hhw hF
      exact ⟨Or.inr ⟨h10, r1⟩, .cons ⟨m, by rw [possOf_eq h4]; exact h8, k, h9⟩ r2, r3⟩

theorem all2_uniform {g : Gss} {es : List Nat} {ts : List Tree}
    (h : All2 (fun e t => ∃ m ∈ possOf g e, ∃ k, InU g k m t) es ts) :
    ∃ K, All2 (fun e t => ∃ m ∈ possOf g e, InU g K m t) es ts := by
  induction h with
  | nil => exact ⟨0, .nil⟩
  | cons h1 _ ih =>
    obtain ⟨m, hm, k, hk⟩ := h1
    obtain ⟨K, hK⟩ := ih
    exact ⟨max k K, .cons ⟨m, hm, inU_mono_le (Nat.le_max_left _ _) hk⟩
      (hK.imp fun e' t' ⟨m', hm', h'⟩ => ⟨m', hm', inU_mono_le (Nat.le_max_right _ _) h'⟩)⟩

structure AllDone (env : Env) (g : Gss) (tok : Nat → Tok) (n : Nat) (subs : Nat → SubFrontier) : Prop where
  hT : TableOk env
  hC : CompleteRN env.g env.t
  hW : GWF env.g
  hg : GInv env g
  done : ∀ k, k ≤ n → LevelDone env g tok k (subs k)

/-- the entry `(s, u)` of a level holds the item `q : … • X …` with lookahead `b`, and `a` can follow `X` there -/
structure ItemAt (env : Env) (sub : SubFrontier) (s u q d b : Nat) (pr : Prod) (X a : Nat) : Prop where
  mem : (s, u) ∈ sub
  item : env.t.hasItemLA s q d b
  hpr : env.g.prods[q]? = some pr
  hX : pr.rhs[d]? = some X
  first : FirstOf env.g (pr.rhs.drop (d+1)) b a
  aug : env.g.isAug q = true → b = 0 ∧ d + 1 = pr.rhs.length

theorem ItemAt.goto {env : Env} (hC : CompleteRN env.g env.t) (hW : GWF env.g) {sub : SubFrontier} {s u q d b : Nat} {pr : Prod}
    {X a : Nat} (I : ItemAt env sub s u q d b pr X a) :
    ∃ s', env.t.trans env.g s X s' ∧ env.t.hasItemLA s' q (d+1) b ∧ env.t.cell s' a ≠ [] :=
  let ⟨s', htr, hi'⟩ := hC.trans _ q d b pr _ I.item I.hpr I.hX
  ⟨s', htr, hi', live_of_first hC hW hi' I.hpr I.first I.aug⟩

/-- the tree `T` for `X` has arrived from the entry `(s, u)`: the goto state has an entry `(s', v)` in `sub` that holds the
    item advanced over `X`, and a possibility of the parent link `v → u` unfolds to `T` modulo elision -/
def Arrives (env : Env) (g : Gss) (sub : SubFrontier) (s u X q d b : Nat) (T : Tree) : Prop :=
  ∃ (s' v e : Nat) (ed : Edge) (m k : Nat) (tr : Tree), env.t.trans env.g s X s' ∧ (s', v) ∈ sub ∧
    env.t.hasItemLA s' q (d+1) b ∧ g.edges[e]? = some ed ∧ ed.src = v ∧ ed.dst = u ∧ m ∈ ed.poss ∧
    InU g k m tr ∧ Tree.EqElide T tr

theorem push_leaf {env : Env} {g : Gss} {tok : Nat → Tok} {n : Nat} {subs : Nat → SubFrontier}
    (A : AllDone env g tok n subs) {i : Nat} (hin : i + 1 ≤ n) (sp : Span) (val : Slice) (l : Option Slice)
    {s u q d b : Nat} {pr : Prod} (I : ItemAt env (subs i) s u q d b pr (tok i).kind (tok (i+1)).kind)
    (hterm : (tok i).kind < env.g.nterms) :
    Arrives env g (subs (i+1)) s u (tok i).kind q d b (.leaf (tok i).kind sp val l) := by
  obtain ⟨s', htr, hi', hlive⟩ := I.goto A.hC A.hW
  have hsh : Action.shift s' ∈ env.t.cell s (tok i).kind := (Table.trans_term hterm).mp htr
  obtain ⟨v, hv, e, ed, nn, spn, k1, k2, k3, k4, k5, k6, k7, k8⟩ :=
    (A.done i (Nat.le_of_succ_le hin)).shifted s u s' I.mem hsh
  have hin := (A.done (i+1) hin).alive v hv k1 k3 (by rw [k2]; exact hlive)
  rw [k2] at hin
  refine ⟨s', v, e, ed, nn, 1, .leaf (tok i).kind (tok i).span (tok i).val none, htr, hin, hi', k4, k5, k6, k7,
    (inU_term_iff k8).mpr rfl, ?_⟩
  simp [Tree.EqElide]

theorem push_node {env : Env} {g : Gss} {tok : Nat → Tok} {n : Nat} {subs : Nat → SubFrontier}
    (A : AllDone env g tok n subs) {p : Nat} (sp : Span) (l : Option Slice) {cs : TreeList} {pr' : Prod}
    (hpr' : env.g.prods[p]? = some pr') (hcs : cs.Valid env.g pr'.rhs) {i j : Nat} (hij : i ≤ j) (hjn : j ≤ n)
    (hy : cs.yield = kindsOf tok i j) {s u q d b : Nat} {pr : Prod}
    (I : ItemAt env (subs i) s u q d b pr pr'.lhs (tok j).kind)
    (hi0 : env.t.hasItemLA s p 0 (tok j).kind) (hpaug : env.g.isAug p = false)
    {P : List Nat} {trs : List Tree} {sv v : Nat} (hpush : Pushed env g j cs pr'.rhs u P trs v) (hsv : (sv, v) ∈ subs j) :
    Arrives env g (subs j) s u pr'.lhs q d b (.node p sp l cs) := by
  obtain ⟨hPl, htl⟩ := hpush.lengths
  obtain ⟨s', htr, hi', hlive⟩ := I.goto A.hC A.hW
  have hgoto : env.t.goto env.g s pr'.lhs = some s' := (Table.trans_nonterm (A.hW.lhs_nonterm p pr' hpr')).mp htr
  obtain ⟨hu, hhu, hus, huF⟩ := (A.done i (Nat.le_trans hij hjn)).subOk s u I.mem
  have hroot : ∀ hu' : Head, g.heads[u]? = some hu' → hu'.frontier = j → cs.yield = [] := by
    intro hu' hhu' hF
    obtain rfl := Option.mem_unique hhu hhu'
    rw [hy, ← huF, hF, kindsOf_self]
  -- the full chain is a K-chain of level j: nullable tail from every level-j head on
  have hk : KChain env j (tok j).kind g (subs j) u p pr' P s' :=
    ⟨⟨hu, hhu, by rw [hus]; exact hi0, by rw [hus]; exact hgoto⟩, hpr', hpaug, Nat.le_of_eq hPl,
      ⟨v, by rw [hPl]; simpa using hpush.chain, ⟨sv, hsv⟩⟩,
      fun c hc w hw hcw hhw hF => (hpush.cut hcs hroot c w hw _ hc hcw hhw hF).2.2, hlive⟩
  -- the closure of level j covers the chain
  obtain ⟨hA, e, ed, nC, spn, ln, C, c1, c2, c3, c4, c5, c6, c7⟩ := (A.done j hjn).closed u p pr' P s' hk
  simp only at c1 c2 c6
  -- the covering children list is a prefix of the (full) chain and ends on level j
  obtain ⟨hAhd, hhAhd, _, hAF⟩ := (A.done j hjn).subOk s' hA (sfGet_mem c1)
  obtain ⟨prC, hprC, hClen, w, hw, hcw, hhw, hwF⟩ := poss_chain A.hg c2 (c3 ▸ hhAhd) c5 c6
  obtain rfl := Option.mem_unique hpr' hprC
  have hCP : C <+: P := by
    rcases c7 with h | h
    · exact h
    · have h1 := h.length_le
      rw [h.eq_of_length (Nat.le_antisymm h1 (hPl ▸ hClen))]
      exact List.prefix_refl C
  have hCeq : P.take C.length = C := (List.prefix_iff_eq_take.mp hCP).symm
  obtain ⟨heq, hall, _⟩ := hpush.cut hcs hroot C.length w hw _ hCP.length_le (by rw [hCeq, ← c4]; exact hcw) hhw
    (by rw [hwF, hAF])
  rw [hCeq] at hall
  obtain ⟨K, hK⟩ := all2_uniform hall
  exact ⟨s', hA, e, ed, nC, K + 1, .node p spn none (TreeList.ofList (trs.take C.length)), htr, sfGet_mem c1, hi',
    c2, c3, c4, c5, (inU_nonterm_iff c6).mpr ⟨_, hK, rfl⟩, rfl, heq⟩

mutual
theorem push_tree_gss {env : Env} {g : Gss} {tok : Nat → Tok} {n : Nat} {subs : Nat → SubFrontier}
    (A : AllDone env g tok n subs) :
    ∀ (T : Tree) (X : Nat), T.Valid env.g X → ∀ (i j : Nat), i ≤ j → j ≤ n → T.yield = kindsOf tok i j →
      ∀ (s u q d b : Nat) (pr : Prod), ItemAt env (subs i) s u q d b pr X (tok j).kind →
        Arrives env g (subs j) s u X q d b T
  | .leaf a sp val l => by
    intro X hv i j hij hjn hy s u q d b pr I
    obtain ⟨rfl, hterm⟩ := hv
    obtain ⟨rfl, rfl⟩ := kindsOf_eq_singleton hij (hy : [a] = _)
    exact push_leaf A hjn sp val l I hterm
  | .node p sp l cs => by
    intro X hv i j hij hjn hy s u q d b pr I
    obtain ⟨pr', hpr', rfl, hcs⟩ := hv
    have hi0 := A.hC.closure _ q d b pr _ I.item I.hpr I.hX (A.hW.lhs_nonterm p pr' hpr') p pr' hpr' rfl (tok j).kind I.first
    have hpaug : env.g.isAug p = false :=
      A.hC.rhs_not_aug q p pr pr' I.hpr hpr' (List.mem_of_getElem? I.hX)
    have hy' : cs.yield = kindsOf tok i j := by simpa [Tree.yield] using hy
    obtain ⟨P, trs, sv, v, hpush, hsv, _⟩ :=
      push_list_gss A cs pr'.rhs hcs i j hij hjn hy' s u p 0 pr' I.mem hi0 hpr' (by simp) hpaug
    exact push_node A sp l hpr' hcs hij hjn hy' I hi0 hpaug hpush hsv
theorem push_list_gss {env : Env} {g : Gss} {tok : Nat → Tok} {n : Nat} {subs : Nat → SubFrontier}
    (A : AllDone env g tok n subs) :
    ∀ (cs : TreeList) (Xs : List Nat), cs.Valid env.g Xs → ∀ (i j : Nat), i ≤ j → j ≤ n →
      cs.yield = kindsOf tok i j → ∀ (s u p d : Nat) (pr : Prod), (s, u) ∈ subs i →
        env.t.hasItemLA s p d (tok j).kind → env.g.prods[p]? = some pr → pr.rhs.drop d = Xs →
        env.g.isAug p = false →
        ∃ (P : List Nat) (trs : List Tree) (sv v : Nat), Pushed env g j cs Xs u P trs v ∧ (sv, v) ∈ subs j ∧
          env.t.hasItemLA sv p (d + Xs.length) (tok j).kind
  | .nil => by
    intro Xs hv i j hij hjn hy s u p d pr hsu hi hpr hdrop haug
    simp only [TreeList.Valid] at hv
    subst hv
    have : i = j := by
      have := congrArg List.length hy
      simp [TreeList.yield, kindsOf_length] at this
      omega
    subst this
    exact ⟨[], [], s, u, ⟨rfl, rfl, rfl, rfl⟩, hsu, by simpa using hi⟩
  | .cons c cs => by
    intro Xs hv i j hij hjn hy s u p d pr hsu hi hpr hdrop haug
    obtain ⟨Y, Xs', rfl, hvc, hvcs⟩ := hv
    simp only [TreeList.yield] at hy
    obtain ⟨i', h1, h2, hy1, hy2⟩ := kindsOf_split hij hy
    obtain ⟨hY, hdrop'⟩ := drop_eq_cons_iff.mp hdrop
    have hfirst : FirstOf env.g (pr.rhs.drop (d+1)) (tok j).kind (tok i').kind := by
      refine ⟨cs, hdrop' ▸ hvcs, ?_⟩
      rw [hy2]
      exact kindsOf_head h2 _ rfl
    obtain ⟨s1, v1, e, ed, m, k, tr, htr, hin1, hi1, he, hsrc, hdst, hm, hinu, heq⟩ :=
      push_tree_gss A c Y hvc i i' h1 (Nat.le_trans h2 hjn) hy1 s u p d (tok j).kind pr
        ⟨hsu, hi, hpr, hY, hfirst, fun h => by rw [haug] at h; simp at h⟩
    obtain ⟨P', trs', sv, v, hpush, hsv, hiv⟩ :=
      push_list_gss A cs Xs' hvcs i' j h2 hjn hy2 s1 v1 p (d+1) pr hin1 hi1 hpr hdrop' haug
    obtain ⟨hv1, hhv1, hv1s, hv1F⟩ := (A.done i' (Nat.le_trans h2 hjn)).subOk s1 v1 hin1
    refine ⟨e :: P', tr :: trs', sv, v, ?_, hsv, by
      simp only [List.length_cons]
      rw [Nat.add_right_comm] at hiv; exact hiv⟩
    refine ⟨Y, Xs', e, P', tr, trs', ed, hv1, m, k, rfl, rfl, rfl, he, by rw [hsrc]; exact hhv1, hdst, ?_, hm, hinu, heq, ?_,
      by rw [hsrc]; exact hpush⟩
    · rw [hv1s]; exact A.hT.sym _ _ _ htr
    · intro hF
      rw [hy2, ← hv1F, hF, kindsOf_self]
end

theorem accept_of_allDone {env : Env} {g : Gss} {tok : Nat → Tok} {n : Nat} {subs : Nat → SubFrontier}
    (A : AllDone env g tok n subs) (hstart : (0, 0) ∈ subs 0) (hstop : (tok n).kind = 0)
    (full : Tree) (hv : full.Valid env.g env.g.startIdx) (hy : full.yield = kindsOf tok 0 n) :
    ∃ (s' v e : Nat) (ed : Edge) (m k : Nat) (tr : Tree), (s', v) ∈ subs n ∧ Action.accept ∈ env.t.cell s' 0 ∧
      g.edges[e]? = some ed ∧ ed.src = v ∧ ed.dst = 0 ∧ m ∈ ed.poss ∧ InU g k m tr ∧ Tree.EqElide full tr := by
  obtain ⟨pr0, hpr0, hl0, hr0⟩ := A.hW.aug0
  have haug0 : env.g.isAug 0 = true := by
    unfold Grammar.isAug; rw [hpr0]; simp [hl0]
  obtain ⟨s', v, e, ed, m, k, tr, _, hin, hi', he, hsrc, hdst, hm, hinu, heq⟩ :=
    push_tree_gss A full env.g.startIdx hv 0 n (Nat.zero_le _) (Nat.le_refl _) hy 0 0 0 0 0 pr0
      ⟨hstart, A.hC.start, hpr0, by rw [hr0]; rfl, ⟨.nil, by rw [hr0]; simp [TreeList.Valid], by simp [TreeList.yield, hstop]⟩,
        fun _ => ⟨rfl, by rw [hr0]; rfl⟩⟩
  have hacc := A.hC.accept s' 0 pr0 hpr0 haug0 (by rw [hr0]; exact hi'.toItem)
  exact ⟨s', v, e, ed, m, k, tr, hin, hacc, he, hsrc, hdst, hm, hinu, heq⟩

mutual
theorem push_spine {env : Env} {g : Gss} {tok : Nat → Tok} {k : Nat} {subs : Nat → SubFrontier}
    (A : AllDone env g tok k subs) :
    ∀ (T : Tree) (X : Nat), T.Valid env.g X → ∀ (i : Nat), i ≤ k → ∀ (rest : List Nat),
      T.yield = kindsOf tok i k ++ (tok k).kind :: rest →
      ∀ (s u q d b : Nat) (pr : Prod), (s, u) ∈ subs i → env.t.hasItemLA s q d b → env.g.prods[q]? = some pr →
        pr.rhs[d]? = some X → (∃ a', FirstOf env.g (pr.rhs.drop (d+1)) b a') →
        ∃ (v : Nat) (hv : Head), g.heads[v]? = some hv ∧ hv.frontier = k + 1
  | .leaf a sp val l => by
    intro X hv i hik rest hy s u q d b pr hsu hi hpr hX _
    obtain ⟨rfl, hterm⟩ := hv
    simp only [Tree.yield] at hy
    have hlen := congrArg List.length hy
    simp only [List.length_cons, List.length_nil, List.length_append, kindsOf_length] at hlen
    have hik' : i = k := by omega
    subst hik'
    rw [kindsOf_self] at hy
    simp only [List.nil_append, List.cons.injEq] at hy
    obtain ⟨ha, _⟩ := hy
    subst ha
    obtain ⟨s', htr, _⟩ := A.hC.trans _ q d b pr _ hi hpr hX
    have hsh : Action.shift s' ∈ env.t.cell s (tok i).kind := (Table.trans_term hterm).mp htr
    obtain ⟨v, hv, e, ed, nn, spn, k1, k2, k3, _⟩ := (A.done i (Nat.le_refl _)).shifted s u s' hsu hsh
    exact ⟨v, hv, k1, k3⟩
  | .node p sp l cs => by
    intro X hv i hik rest hy s u q d b pr hsu hi hpr hX hfirst
    obtain ⟨a', hfirst⟩ := hfirst
    obtain ⟨pr', hpr', hlhs, hcs⟩ := hv
    have hXnt : env.g.nterms ≤ X := hlhs ▸ A.hW.lhs_nonterm p pr' hpr'
    have hi0 := A.hC.closure _ q d b pr X hi hpr hX hXnt p pr' hpr' hlhs a' hfirst
    have hpaug : env.g.isAug p = false :=
      A.hC.rhs_not_aug q p pr pr' hpr hpr' (by rw [hlhs]; exact List.mem_of_getElem? hX)
    exact push_spine_list A cs pr'.rhs hcs i hik rest (by simpa [Tree.yield] using hy) s u p 0 a' pr' hsu hi0 hpr'
      (by simp) hpaug
theorem push_spine_list {env : Env} {g : Gss} {tok : Nat → Tok} {k : Nat} {subs : Nat → SubFrontier}
    (A : AllDone env g tok k subs) :
    ∀ (cs : TreeList) (Xs : List Nat), cs.Valid env.g Xs → ∀ (i : Nat), i ≤ k → ∀ (rest : List Nat),
      cs.yield = kindsOf tok i k ++ (tok k).kind :: rest →
      ∀ (s u p d b : Nat) (pr : Prod), (s, u) ∈ subs i → env.t.hasItemLA s p d b → env.g.prods[p]? = some pr →
        pr.rhs.drop d = Xs → env.g.isAug p = false →
        ∃ (v : Nat) (hv : Head), g.heads[v]? = some hv ∧ hv.frontier = k + 1
  | .nil => by
    intro Xs hv i hik rest hy
    simp [TreeList.yield] at hy
  | .cons c cs => by
    intro Xs hv i hik rest hy s u p d b pr hsu hi hpr hdrop haug
    obtain ⟨Y, Xs', rfl, hvc, hvcs⟩ := hv
    simp only [TreeList.yield] at hy
    obtain ⟨hY, hdrop'⟩ := drop_eq_cons_iff.mp hdrop
    -- `c` lies left of the token: push it and go on with its right siblings
    have key : ∀ a' : List Nat, kindsOf tok i k = c.yield ++ a' → cs.yield = a' ++ (tok k).kind :: rest →
        ∃ (v : Nat) (hv : Head), g.heads[v]? = some hv ∧ hv.frontier = k + 1 := by
      intro a' h1 h2
      obtain ⟨i', hi1, hi2, hy1, hy2⟩ := kindsOf_split hik h1.symm
      subst hy2
      have hfirst : FirstOf env.g (pr.rhs.drop (d+1)) b (tok i').kind :=
        ⟨cs, hdrop' ▸ hvcs, by rw [h2, List.append_assoc]; exact kindsOf_head_append hi2 _⟩
      obtain ⟨s1, v1, e, ed, m, kk, tr, htr, hin1, hi1', _⟩ :=
        push_tree_gss A c Y hvc i i' hi1 hi2 hy1 s u p d b pr
          ⟨hsu, hi, hpr, hY, hfirst, fun h => by rw [haug] at h; simp at h⟩
      exact push_spine_list A cs Xs' hvcs i' hi2 rest h2 s1 v1 p (d+1) b pr hin1 hi1' hpr hdrop' haug
    rcases List.append_eq_append_iff.mp hy with ⟨a', h1, h2⟩ | ⟨c', h1, h2⟩
    · exact key a' h1 h2
    · cases c' with
      | nil => exact key [] (by simpa using h1.symm) (by simpa using h2.symm)
      | cons x c'' =>
        simp only [List.cons_append, List.cons.injEq] at h2
        obtain ⟨hx, hrest⟩ := h2
        subst hx
        -- the token is a leaf of `c`
        have hne : ∃ a', FirstOf env.g (pr.rhs.drop (d+1)) b a' := by
          cases hh : cs.yield ++ [b] with
          | nil => simp at hh
          | cons y ys => exact ⟨y, cs, hdrop' ▸ hvcs, by rw [hh]; rfl⟩
        exact push_spine A c Y hvc i hik c'' h1 s u p d b pr hsu hi hpr hY hne
end

theorem head_of_viable {env : Env} {g : Gss} {tok : Nat → Tok} {k : Nat} {subs : Nat → SubFrontier}
    (A : AllDone env g tok k subs) (hstart : (0, 0) ∈ subs 0) (T : Tree) (hv : T.Valid env.g env.g.startIdx)
    (rest : List Nat) (hy : T.yield = kindsOf tok 0 k ++ (tok k).kind :: rest) :
    ∃ (v : Nat) (hd : Head), g.heads[v]? = some hd ∧ hd.frontier = k + 1 := by
  obtain ⟨pr0, hpr0, _, hr0⟩ := A.hW.aug0
  exact push_spine A T env.g.startIdx hv 0 (Nat.zero_le _) rest hy 0 0 0 0 0 pr0 hstart A.hC.start hpr0
    (by rw [hr0]; rfl) ⟨0, .nil, by rw [hr0]; simp [TreeList.Valid], by simp [TreeList.yield]⟩

end Rustemo.Glr
