import Rustemo.Proofs.GlrState
import Rustemo.Proofs.GlrSteps
/-!
`RPStep` lists what `reducePath` can do to the reducer state: nothing (the goto state has no action on the lookahead), a
fold into an existing possibility, or a new solution.  `reducePath_spec` is the one walk: under `GInv` every lookup
succeeds and the run is such a step.  A call with the step it made is a `PathRun`; invariants are proved about the run,
one lemma each (`PathRun.rinv` here; `.uinv`, `.rcinv`, `RPStep.qsub` in GlrClosureLoop).
-/

namespace Rustemo.Glr

variable {A E : Prop}

structure PathOk (env : Env) (g : Gss) (p len : Nat) (pr : Prod) (v : Nat) (path : Path) : Prop where
  item : ∃ hr : Head, g.heads[path.root]? = some hr ∧ env.t.hasItem hr.state p 0
  plen : path.parents.length = len
  chain : ChainEnd env.t g path.parents (pr.rhs.take len) path.root v

theorem PathOk.ext {env : Env} {g g' : Gss} {p len : Nat} {pr : Prod} {v : Nat} {path : Path} (hx : Ext g g')
    (h : PathOk env g p len pr v path) : PathOk env g' p len pr v path := by
  obtain ⟨⟨hr, hhr, hi⟩, hl, hc⟩ := h
  obtain ⟨hr', hhr', hs, _, _⟩ := hx.heads _ hr hhr
  exact ⟨⟨hr', hhr', by rw [hs]; exact hi⟩, hl, ChainEnd.ext hx hc⟩

theorem PathOk.safe {env : Env} {g : Gss} (hg : GInv env g) {p len : Nat} {pr : Prod} {v : Nat} {path : Path}
    (hp : PathOk env g p len pr v path) :
    ∀ e ∈ path.parents, ∃ ed : Edge, g.edges[e]? = some ed ∧ ed.poss ≠ [] ∧ ∀ n ∈ ed.poss, g.nodes[n]? ≠ none := by
  intro e he
  obtain ⟨ed, hed⟩ := hp.chain.edge_mem e he
  have hok := hg.edges e ed hed
  obtain ⟨_, _, _, _, _, hposs⟩ := hok.ends
  refine ⟨ed, hed, hok.poss_ne nofun, fun n hn => ?_⟩
  obtain ⟨nd, hnd, _⟩ := hposs n hn
  rw [hnd]; nofun

/-- the situation in which the reducer calls `reducePath` -/
structure PathCall (env : Env) (F : Nat) (g : Gss) (prod len : Nat) (pr : Prod) (startHead : Nat) (sh : Head)
    (path : Path) : Prop where
  hpr : env.g.prods[prod]? = some pr
  hlen : len ≤ pr.rhs.length
  hnul : ∀ Y ∈ pr.rhs.drop len, Nullable env.g Y
  haug : env.g.isAug prod = false
  hsh : g.heads[startHead]? = some sh
  htok : sh.tok.isSome = true
  hF : sh.frontier = F
  path : PathOk env g prod len pr startHead path

theorem chain_items_back {env : Env} {g : Gss} (hT : TableOk env) (hg : GInv env g) {p : Nat} {pr : Prod}
    (hpr : env.g.prods[p]? = some pr) {P : List Nat} : ∀ {Xs : List Nat} {u v : Nat} {hv : Head} (d : Nat),
      ChainEnd env.t g P Xs u v → g.heads[v]? = some hv → env.t.hasItem hv.state p (d + P.length) →
      ∃ hu : Head, g.heads[u]? = some hu ∧ env.t.hasItem hu.state p d ∧ Xs = (pr.rhs.drop d).take P.length := by
  induction P with
  | nil =>
    intro Xs u v hv d hc hhv hi
    exact ⟨hv, hc.2 ▸ hhv, hi, by rw [hc.1]; rfl⟩
  | cons e es ih =>
    intro Xs u v hv d hc hhv hi
    obtain ⟨ed, hs, X, Xs', he, hhs, rfl, hdst, hsym, hr⟩ := hc
    obtain ⟨hs', hhs', hi', rfl⟩ := ih (d + 1) hr hhv (by rw [Nat.add_right_comm, Nat.add_assoc]; exact hi)
    obtain rfl := Option.mem_unique hhs hhs'
    obtain ⟨_, hd, hhs2, hhd, htr, _⟩ := (hg.edges e ed he).ends
    obtain rfl := Option.mem_unique hhs hhs2
    obtain ⟨⟨pr', hpr', hX⟩, hi0⟩ := hT.s.target_items _ _ _ p d htr hi'
    obtain rfl := Option.mem_unique hpr hpr'
    refine ⟨hd, hdst ▸ hhd, hi0, ?_⟩
    obtain ⟨hlt, hget⟩ := List.getElem?_eq_some_iff.mp hX
    rw [List.drop_eq_getElem_cons hlt, hget, hsym, List.length_cons, List.take_succ_cons]

theorem mem_expandOne {g : Gss} {p q : Path} :
    q ∈ expandOne g p ↔ ∃ (e : Nat) (ed : Edge), g.edges[e]? = some ed ∧ ed.src = p.root ∧ q = ⟨e :: p.parents, ed.dst⟩ := by
  unfold expandOne
  rw [List.mem_filterMap]
  constructor
  · rintro ⟨e, he, hq⟩
    obtain ⟨ed, hed, hsrc⟩ := mem_backedges.mp he
    rw [hed] at hq
    exact ⟨e, ed, hed, hsrc, (Option.some.inj hq).symm⟩
  · rintro ⟨e, ed, hed, hsrc, rfl⟩
    exact ⟨e, mem_backedges.mpr ⟨ed, hed, hsrc⟩, by rw [hed]⟩

theorem expandPaths_succ (g : Gss) : ∀ (n : Nat) (ps : List Path),
    expandPaths g (n + 1) ps = (expandPaths g n ps).flatMap (expandOne g)
  | 0, _ => rfl
  | n + 1, ps => by
    show expandPaths g (n + 1) (ps.flatMap (expandOne g)) = _
    rw [expandPaths_succ g n]; rfl

theorem mem_expandPaths {env : Env} {g : Gss} (hg : GInv env g) : ∀ (n : Nat) (ps : List Path) (q : Path),
    q ∈ expandPaths g n ps ↔ ∃ p ∈ ps, ∃ pre Xs : List Nat, pre.length = n ∧ q.parents = pre ++ p.parents ∧
      ChainEnd env.t g pre Xs q.root p.root
  | 0, ps, q => by
    constructor
    · intro hq
      exact ⟨q, hq, [], [], rfl, rfl, rfl, rfl⟩
    · rintro ⟨p, hp, pre, Xs, hl, hpar, hc⟩
      obtain rfl := List.eq_nil_of_length_eq_zero hl
      have : q = p := by cases q; cases p; simp only [List.nil_append] at hpar; cases hpar; cases hc.2; rfl
      exact this ▸ hp
  | n + 1, ps, q => by
    rw [expandPaths_succ, List.mem_flatMap]
    constructor
    · rintro ⟨q0, hq0, hq⟩
      obtain ⟨p, hp, pre, Xs, hl, hpar, hc⟩ := (mem_expandPaths hg n ps q0).mp hq0
      obtain ⟨e, ed, hed, hsrc, rfl⟩ := mem_expandOne.mp hq
      obtain ⟨hs, _, hhs, _⟩ := (hg.edges e ed hed).ends
      exact ⟨p, hp, e :: pre, env.t.symAt hs.state :: Xs, by rw [List.length_cons, hl], by rw [hpar]; rfl,
        ed, hs, _, _, hed, hhs, rfl, rfl, rfl, hsrc ▸ hc⟩
    · rintro ⟨p, hp, pre, Xs, hl, hpar, hc⟩
      cases pre with
      | nil => cases hl
      | cons e pre =>
        obtain ⟨ed, hs, X, Xs', hed, _, _, hdst, _, hr⟩ := hc
        refine ⟨⟨pre ++ p.parents, ed.src⟩, (mem_expandPaths hg n ps _).mpr
          ⟨p, hp, pre, Xs', Nat.succ.inj hl, rfl, hr⟩, mem_expandOne.mpr ⟨e, ed, hed, rfl, ?_⟩⟩
        cases q
        simp only at hpar hdst
        rw [hpar, hdst]; rfl

theorem findReductionPaths_sat {env : Env} (hT : TableOk env) {F : Nat} {g : Gss} (hg : GInv env g)
    {r : Reduction} (hr : RedOk env g F r) :
    ∃ (pr : Prod) (v : Nat) (sh : Head), startHeadOf g r = .ok v ∧
      SatE A E (fun paths => ∀ q ∈ paths, PathCall env F g r.prod r.len pr v sh q) (findReductionPaths g r) := by
  obtain ⟨start, prod, len⟩ := r
  obtain ⟨sh, pr, hpr, hlen, hnul, haug, htok, hF, hitem, hstart⟩ := hr
  obtain ⟨v, hs, hsh⟩ := startAt_head.mp hstart
  refine ⟨pr, v, sh, hs.startHeadOf (r := ⟨start, prod, len⟩), ?_⟩
  have call : ∀ {q : Path}, PathOk env g prod len pr v q → PathCall env F g prod len pr v sh q :=
    fun hp => ⟨hpr, hlen, hnul, haug, hsh, htok, hF, hp⟩
  unfold findReductionPaths
  cases start with
  | node n =>
    obtain ⟨rfl, rfl⟩ := hs
    intro q hq
    rw [List.mem_singleton.mp hq]
    exact call ⟨⟨sh, hsh, hitem⟩, rfl, rfl, rfl⟩
  | edge e =>
    obtain ⟨ed, hed, rfl, hpos⟩ := hs
    refine SatE.bind_ok (edge_ok hed) ?_
    dsimp only [SatE]
    intro q hq
    obtain ⟨p, hp, pre, Xs, hl, hpar, hc⟩ := (mem_expandPaths hg _ _ q).mp hq
    obtain rfl := List.mem_singleton.mp hp
    have hfull : ChainEnd env.t g q.parents (Xs ++ [env.t.symAt sh.state]) q.root ed.src := by
      rw [hpar]
      exact ChainEnd.append hc ⟨ed, sh, _, [], hed, hsh, rfl, rfl, rfl, rfl, rfl⟩
    have hql : q.parents.length = len := by
      rw [hpar, List.length_append, hl]; exact Nat.sub_add_cancel hpos
    obtain ⟨hu, hhu, hi0, hXs⟩ := chain_items_back hT hg hpr 0 hfull hsh (by rw [Nat.zero_add, hql]; exact hitem)
    exact call ⟨⟨hu, hhu, hi0⟩, hql, by rw [hXs, hql] at hfull; exact hfull⟩

theorem findReductionPaths_complete {env : Env} {g : Gss} (hg : GInv env g) {r : Reduction}
    {paths : List Path} (hp : findReductionPaths g r = .ok paths) {P Xs : List Nat} {u v : Nat}
    (hc : ChainEnd env.t g P Xs u v) (hlen : r.len ≤ P.length)
    (hstart : StartOn r.start r.len P u) :
    ⟨P.take r.len, u⟩ ∈ paths := by
  unfold findReductionPaths at hp
  cases hs : r.start with
  | node n =>
    rw [hs] at hp hstart
    injection hp with hp; subst hp
    simp [hstart.1, hstart.2]
  | edge e =>
    rw [hs] at hp hstart
    obtain ⟨hpos, hlast⟩ := hstart
    obtain ⟨ed, hed, hp⟩ := obind_eq_ok hp
    injection hp with hp; subst hp
    have htake : P.take r.len = P.take (r.len - 1) ++ [e] := by
      have := List.take_add_one (l := P) (i := r.len - 1)
      rwa [Nat.sub_add_cancel hpos, hlast] at this
    obtain ⟨w, hcw, _⟩ := ChainEnd.split r.len hc
    rw [htake] at hcw ⊢
    obtain ⟨w', ed', h1, he2, _, hdst⟩ := ChainEnd.last hcw
    obtain rfl := Option.mem_unique (edge_eq_ok hed) he2
    exact (mem_expandPaths hg _ _ _).mpr ⟨_, List.mem_singleton_self _, _, _,
      by rw [List.length_take, Nat.min_eq_left (Nat.le_trans (Nat.sub_le _ _) hlen)], rfl, hdst ▸ h1⟩

/-- `findOrCreateHead`: the head `hA` for state `s'` is the one the sub-frontier has (`hc = false`, nothing changes) or a
    copy of `sh` in that state, added to graph and sub-frontier -/
theorem findOrCreateHead_eff {g : Gss} {sub : SubFrontier} {sh : Head} {tk : Tok} (htk : sh.tok = some tk) (s' : Nat) :
    ∃ (g1 : Gss) (sub1 : SubFrontier) (hA : Nat) (hc : Bool), findOrCreateHead g sub sh s' = .ok (g1, sub1, hA, hc) ∧
      g1.heads = (if hc then g.heads.push { sh with state := s' } else g.heads) ∧ g1.edges = g.edges ∧
      g1.nodes = g.nodes ∧ (hc = true → hA = g.heads.size) ∧ (hc = false → g1 = g) ∧ GetOrIns s' hA hc sub sub1 := by
  unfold findOrCreateHead
  cases hg : sfGet s' sub with
  | some hA => exact ⟨g, sub, hA, false, rfl, rfl, rfl, rfl, Bool.noConfusion, fun _ => rfl, .found _ (sfGet_mem hg)⟩
  | none =>
    rw [htk]
    exact ⟨_, _, _, true, rfl, rfl, rfl, rfl, fun _ => rfl, Bool.noConfusion,
      .added _ _ (find?_fst_none hg) (sfInsert_ins _ _ _)⟩

/-- `findOrCreateEdge`: edge `e = (hA → u)` with possibilities `poss` is the one the graph has (`ec = false`, nothing
    changes) or a new empty one -/
theorem findOrCreateEdge_eff (g : Gss) (hA u : Nat) : ∃ (g2 : Gss) (e : Nat) (ec : Bool) (poss : List Nat),
    findOrCreateEdge g hA u = (g2, e, ec) ∧ g2.heads = g.heads ∧ g2.nodes = g.nodes ∧
      (∀ i, g2.edges[i]? = if i = e then some ⟨hA, u, poss⟩ else g.edges[i]?) ∧
      (ec = true → e = g.edges.size ∧ poss = [] ∧
        ∀ (e0 : Nat) (ed0 : Edge), g.edges[e0]? = some ed0 → ed0.src = hA → ed0.dst ≠ u) ∧
      (ec = false → g2 = g ∧ g.edges[e]? = some ⟨hA, u, poss⟩) ∧
      ∀ (i : Nat) (ed : Edge), g.edges[i]? = some ed → g2.edges[i]? = some ed := by
  unfold findOrCreateEdge
  cases hb : g.edgeBetween hA u with
  | some e =>
    obtain ⟨⟨src, dst, poss⟩, hed, rfl, rfl⟩ := edgeBetween_some hb
    refine ⟨g, e, false, poss, rfl, rfl, rfl, fun i => ?_, Bool.noConfusion, fun _ => ⟨rfl, hed⟩, fun _ _ h => h⟩
    split
    · rename_i hi; rw [hi, hed]
    · rfl
  | none =>
    exact ⟨_, _, true, [], rfl, rfl, rfl, fun i => addEdge_edges g hA u [] i, fun _ => ⟨rfl, rfl, edgeBetween_none hb⟩,
      Bool.noConfusion, fun _ _ hi => addEdge_old hi⟩

/-- the solution of `reducePath` from the effects of its two steps (`a`: head, `b`: edge), then node and possibility -/
theorem Sol.of_steps {g g1 g2 : Gss} {nh : Head} {hA u e : Nat} {hc ec : Bool} {poss : List Nat} (nd : SNode)
    (a1 : g1.heads = if hc then g.heads.push nh else g.heads) (a2 : g1.edges = g.edges) (a3 : g1.nodes = g.nodes)
    (a4 : hc = true → hA = g.heads.size) (b1 : g2.heads = g1.heads) (b2 : g2.nodes = g1.nodes)
    (b3 : ∀ i, g2.edges[i]? = if i = e then some ⟨hA, u, poss⟩ else g1.edges[i]?)
    (b4 : ec = true → e = g1.edges.size ∧ poss = [] ∧
      ∀ (e0 : Nat) (ed0 : Edge), g1.edges[e0]? = some ed0 → ed0.src = hA → ed0.dst ≠ u)
    (b5 : ec = false → g1.edges[e]? = some ⟨hA, u, poss⟩) :
    Sol g ((g2.addNode nd).1.pushPoss e g2.nodes.size) nh hA u nd e g2.nodes.size hc ec poss := by
  have he2 : (g2.addNode nd).1.edges[e]? = some ⟨hA, u, poss⟩ := by rw [addNode_edges, b3, if_pos rfl]
  refine ⟨?_, fun i => ?_, ?_, by rw [b2, a3], a4, fun h => a2 ▸ b4 h, fun h => a2 ▸ b5 h⟩
  · rw [pushPoss_heads, addNode_heads, b1, a1]
  · rw [pushPoss_edges _ e _ _ he2, addNode_edges, b3, a2]
    split <;> rfl
  · rw [pushPoss_nodes, ← a3, ← b2]; rfl

structure NewSol (env : Env) (rs rs' : RState) (sh : Head) (s' kind : Nat) (q : Path) (nd : SNode) (hA e n : Nat)
    (hc ec : Bool) (poss : List Nat) : Prop
    extends Sol rs.gss rs'.gss { sh with state := s' } hA q.root nd e n hc ec poss where
  sub : GetOrIns s' hA hc rs.sub rs'.sub
  reg : (rs'.queue, rs'.shifts, rs'.accepted) =
    registerActions hA e hc ec (env.t.cell s' kind) (rs.queue, rs.shifts, rs.accepted)

/-- stated for variables so that the projections of the new state are reduced here and not by the unifier in the walk -/
theorem NewSol.mk' {env : Env} {rs : RState} {sh : Head} {s' kind : Nat} {q : Path} {nd : SNode} {hA e n : Nat} {hc ec : Bool}
    {poss : List Nat} {G : Gss} {sub1 : SubFrontier} {reg : List Reduction × List (Nat × Nat) × List Nat}
    (s : Sol rs.gss G { sh with state := s' } hA q.root nd e n hc ec poss) (hsub : GetOrIns s' hA hc rs.sub sub1)
    (hreg : reg = registerActions hA e hc ec (env.t.cell s' kind) (rs.queue, rs.shifts, rs.accepted)) :
    NewSol env rs ⟨G, reg.1, reg.2.1, reg.2.2, sub1⟩ sh s' kind q nd hA e n hc ec poss :=
  ⟨s, hsub, hreg⟩

section

variable {env : Env} {rs rs' : RState} {sh : Head} {s' kind : Nat} {q : Path} {nd : SNode} {hA e n : Nat} {hc ec : Bool}
  {poss : List Nat}

theorem NewSol.mem_queue (ns : NewSol env rs rs' sh s' kind q nd hA e n hc ec poss) {r : Reduction} :
    r ∈ rs'.queue ↔ r ∈ rs.queue ∨ ∃ p len, Action.reduce p len ∈ env.t.cell s' kind ∧
      ((ec && decide (len > 0)) || hc) = true ∧ r = ⟨if len > 0 then .edge e else .node hA, p, len⟩ := by
  rw [show rs'.queue = _ from congrArg Prod.fst ns.reg]; exact mem_registerActions_queue

theorem NewSol.mem_shifts (ns : NewSol env rs rs' sh s' kind q nd hA e n hc ec poss) {x : Nat × Nat} :
    x ∈ rs'.shifts ↔ x ∈ rs.shifts ∨ (hc = true ∧ ∃ s, Action.shift s ∈ env.t.cell s' kind ∧ x = (hA, s)) := by
  rw [show rs'.shifts = _ from congrArg (·.2.1) ns.reg]; exact mem_registerActions_shifts

theorem NewSol.mem_accepted (ns : NewSol env rs rs' sh s' kind q nd hA e n hc ec poss) {x : Nat} :
    x ∈ rs'.accepted ↔ x ∈ rs.accepted ∨ (hc = true ∧ Action.accept ∈ env.t.cell s' kind ∧ x = hA) := by
  rw [show rs'.accepted = _ from congrArg (·.2.2) ns.reg]; exact mem_registerActions_accepted

end

/-- a fold of `reducePath`: the head `hA` for the goto state `s'` is in the sub-frontier, the edge `e = (hA → q.root)` exists
    and one of its possibilities does not differ from the path; only nodes of the graph change -/
structure FoldRun (prod : Nat) (rs rs' : RState) (q : Path) (s' hA e : Nat) (ed : Edge) (g' : Gss) : Prop where
  sub : (s', hA) ∈ rs.sub
  edge : rs.gss.edges[e]? = some ed
  src : ed.src = hA
  dst : ed.dst = q.root
  same : allDiffer rs.gss prod q.parents ed.poss = false
  spec : FoldSpec rs.gss prod q.parents ed.poss g'
  eq : rs' = { rs with gss := g' }

/-- `sh`, `kind`: start head and its lookahead kind, `hr`: root head, `s'`: goto state -/
inductive RPStep (env : Env) (prod : Nat) (rs : RState) (q : Path) (sh : Head) (kind : Nat) (hr : Head) (s' : Nat)
    (rs' : RState) : Prop
  | skip : env.t.cell s' kind = [] → rs' = rs → RPStep env prod rs q sh kind hr s' rs'
  | fold (hA e : Nat) (ed : Edge) (g' : Gss) : env.t.cell s' kind ≠ [] → FoldRun prod rs rs' q s' hA e ed g' →
      RPStep env prod rs q sh kind hr s' rs'
  | new (hA e n : Nat) (hc ec : Bool) (poss : List Nat) (span : Span) : env.t.cell s' kind ≠ [] →
      NewSol env rs rs' sh s' kind q (.nonterm prod span hr.lay q.parents) hA e n hc ec poss →
      RPStep env prod rs q sh kind hr s' rs'

structure PathRun (env : Env) (F : Nat) (rs rs' : RState) (prod len : Nat) (pr : Prod) (startHead : Nat) (sh : Head)
    (q : Path) (tk : Tok) (hr : Head) (s' : Nat) : Prop extends PathCall env F rs.gss prod len pr startHead sh q where
  htk : sh.tok = some tk
  hhr : rs.gss.heads[q.root]? = some hr
  hgoto : env.t.goto env.g hr.state pr.lhs = some s'
  step : RPStep env prod rs q sh tk.kind hr s' rs'

theorem firstSpan_ok {g : Gss} {e : Nat}
    (hs : ∃ ed : Edge, g.edges[e]? = some ed ∧ ed.poss ≠ [] ∧ ∀ n ∈ ed.poss, g.nodes[n]? ≠ none) :
    ∃ sp, firstSpan g e = .ok sp := by
  obtain ⟨⟨src, dst, poss⟩, hed, hne, hn⟩ := hs
  cases poss with
  | nil => exact absurd rfl hne
  | cons n rest =>
    cases hnd : g.nodes[n]? with
    | none => exact absurd hnd (hn n List.mem_cons_self)
    | some nd => exact ⟨nodeSpan nd, by unfold firstSpan; rw [edge_ok hed]; simp only [obind, node_ok hnd]⟩

theorem solutionSpan_ok {g : Gss} (rootHead : Head) {parents : List Nat}
    (hs : ∀ e ∈ parents, ∃ ed : Edge, g.edges[e]? = some ed ∧ ed.poss ≠ [] ∧ ∀ n ∈ ed.poss, g.nodes[n]? ≠ none) :
    ∃ sp, solutionSpan g rootHead parents = .ok sp := by
  unfold solutionSpan
  split
  · rename_i first last hf hl
    obtain ⟨s1, h1⟩ := firstSpan_ok (hs first (List.mem_of_head? hf))
    obtain ⟨s2, h2⟩ := firstSpan_ok (hs last (List.mem_of_getLast? hl))
    exact ⟨_, by rw [h1, h2]; rfl⟩
  · exact ⟨_, rfl⟩

theorem reducePath_spec {env : Env} (hT : TableOk env) {F : Nat} {rs : RState} (hg : GInv env rs.gss) {prod len : Nat}
    {pr : Prod} {startHead : Nat} {sh : Head} {path : Path} (c : PathCall env F rs.gss prod len pr startHead sh path) :
    SatE A E (fun rs' => ∃ (tk : Tok) (hr : Head) (s' : Nat), PathRun env F rs rs' prod len pr startHead sh path tk hr s')
      (reducePath env prod startHead rs path) := by
  obtain ⟨tk, htk, hkind⟩ := tokKind_ok c.htok
  obtain ⟨hr, hhr, hitem⟩ := c.path.item
  obtain ⟨s', hgoto⟩ := hT.tot.goto_total _ prod pr hitem c.hpr c.haug
  -- everything is taken apart before the body is unfolded: a `cases` on the unfolded goal is dear
  obtain ⟨g1, sub1, hA, hc, hfc, a1, a2, a3, a4, a5, hsub⟩ := findOrCreateHead_eff (g := rs.gss) (sub := rs.sub) htk s'
  obtain ⟨g2, e, ec, poss, hfe, b1, b2, b3, b4, b5, b6⟩ := findOrCreateEdge_eff g1 hA path.root
  have hed : g2.edges[e]? = some ⟨hA, path.root, poss⟩ := by rw [b3, if_pos rfl]
  unfold reducePath
  refine SatE.bind_ok (head_ok c.hsh) (SatE.bind_ok hkind (SatE.bind_ok (head_ok hhr)
    (SatE.bind_ok (prodLhs_ok c.hpr) (SatE.bind_ok (gotoState_ok hgoto) ?_))))
  refine SatE.ite (fun hempty => ⟨tk, hr, s', c, htk, hhr, hgoto, .skip (List.isEmpty_iff.mp hempty) rfl⟩) fun hne => ?_
  have hne' : env.t.cell s' tk.kind ≠ [] := fun h0 => hne (List.isEmpty_iff.mpr h0)
  refine SatE.bind_ok hfc ?_
  dsimp only
  rw [hfe]
  refine SatE.bind_ok (edge_ok hed) ?_
  cases hnew : (hc || ec || allDiffer g2 prod path.parents poss) with
  | false =>
    simp only [Bool.or_eq_false_iff] at hnew
    obtain ⟨⟨rfl, rfl⟩, hdiff⟩ := hnew
    obtain rfl := (b5 rfl).1
    obtain rfl := a5 rfl
    cases hsub with | found _ hmem =>
    exact ⟨tk, hr, s', c, htk, hhr, hgoto, .fold _ _ _ _ hne' ⟨hmem, hed, rfl, rfl, hdiff, replaceChildren_spec _ _ _ _, rfl⟩⟩
  | true =>
    -- the edges of the path are old edges: untouched by the two steps
    obtain ⟨span, hspan⟩ := solutionSpan_ok (g := g2) hr (parents := path.parents) fun e' he' =>
      let ⟨ed', h1, h2, h3⟩ := c.path.safe hg e' he'
      ⟨ed', b6 e' ed' (a2 ▸ h1), h2, by rw [b2, a3]; exact h3⟩
    exact SatE.bind_ok hspan ⟨tk, hr, s', c, htk, hhr, hgoto, .new _ _ _ _ _ _ span hne'
      (.mk' (Sol.of_steps _ a1 a2 a3 a4 b1 b2 b3 (fun h => (b4 h)) (fun h => (b5 h).2)) hsub rfl)⟩

theorem PathRun.rinv {env : Env} (hT : TableOk env) {F : Nat} {rs rs' : RState} {prod len : Nat} {pr : Prod}
    {startHead : Nat} {sh : Head} {path : Path} {tk : Tok} {hr : Head} {s' : Nat} (hI : RInv env F rs)
    (d : PathRun env F rs rs' prod len pr startHead sh path tk hr s') : RInv env F rs' ∧ Ext rs.gss rs'.gss := by
  obtain ⟨⟨hpr, hlen, hnul, _, hsh, htok, hF, ⟨_, hplen, hchain⟩⟩, htk, hhr, hgoto, h⟩ := d
  subst hplen
  have hfit : ∀ sp l, NodeFits env rs.gss (.nonterm prod sp l path.parents) pr.lhs path.root F :=
    fun _ _ => ⟨pr, hpr, rfl, hlen, hnul, hF ▸ hchain.toChildren hsh⟩
  have htrans : env.t.trans env.g hr.state pr.lhs s' := Table.trans_of_goto hgoto
  have hsym : env.t.symAt s' = pr.lhs := hT.sym _ _ _ htrans
  cases h with
  | skip _ heq => subst heq; exact ⟨hI, Ext.refl _⟩
  | fold hA e ed g' _ fr =>
    obtain ⟨hget, hed, hsrc, hdst, -, hspec, rfl⟩ := fr
    obtain ⟨hd, hhd, hds, hdf, _⟩ := hI.sub _ _ hget
    obtain ⟨hg', hx'⟩ := hspec.ginv hI.g hed (by rw [hsrc]; exact hhd) (by rw [hds, hsym, hdst, hdf]; exact hfit)
    exact ⟨RInv.of_parts hg' (hI.sub.ext hx') (hI.lists.ext hx'), hx'⟩
  | new hA e n hc ec poss span _ ns =>
    have hx := ns.ext
    obtain ⟨hd, hhd, hds, hdf, hdt, hdc⟩ : ∃ hd : Head, rs'.gss.heads[hA]? = some hd ∧ hd.state = s' ∧
        hd.frontier = F ∧ hd.tok.isSome = true ∧ (hc = true → hd.tok = sh.tok) := by
      cases hc with
      | false =>
        obtain ⟨hd, hhd, hs, hf, ht⟩ := hI.sub _ _ ns.sub.was
        exact ⟨hd, ns.heads_old hhd, hs, hf, ht, nofun⟩
      | true => exact ⟨_, ns.head_new rfl, rfl, hF, htok, fun _ => rfl⟩
    have hsub1 : SubOk rs'.gss F rs'.sub := fun s h hm => by
      rcases ns.sub.mem hm with ho | ⟨_, heq⟩
      · exact hI.sub.ext hx s h ho
      · cases heq; exact ⟨hd, hhd, hds, hdf, hdt⟩
    have hshok := hI.g.heads _ sh hsh
    have hg' := ns.ginv hI.g (fun _ => ⟨hT.tot.goto_range _ _ _ hgoto, Or.inr (hT.not_start htrans), hshok.span, hshok.tok⟩)
      hhd hhr (by rw [hds, hsym]; exact htrans) (by rw [hds, hsym, hdf]; exact hfit _ _)
    have hl := registerActions_listsOk (ec := ec) hT hhd hdt hdf (fun h => ⟨tk, by rw [hdc h, htk], rfl⟩) ns.edge rfl
      _ (rs.queue, rs.shifts, rs.accepted) (by rw [hds]; exact fun a h => h) (hI.lists.ext hx)
    rw [← ns.reg] at hl
    exact ⟨⟨hg', hsub1, hl⟩, hx⟩

end Rustemo.Glr
