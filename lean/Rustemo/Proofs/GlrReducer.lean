import Rustemo.Proofs.GlrReducePath
/-!
`RInv`, `Ext` and "no panic" are built into `reducerLoop_hoare`; what else is to be carried through the loop is a
`ReducerRule`, and rules are conjoined (`ReducerRule.and`): soundness needs none (`reducerLoop_sat`), the reduction closure
is one (`closureRule`, GlrClosureLoop).
-/

namespace Rustemo.Glr

variable {A E : Prop}

/-- a rule for the reducer loop: `I` holds between two pops of the queue; `J r sh ps` while the paths `ps` of the popped
    reduction `r` (start head `sh`) are still to be reduced.  Every call of `reducePath` is handed over as a `PathRun`;
    `RInv … rs'` and `Ext` beside it are what `PathRun.rinv` yields from `RInv … rs`, passed along so that no rule derives
    them again (the lemmas about a `PathRun` in GlrClosureLoop, GlrDerivable, GlrRunReducer take them the same way). -/
structure ReducerRule (env : Env) (F : Nat) (I : RState → Prop) (J : Reduction → Nat → List Path → RState → Prop) :
    Prop where
  pop : ∀ {rs : RState} {r : Reduction} {rest : List Reduction} {sh : Nat} {ps : List Path}, RInv env F rs →
    rs.queue = r :: rest → startHeadOf rs.gss r = .ok sh → findReductionPaths rs.gss r = .ok ps → I rs →
    J r sh ps { rs with queue := rest }
  step : ∀ {r : Reduction} {pr : Prod} {sh : Nat} {rs rs' : RState} {hd : Head} {q : Path} {ps : List Path} {tk : Tok}
    {hr : Head} {s' : Nat}, RInv env F rs → PathRun env F rs rs' r.prod r.len pr sh hd q tk hr s' → RInv env F rs' →
    Ext rs.gss rs'.gss → J r sh (q :: ps) rs → J r sh ps rs'
  done : ∀ {r : Reduction} {sh : Nat} {rs : RState}, J r sh [] rs → I rs

theorem ReducerRule.and {env : Env} {F : Nat} {I1 I2 : RState → Prop} {J1 J2 : Reduction → Nat → List Path → RState → Prop}
    (R1 : ReducerRule env F I1 J1) (R2 : ReducerRule env F I2 J2) :
    ReducerRule env F (fun rs => I1 rs ∧ I2 rs) (fun r sh ps rs => J1 r sh ps rs ∧ J2 r sh ps rs) :=
  ⟨fun hI hq hs hp h => ⟨R1.pop hI hq hs hp h.1, R2.pop hI hq hs hp h.2⟩,
   fun hI d hI' hx h => ⟨R1.step hI d hI' hx h.1, R2.step hI d hI' hx h.2⟩, fun h => ⟨R1.done h.1, R2.done h.2⟩⟩

theorem ReducerRule.of_inv {env : Env} {F : Nat} {Y : RState → Prop}
    (hq : ∀ (rs : RState) (q : List Reduction), Y rs → Y { rs with queue := q })
    (hY : ∀ {prod len : Nat} {pr : Prod} {sh : Nat} {rs rs' : RState} {hd : Head} {q : Path} {tk : Tok} {hr : Head} {s' : Nat},
      RInv env F rs → PathRun env F rs rs' prod len pr sh hd q tk hr s' → RInv env F rs' → Ext rs.gss rs'.gss → Y rs → Y rs') :
    ReducerRule env F Y (fun _ _ _ => Y) :=
  ⟨fun {rs _ rest _ _} _ _ _ _ h => hq rs rest h, fun hI d hI' hx h => hY hI d hI' hx h, fun h => h⟩

theorem foldPaths_hoare {env : Env} (hT : TableOk env) {F : Nat} {I : RState → Prop}
    {J : Reduction → Nat → List Path → RState → Prop} (R : ReducerRule env F I J) (r : Reduction) {pr : Prod} {sh : Nat} :
    ∀ (ps : List Path) (rs : RState) (hd : Head), RInv env F rs → (∀ q ∈ ps, PathCall env F rs.gss r.prod r.len pr sh hd q) →
      J r sh ps rs →
      SatE A E (fun rs' => RInv env F rs' ∧ Ext rs.gss rs'.gss ∧ J r sh [] rs') (foldO (reducePath env r.prod sh) ps rs) := by
  intro ps
  induction ps with
  | nil => exact fun rs _ hI _ hj => ⟨hI, Ext.refl _, hj⟩
  | cons q ps ih =>
    intro rs hd hI hc hj
    have c := hc q List.mem_cons_self
    refine SatE.bind (reducePath_spec (A := A) hT hI.g c) fun rs1 _ ⟨tk, hr, s', d⟩ => ?_
    obtain ⟨hI1, hx1⟩ := d.rinv hT hI
    obtain ⟨hd1, hhd1, _, hfr1, htk1⟩ := hx1.heads _ hd c.hsh
    refine (ih rs1 hd1 hI1 (fun q' hq' => ?_) (R.step hI d hI1 hx1 hj)).mono fun rs' ⟨k1, k2, k3⟩ => ⟨k1, hx1.trans k2, k3⟩
    have c' := hc q' (List.mem_cons_of_mem _ hq')
    exact ⟨c'.hpr, c'.hlen, c'.hnul, c'.haug, hhd1, tok_isSome_ext htk1 c'.htok, hfr1.trans c'.hF, c'.path.ext hx1⟩

theorem reducerLoop_hoare {env : Env} (hT : TableOk env) {F : Nat} {I : RState → Prop}
    {J : Reduction → Nat → List Path → RState → Prop} (R : ReducerRule env F I J) :
    ∀ (fuel : Nat) (rs : RState), RInv env F rs → I rs →
      SatE A E (fun rs' => RInv env F rs' ∧ Ext rs.gss rs'.gss ∧ I rs' ∧ rs'.queue = []) (reducerLoop env fuel rs) := by
  intro fuel
  induction fuel with
  | zero => exact fun _ _ _ => trivial
  | succ fuel ih =>
    intro rs hI hi
    unfold reducerLoop
    split
    · exact ⟨hI, Ext.refl _, hi, ‹rs.queue = []›⟩
    · rename_i r rest hq
      have hr : RedOk env rs.gss F r := hI.lists.queue r (by rw [hq]; exact List.mem_cons_self)
      have hI0 : RInv env F { rs with queue := rest } :=
        ⟨hI.g, hI.sub, ⟨fun x hx => hI.lists.queue x (by rw [hq]; exact List.mem_cons_of_mem _ hx), hI.lists.shifts, hI.lists.acc⟩⟩
      obtain ⟨pr, sh, hd, hso, hpaths⟩ := findReductionPaths_sat (A := A) hT hI.g hr
      unfold reduceOne
      refine SatE.bind (P := fun rs1 => RInv env F rs1 ∧ Ext rs.gss rs1.gss ∧ J r sh [] rs1)
        (SatE.bind_ok hso (SatE.bind hpaths fun ps hfp hps => ?_))
        fun rs1 _ ⟨hI1, hx1, hj1⟩ => (ih rs1 hI1 (R.done hj1)).mono fun rs' ⟨k1, k2, k3⟩ => ⟨k1, Ext.trans hx1 k2, k3⟩
      exact foldPaths_hoare hT R r ps _ hd hI0 hps (R.pop hI hq hso hfp hi)

theorem reducerLoop_sat {env : Env} (hT : TableOk env) {F : Nat} (fuel : Nat) (rs : RState) (hI : RInv env F rs) :
    SatE A E (fun rs' => RInv env F rs' ∧ Ext rs.gss rs'.gss) (reducerLoop env fuel rs) :=
  (reducerLoop_hoare hT (.of_inv (Y := fun _ => True) (fun _ _ _ => trivial) fun _ _ _ _ _ => trivial) fuel rs hI
    trivial).mono fun _ ⟨k1, k2, _, _⟩ => ⟨k1, k2⟩

theorem reduceAll_sat {env : Env} (hT : TableOk env) {F : Nat} (fuel : Nat) :
    ∀ (fr : List ((Pos × Nat) × SubFrontier)) (qs : List (List Reduction)) (st : St),
      StOk env F st → FrontierOk st.gss F fr → (∀ q ∈ qs, ∀ r ∈ q, RedOk env st.gss F r) →
      SatE A E (fun st' => StOk env F st' ∧ Ext st.gss st'.gss) (reduceAll env fuel fr qs st) := by
  intro fr
  induction fr with
  | nil => exact fun _ st hs _ _ => ⟨hs, Ext.refl _⟩
  | cons sf rest ih =>
    intro qs st hs hf hq
    unfold reduceAll
    have hhead : ∀ r ∈ qs.headD [], RedOk env st.gss F r := by
      cases qs with
      | nil => exact fun _ h => absurd h List.not_mem_nil
      | cons q _ => exact hq q List.mem_cons_self
    refine SatE.bind (reducerLoop_sat hT fuel _
      (RInv.of_parts hs.g (hf sf.1 sf.2 List.mem_cons_self) ⟨hhead, hs.shifts, hs.acc⟩)) fun rs _ ⟨hI', hx'⟩ => ?_
    have hx'' : Ext st.gss rs.gss := hx'
    exact (ih qs.tail { gss := rs.gss, shifts := rs.shifts, accepted := rs.accepted }
      ⟨hI'.g, hI'.lists.shifts, hI'.lists.acc⟩
      (FrontierOk.ext hx'' fun k sub hm => hf k sub (List.mem_cons_of_mem _ hm))
      (fun q hq' r hr => (hq q (List.mem_of_mem_tail hq') r hr).ext hx'')).mono
      fun st' ⟨h1, h2⟩ => ⟨h1, Ext.trans hx'' h2⟩

end Rustemo.Glr
