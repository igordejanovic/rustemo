import Rustemo.Proofs.GlrFrontier
import Rustemo.Proofs.GlrDerivable
import Rustemo.Proofs.GlrLevelDone
import Rustemo.Proofs.GlrClosure
/-!
The contracts of the run under `LexDet`.  One level of the main loop is `RunInv F` —`create_frontier`→ `Fresh` —reducer→ `Mid`
—shifter→ `AfterShift` → `RunInv (F+1)`; each phase file proves one step between two of them.
-/

namespace Rustemo.Glr

structure Head.At (hd : Head) (p : Pos) (tk : Tok) : Prop where
  pos : hd.pos = p
  tok : ∀ t, hd.tok = some t → t = tk

/-- level `F` before `create_frontier` -/
structure LevelBase (g : Gss) (F : Nat) (p : Pos) (base : List Nat) : Prop where
  nodup : base.Nodup
  at_ : ∀ h ∈ base, ∃ hd : Head, g.heads[h]? = some hd ∧ hd.frontier = F ∧ hd.pos = p ∧ hd.tok = none
  all : ∀ (h : Nat) (hd : Head), g.heads[h]? = some hd → hd.frontier = F → h ∈ base

/-- the invariant of the main loop before level `F`, under `LexDet`: the graph simulates the LR automaton on the tokens
    `tok 0 … tok (F-1)`.  Soundness half: `jinv` (every head has an LR stack spelling the tokens below it, `JInv.stack`).
    Completeness half: `done` (every finished level is closed under reductions and shifts, from which `push_tree_gss` pushes
    every derivation).  The rest is the shape of the graph (`gu`, `hfun`) and of the fresh level `F` (`lb`, `bterm`). -/
structure RunInv (env : Env) (tok : Nat → Tok) (P L : Nat → Pos) (F : Nat) (st : St) (base : List Nat)
    (subs : Nat → SubFrontier) : Prop where
  sok : StOk env F st
  jinv : JInv env tok st.gss
  noshift : st.shifts = []
  bterm : ∀ h ∈ base, TermEdges st.gss h
  gu : GU F st.gss
  lb : LevelBase st.gss F (P F) base
  done : ∀ k, k < F → LevelDone env st.gss tok k (subs k)
  acc : ∀ k, k < F → ∀ (s u : Nat), (s, u) ∈ subs k → Action.accept ∈ env.t.cell s (tok k).kind → u ∈ st.accepted
  below : ∀ (h : Nat) (hd : Head), st.gss.heads[h]? = some hd → hd.frontier < F →
    hd.At (L hd.frontier) (tok hd.frontier)
  hfun : HeadFun st.gss

theorem RunInv.bok {env : Env} {tok : Nat → Tok} {P L : Nat → Pos} {F : Nat} {st : St} {base : List Nat}
    {subs : Nat → SubFrontier} (RI : RunInv env tok P L F st base subs) : BaseOk st.gss F base := fun h hh =>
  ⟨let ⟨hd, k, f, _⟩ := RI.lb.at_ h hh; ⟨hd, k, f⟩, RI.bterm h hh⟩

/-- no edge inside the fresh level: a parent link of a base head carries a terminal node, which spans one level -/
theorem RunInv.bdown {env : Env} {tok : Nat → Tok} {P L : Nat → Pos} {F : Nat} {st : St} {base : List Nat} {subs : Nat → SubFrontier}
    (RI : RunInv env tok P L F st base subs) (e : Nat) (ed : Edge) (hs hd : Head) (he : st.gss.edges[e]? = some ed)
    (hhs : st.gss.heads[ed.src]? = some hs) (hhd : st.gss.heads[ed.dst]? = some hd) (hl : hs.frontier = F) :
    hd.frontier < F := by
  obtain ⟨⟨hs', hd', hhs', hhd', _, hfit⟩, hne⟩ := RI.sok.g.edges e ed he
  cases hhs.symm.trans hhs'
  cases hhd.symm.trans hhd'
  obtain ⟨n, hn⟩ := List.exists_mem_of_ne_nil _ (hne (by simp))
  obtain ⟨nd, hnd, hf⟩ := hfit n hn
  obtain ⟨tk, sp, ht⟩ := RI.bterm _ (RI.lb.all _ hs hhs hl) e ed he rfl n hn
  cases hnd.symm.trans ht
  obtain ⟨_, _, hd'', hhd'', hlv⟩ := hf
  cases hhd.symm.trans hhd''
  omega

/-- the heads of level `F` while it is in progress (from `create_frontier` to the end of the reducer) -/
structure LvH (env : Env) (tok : Nat → Tok) (F : Nat) (LF : Pos) (base : List Nat) (g : Gss) (sub : SubFrontier) : Prop where
  hd : ∀ (h : Nat) (hd : Head), g.heads[h]? = some hd → hd.frontier = F →
    hd.At LF (tok F) ∧ (h ∈ base ∨ (hd.state, h) ∈ sub) ∧
    (env.t.cell hd.state (tok F).kind ≠ [] → (hd.state, h) ∈ sub)
  sl : ∀ (s h : Nat), (s, h) ∈ sub → env.t.cell s (tok F).kind ≠ []

/-- one head per state on the level: live heads are keyed by the sub-frontier; dead ones are base heads, which were a
    function of level and state in the graph `g0` the level started from and have kept both since -/
theorem LvH.hfun {env : Env} {tok : Nat → Tok} {F F' : Nat} {LF : Pos} {base : List Nat} {g0 g : Gss} {sub : SubFrontier}
    (lv : LvH env tok F LF base g sub) (hsub : ∀ (s h h' : Nat), (s, h) ∈ sub → (s, h') ∈ sub → h = h')
    (f : FrameLt F' g0 g) (bex : ∀ i ∈ base, ∃ hd : Head, g0.heads[i]? = some hd) (hfun : HeadFun g0)
    (h h' : Nat) (hd hd' : Head) (hh : g.heads[h]? = some hd) (hh' : g.heads[h']? = some hd') (hl : hd.frontier = F)
    (hl' : hd'.frontier = F) (hs : hd.state = hd'.state) : h = h' := by
  obtain ⟨_, m1, a1⟩ := lv.hd h hd hh hl
  obtain ⟨_, m2, a2⟩ := lv.hd h' hd' hh' hl'
  by_cases hlive : env.t.cell hd.state (tok F).kind = []
  · have b1 := m1.resolve_right fun k => lv.sl _ _ k hlive
    have b2 := m2.resolve_right fun k => lv.sl _ _ k (hs ▸ hlive)
    obtain ⟨x, hx⟩ := bex h b1
    obtain ⟨y, hy⟩ := bex h' b2
    obtain ⟨x', hx', sx, fx⟩ := f.mono_heads h x hx
    obtain ⟨y', hy', sy, fy⟩ := f.mono_heads h' y hy
    cases Option.mem_unique hx' hh
    cases Option.mem_unique hy' hh'
    exact hfun h h' x y hx hy (fx.symm.trans (hl.trans (hl'.symm.trans fy))) (sx.symm.trans (hs.trans sy))
  · exact hsub _ h h' (a1 hlive) (hs ▸ a2 (hs ▸ hlive))

/-- contract between `create_frontier` and the reducer; `sub0`: the one sub-frontier of level `F` -/
structure Fresh (env : Env) (tok : Nat → Tok) (F : Nat) (LF : Pos) (base : List Nat) (g1 : Gss) (acc0 : List Nat)
    (sub0 : SubFrontier) : Prop where
  sok : StOk env F ⟨g1, [], acc0⟩
  jinv : JInv env tok g1
  uinv : UInv F (tok F).kind g1 sub0
  sub : SubOk g1 F sub0
  lv : LvH env tok F LF base g1 sub0

/-- what every `reducePath` on level `F` keeps, relative to the graph `g0` the reducer started on -/
structure RB (env : Env) (tok : Nat → Tok) (F : Nat) (LF : Pos) (base acc0 : List Nat) (g0 g : Gss) (sub : SubFrontier)
    (shifts : List (Nat × Nat)) (accepted : List Nat) : Prop where
  frame : FrameLt F g0 g
  lv : LvH env tok F LF base g sub
  shift : ∀ (s u s' : Nat), (s, u) ∈ sub → Action.shift s' ∈ env.t.cell s (tok F).kind → (u, s') ∈ shifts
  accept : ∀ (s u : Nat), (s, u) ∈ sub → Action.accept ∈ env.t.cell s (tok F).kind → u ∈ accepted
  accKept : ∀ x ∈ acc0, x ∈ accepted

/-- contract between reducer and shifter: what holds after the reducer phase of level `F` (graph `g1` after `create_frontier`);
    `red` is the part of `LevelDone` the reducer owes, `rb.shift` tells the shifter that every shift of the level is recorded -/
structure Mid (env : Env) (tok : Nat → Tok) (F : Nat) (LF : Pos) (base : List Nat) (g1 : Gss) (acc0 : List Nat) (sub : SubFrontier)
    (st3 : St) : Prop where
  sok : StOk env F st3
  jinv : JInv env tok st3.gss
  uinv : UInv F (tok F).kind st3.gss sub
  red : LevelRed env st3.gss tok F sub
  rb : RB env tok F LF base acc0 g1 st3.gss sub st3.shifts st3.accepted

/-- contract between the shifter and the next level; `st3`: the state after the reducer, `base'`: the heads of level `F + 1` -/
structure AfterShift (env : Env) (tok : Nat → Tok) (F : Nat) (PF1 : Pos) (st3 st' : St) (base' : List Nat) : Prop where
  sok : StOk env (F + 1) st'
  bterm : ∀ h ∈ base', TermEdges st'.gss h
  acc : st'.accepted = st3.accepted
  noshift : st'.shifts = []
  jinv : JInv env tok st'.gss
  frame : FrameLt (F + 1) st3.gss st'.gss
  gu : GU (F + 1) st'.gss
  shifted : ∀ x ∈ st3.shifts, ShiftedW st'.gss F (tok F) x
  lb : LevelBase st'.gss (F + 1) PF1 base'
  top : ∀ (h h' : Nat) (hd hd' : Head), st'.gss.heads[h]? = some hd → st'.gss.heads[h']? = some hd' →
    hd.frontier = F + 1 → hd'.frontier = F + 1 → hd.state = hd'.state → h = h'

end Rustemo.Glr
