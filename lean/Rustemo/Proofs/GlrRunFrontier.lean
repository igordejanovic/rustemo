import Rustemo.Proofs.GlrFrontier
import Rustemo.Proofs.GlrCompleteDefs
import Rustemo.Proofs.GlrRunContracts
/-!
`create_frontier` under `LexDet`: every base head of level `i` (no lookahead yet, position `P i`) moves to `L i`; the heads whose
state has an action on `tok i` get that token and form the one sub-frontier `(L i, kind (tok i))`; nothing else changes.
-/

namespace Rustemo.Glr

theorem FHStep.lexdet {env : Env} {pp : Bool} {fuel n : Nat} {tok : Nat → Tok} {P L : Nat → Pos}
    (hL : LexDet env pp fuel n tok P L) {i : Nat} (hi : i ≤ n) {g : Gss} {fr : Frontier} {h : Nat} {hd0 : Head}
    {r : Gss × Frontier} (s : FHStep env pp fuel g fr h hd0 r) (hrange : hd0.state < env.t.states.size) (htok : hd0.tok = none)
    (hpos : hd0.pos = P i) :
    ∃ hd' : Head, r.1 = g.setHead h hd' ∧ hd'.state = hd0.state ∧ hd'.frontier = hd0.frontier ∧ hd'.pos = L i ∧
      ((env.t.cell hd0.state (tok i).kind = [] ∧ hd'.tok = none ∧ r.2 = fr) ∨
       (env.t.cell hd0.state (tok i).kind ≠ [] ∧ hd'.tok = some (tok i) ∧
         r.2 = frInsert (L i, (tok i).kind) hd0.state h fr)) := by
  obtain ⟨hp, ht⟩ := hL.look i hi hd0.toCtx hpos hrange
  replace ht : (findLookaheadsCtx env pp fuel hd0.toCtx).2 =
    .ok (if (env.t.cell hd0.state (tok i).kind).isEmpty then [] else [tok i]) := ht
  by_cases hc : env.t.cell hd0.state (tok i).kind = []
  · rw [if_pos (List.isEmpty_iff.mpr hc)] at ht
    cases s with
    | keep tk h => exact nomatch htok.symm.trans h
    | dead cx _ hr hl =>
      rw [hr] at hp
      exact ⟨_, rfl, hl.1, rfl, hp, Or.inl ⟨hc, htok, rfl⟩⟩
    | live cx tk more _ hr _ => rw [hr] at ht; cases ht
  · rw [if_neg (mt List.isEmpty_iff.mp hc)] at ht
    cases s with
    | keep tk h => exact nomatch htok.symm.trans h
    | dead cx _ hr _ => rw [hr] at ht; cases ht
    | live cx tk more _ hr hl =>
      rw [hr] at hp ht
      cases ht
      have hp : cx.pos = L i := hp
      refine ⟨{ hd0.withCtx cx with tok := some (tok i) }, rfl, hl.1, rfl, hp, Or.inr ⟨hc, rfl, ?_⟩⟩
      rw [← hp, ← hl.1]
      rfl

theorem FHStep.lexdet_frame {env : Env} {pp : Bool} {fuel n : Nat} {tok : Nat → Tok} {P L : Nat → Pos}
    (hL : LexDet env pp fuel n tok P L) {F : Nat} (hF : F ≤ n) {g0 g : Gss} {fr : Frontier} {h : Nat} {hd0 : Head}
    {r : Gss × Frontier} (s : FHStep env pp fuel g fr h hd0 r) (hh : g.heads[h]? = some hd0)
    (hrange : hd0.state < env.t.states.size) (htok : hd0.tok = none) (hpos : hd0.pos = P F) (hlv : hd0.frontier = F)
    (f : FrameLt F g0 g) (u : GU F g) (hJ : JInv env tok g) : FrameLt F g0 r.1 ∧ GU F r.1 ∧ JInv env tok r.1 := by
  obtain ⟨hd', hg2, e1, e2, _, _⟩ := s.lexdet hL hF hrange htok hpos
  rw [hg2]
  exact ⟨f.trans (frame_setHead F g h hd0 hd' hh (Nat.le_of_eq hlv.symm) e2 e1), u.setHead h hd0 hd' hh e2,
    hJ.same (ext_setHead g h hd0 hd' hh e1 e2 fun tk ht => nomatch htok.symm.trans ht) rfl (setHead_size g h hd')⟩

/-- `g'`, `sub`: what `create_frontier` has made of the heads of `g` when it has worked through the base heads `l` -/
structure CFSpec (env : Env) (tk : Tok) (LF : Pos) (l : List Nat) (g g' : Gss) (sub : SubFrontier) : Prop where
  bwd : ∀ (i : Nat) (x : Head), g'.heads[i]? = some x → ∃ y : Head, g.heads[i]? = some y ∧ x.state = y.state ∧
    x.frontier = y.frontier ∧ (i ∉ l → x = y) ∧ (i ∈ l → x.At LF tk ∧
      (env.t.cell y.state tk.kind ≠ [] → (y.state, i) ∈ sub))
  sub : ∀ (s i : Nat), (s, i) ∈ sub → i ∈ l ∧ env.t.cell s tk.kind ≠ [] ∧
    ∃ x : Head, g'.heads[i]? = some x ∧ x.state = s ∧ x.tok = some tk

variable {env : Env} {pp : Bool} {fuel n : Nat} {tok : Nat → Tok} {P L : Nat → Pos}

theorem createFrontier_run
    (hL : LexDet env pp fuel n tok P L) {F : Nat} (hF : F ≤ n) {st : St} {base : List Nat}
    {subs : Nat → SubFrontier} (RI : RunInv env tok P L F st base subs) {g1 : Gss} {fr : Frontier}
    (hcf : createFrontier env pp fuel st.gss base = .ok (g1, fr)) :
    ∃ sub0, FrShape (L F, (tok F).kind) fr sub0 ∧ Fresh env tok F (L F) base g1 st.accepted sub0 ∧
      FrameLt F st.gss g1 := by
  have hbF : ∀ i ∈ base, ∀ y : Head, st.gss.heads[i]? = some y → y.frontier = F := fun i hi y hy =>
    let ⟨z, hz, hf, _⟩ := RI.lb.at_ i hi; Option.mem_unique hz hy ▸ hf
  obtain ⟨hg1, hx1, _, frame, hgu, hJ1, sub0, hshape, sp⟩ :=
    (createFrontier_hoare (A := True) (E := True) (fun h => absurd trivial h) pp fuel RI.sok.g RI.bok
      (I := fun pre r => FrameLt F st.gss r.1 ∧ GU F r.1 ∧ JInv env tok r.1 ∧
        ∃ sub, FrShape (L F, (tok F).kind) r.2 sub ∧ CFSpec env (tok F) (L F) pre st.gss r.1 sub)
      ⟨FrameLt.refl _ _, RI.gu, RI.jinv, [], Or.inl ⟨rfl, rfl⟩,
        fun _ x h => ⟨x, h, rfl, rfl, fun _ => rfl, fun h => absurd h List.not_mem_nil⟩,
        fun _ _ h => absurd h List.not_mem_nil⟩ (by
        intro pre a post g1 fr1 hd0 ⟨g2, fr2⟩ hl hg1 _ _ hhd0 step ⟨f1, u1, hJ, sub, hs, sp⟩
        dsimp only at hs sp f1 u1 hJ ⊢
        have ha : a ∈ base := hl ▸ List.mem_append_right _ List.mem_cons_self
        have hpre : ∀ i ∈ pre, i ∈ base ∧ ¬ a = i := fun i hi =>
          ⟨hl ▸ List.mem_append_left _ hi, fun h => (List.nodup_append.mp (hl ▸ RI.lb.nodup)).2.2 i hi a List.mem_cons_self h.symm⟩
        -- the head `a` is still as it was
        obtain ⟨y0, hy0, _, hpos0, htok0⟩ := RI.lb.at_ a ha
        obtain ⟨y, hy, _, _, hxy, _⟩ := sp.bwd a hd0 hhd0
        obtain rfl : y0 = hd0 := ((hxy fun h => (hpre a h).2 rfl).trans (Option.mem_unique hy hy0)).symm
        obtain ⟨hd', hg2, e1, e2, e3, hcase⟩ := step.lexdet hL hF (hg1.heads a _ hhd0).range htok0 hpos0
        dsimp only at hg2 hcase
        have hh2 : g2.heads[a]? = some hd' := by rw [hg2, setHead_heads, if_pos rfl, if_pos (lt_size_of_getElem? hhd0)]
        have hother : ∀ i, ¬ a = i → g2.heads[i]? = g1.heads[i]? := fun i hne => by rw [hg2, setHead_heads, if_neg hne]
        obtain ⟨sub2, hs2, htk, hal, hin, hout⟩ : ∃ sub2, FrShape (L F, (tok F).kind) fr2 sub2 ∧
            (∀ t, hd'.tok = some t → t = tok F) ∧
            (env.t.cell y0.state (tok F).kind ≠ [] → (y0.state, a) ∈ sub2) ∧
            (∀ z ∈ sub2, (z = (y0.state, a) ∧ env.t.cell y0.state (tok F).kind ≠ [] ∧ hd'.tok = some (tok F)) ∨ z ∈ sub) ∧
            (∀ z ∈ sub, z.1 ≠ y0.state → z ∈ sub2) := by
          rcases hcase with ⟨c1, c2, c3⟩ | ⟨c1, c2, c3⟩
          · exact ⟨sub, c3 ▸ hs, fun t ht => (nomatch c2.symm.trans ht), fun h => absurd c1 h, fun z hz => Or.inr hz, fun z hz _ => hz⟩
          · have hins := sfInsert_ins y0.state a sub
            exact ⟨_, c3 ▸ hs.insert _ _, fun t ht => (Option.some.inj (c2.symm.trans ht)).symm,
              fun _ => hins.self, fun z hz => (hins.mem hz).imp_left fun h => ⟨h, c1, c2⟩, fun z hz hne => hins.old hz hne⟩
        obtain ⟨f2, u2, hJ2⟩ := step.lexdet_frame hL hF hhd0 (hg1.heads a _ hhd0).range htok0 hpos0 (hbF a ha _ hy0) f1 u1 hJ
        refine ⟨f2, u2, hJ2, sub2, hs2, ?_, ?_⟩
        · intro i x hi
          by_cases hai : a = i
          · subst hai
            cases Option.mem_unique hh2 hi
            exact ⟨y0, hy0, e1, e2, fun h => absurd (List.mem_append_right _ List.mem_cons_self) h, fun _ => ⟨⟨e3, htk⟩, hal⟩⟩
          · rw [hother i hai] at hi
            obtain ⟨y, hy, k1, k2, k3, k4⟩ := sp.bwd i x hi
            refine ⟨y, hy, k1, k2, fun h => k3 fun hp => h (List.mem_append_left _ hp), fun h => ?_⟩
            have hip : i ∈ pre := (List.mem_append.mp h).resolve_right fun h' => hai (List.mem_singleton.mp h').symm
            obtain ⟨p1, p3⟩ := k4 hip
            exact ⟨p1, fun hne => hout _ (p3 hne) fun heq => hai (RI.hfun a i y0 y hy0 hy
              ((hbF a ha y0 hy0).trans (hbF i (hpre i hip).1 y hy).symm) heq.symm)⟩
        · intro s i hm
          rcases hin _ hm with ⟨heq, c1, c2⟩ | hold
          · cases heq
            exact ⟨List.mem_append_right _ List.mem_cons_self, c1, hd', hh2, e1, c2⟩
          · obtain ⟨k1, k2, x, k3⟩ := sp.sub s i hold
            exact ⟨List.mem_append_left _ k1, k2, x, by rw [hother i (hpre i k1).2]; exact k3.1, k3.2⟩

      )).of_ok hcf
  have hsub : ∀ (s h : Nat), (s, h) ∈ sub0 → ∃ x : Head, g1.heads[h]? = some x ∧ x.state = s ∧ x.frontier = F ∧
      x.tok = some (tok F) ∧ h ∈ base := by
    intro s h hm
    obtain ⟨hb, _, x, hx, k1, k2⟩ := sp.sub s h hm
    obtain ⟨y, hy, _, hf, _⟩ := sp.bwd h x hx
    exact ⟨x, hx, k1, hf.trans (hbF h hb y hy), k2, hb⟩
  refine ⟨sub0, hshape, ⟨⟨hg1, fun _ h => by simp at h, fun a h => (RI.sok.acc a h).ext hx1.ext⟩, hJ1,
    ⟨hgu.edgeUniq, ?_, ?_, hgu.noAbove, hgu.edgeMono, ?_⟩, ?_, ⟨?_, fun s h hm => (sp.sub s h hm).2.1⟩⟩, frame⟩
  · intro s h h' hm hm'
    obtain ⟨x, hx, sx, _, _, hb⟩ := hsub s h hm
    obtain ⟨x', hx', sx', _, _, hb'⟩ := hsub s h' hm'
    obtain ⟨y, hy, sy, _⟩ := sp.bwd h x hx
    obtain ⟨y', hy', sy', _⟩ := sp.bwd h' x' hx'
    exact RI.hfun h h' y y' hy hy' ((hbF h hb y hy).trans (hbF h' hb' y' hy').symm) (by rw [← sy, ← sy', sx, sx'])
  · -- no edge inside the level: an edge of `g1` is an edge of the start graph, whose base heads only have edges downwards
    intro e ed hs hd he h1 h2 hl hdl
    obtain ⟨y1, k1, _, f1, _⟩ := sp.bwd _ _ h1
    obtain ⟨y2, k2, _, f2, _⟩ := sp.bwd _ _ h2
    have he0 := (hx1.edges e ed he).resolve_right (Nat.not_le.mpr (lt_size_of_getElem? k1))
    exact absurd (f2.symm.trans hdl ▸ RI.bdown e ed y1 y2 he0 k1 k2 (f1.symm.trans hl)) (Nat.lt_irrefl F)
  · intro s h hm
    obtain ⟨x, hx, _, _, ht, _⟩ := hsub s h hm
    exact ⟨x, tok F, hx, ht, rfl⟩
  · intro s h hm
    obtain ⟨x, hx, k1, k2, ht, _⟩ := hsub s h hm
    exact ⟨x, hx, k1, k2, by rw [ht]; rfl⟩
  · -- a head of the level is a base head
    intro h x hh hl
    obtain ⟨y, hy, sx, fx, _, hin⟩ := sp.bwd h x hh
    have hb := RI.lb.all h y hy (fx.symm.trans hl)
    obtain ⟨p1, p3⟩ := hin hb
    exact ⟨p1, Or.inl hb, fun hne => sx ▸ p3 (sx ▸ hne)⟩

end Rustemo.Glr
