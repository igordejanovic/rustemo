import Rustemo.Proofs.GlrRunReducer
import Rustemo.Proofs.GlrRunShifter
/-!
One level of the main loop keeps the run invariant: `RunInv F` —`createFrontier_run`→ `Fresh` —`reducer_run`→ `Mid`
—`shifter_run`→ `AfterShift` —`runInv_next`→ `RunInv (F+1)` (`frontierStep_run`).
-/

namespace Rustemo.Glr

variable {env : Env} {pp : Bool} {fuel n : Nat} {tok : Nat → Tok} {P L : Nat → Pos}

theorem RunInv.start0 {F : Nat} {st : St} {subs : Nat → SubFrontier} (RI : RunInv env tok P L F st [] subs)
    (halive0 : env.t.cell 0 (tok 0).kind ≠ []) : 0 < F ∧ (0, 0) ∈ subs 0 := by
  obtain ⟨hd, k1, k2, k3⟩ := RI.jinv.h0
  have hF : 0 < F := Nat.pos_of_ne_zero fun h0 => nomatch RI.lb.all 0 hd k1 (k3.trans h0.symm)
  have := (RI.done 0 hF).alive 0 hd k1 k3 (k2 ▸ halive0)
  rw [k2] at this
  exact ⟨hF, this⟩

theorem runInv_next {F : Nat} {st st3 st' : St}
    {base base' : List Nat} {subs : Nat → SubFrontier} {g1 : Gss} {sub : SubFrontier}
    (RI : RunInv env tok P L F st base subs) (frame0 : FrameLt F st.gss g1)
    (mid : Mid env tok F (L F) base g1 st.accepted sub st3) (nx : AfterShift env tok F (P (F + 1)) st3 st' base') :
    RunInv env tok P L (F + 1) st' base' (fun k => if k = F then sub else subs k) := by
  have hframeAll : FrameLt F st.gss st'.gss := (frame0.trans mid.rb.frame).trans (nx.frame.mono (Nat.le_succ F))
  have hlv : ∀ (h : Nat) (hd : Head), st'.gss.heads[h]? = some hd →
      (hd.frontier < F ∧ st.gss.heads[h]? = some hd) ∨ (hd.frontier = F ∧ st3.gss.heads[h]? = some hd) ∨
      hd.frontier = F + 1 := by
    intro h hd hh
    have := nx.gu.noAbove h hd hh
    rcases Nat.lt_trichotomy hd.frontier F with hlt | heq | hgt
    · exact Or.inl ⟨hlt, hframeAll.heads_bwd h hd hh hlt⟩
    · exact Or.inr (Or.inl ⟨heq, nx.frame.heads_bwd h hd hh (Nat.lt_succ_of_le (Nat.le_of_eq heq))⟩)
    · exact Or.inr (Or.inr (Nat.le_antisymm this hgt))
  refine ⟨nx.sok, nx.jinv, nx.noshift, nx.bterm, nx.gu, nx.lb, ?_, ?_, ?_, ?_⟩
  · intro k hk
    by_cases hkF : k = F
    · subst hkF
      simp only [↓reduceIte]
      have hr := mid.red.frame nx.frame (Nat.lt_succ_self k) nx.gu
      exact hr.done fun s u s' hs hact => nx.shifted _ (mid.rb.shift s u s' hs hact)
    · simp only [hkF, ↓reduceIte]
      have hkl : k < F := Nat.lt_of_le_of_ne (Nat.le_of_lt_succ hk) hkF
      exact (RI.done k hkl).frame hframeAll hkl nx.gu
  · intro k hk s u hs hact
    rw [nx.acc]
    by_cases hkF : k = F
    · subst hkF
      simp only [↓reduceIte] at hs
      exact mid.rb.accept s u hs hact
    · simp only [hkF, ↓reduceIte] at hs
      exact mid.rb.accKept _ (RI.acc k (Nat.lt_of_le_of_ne (Nat.le_of_lt_succ hk) hkF) s u hs hact)
  · intro h hd hh hl
    rcases hlv h hd hh with ⟨hlt, h0⟩ | ⟨hF', h3⟩ | hF1
    · exact RI.below h hd h0 hlt
    · rw [hF']
      exact (mid.rb.lv.hd h hd h3 hF').1
    · exact absurd (hF1 ▸ hl) (Nat.lt_irrefl _)
  · intro h h' hd hd' hh hh' hl hs
    rcases hlv h hd hh with ⟨hlt, h0⟩ | ⟨hF', h3⟩ | hF1
    · exact RI.hfun h h' hd hd' h0 (hframeAll.heads_bwd h' hd' hh' (hl ▸ hlt)) hl hs
    · have hF'' := hl.symm.trans hF'
      exact mid.rb.lv.hfun mid.uinv.subFun (frame0.trans mid.rb.frame) (fun i hi => let ⟨x, hx, _⟩ := RI.lb.at_ i hi; ⟨x, hx⟩)
        RI.hfun h h' hd hd' h3 (nx.frame.heads_bwd h' hd' hh' (Nat.lt_succ_of_le (Nat.le_of_eq hF''))) hF' hF'' hs
    · exact nx.top h h' hd hd' hh hh' hF1 (hl.symm.trans hF1) hs

theorem frontierStep_run (hK : CertOk env)
    (hL : LexDet env pp fuel n tok P L) {F : Nat} (hF : F ≤ n) {st st' : St} {base base' : List Nat}
    {subs : Nat → SubFrontier} (RI : RunInv env tok P L F st base subs)
    (hok : frontierStep env pp fuel F st base = .ok (st', base')) :
    (F = n → base' = []) ∧ (∀ h ∈ base, ∃ hd : Head, st'.gss.heads[h]? = some hd ∧ hd.frontier = F) ∧
    ∃ sub, RunInv env tok P L (F + 1) st' base' (fun k => if k = F then sub else subs k) := by
  unfold frontierStep at hok
  obtain ⟨⟨g1, fr⟩, hcf, hok⟩ := obind_eq_ok hok
  obtain ⟨⟨qs, st2⟩, hip, hok⟩ := obind_eq_ok hok
  obtain ⟨st3, hra, hsh⟩ := obind_eq_ok hok
  simp only at hip hra hsh
  have hst1 : ({ st with gss := g1 } : St) = ⟨g1, [], st.accepted⟩ := by
    have := RI.noshift
    cases st
    simp only at this
    subst this
    rfl
  rw [hst1] at hip
  obtain ⟨sub0, hshape, c, frame0⟩ := createFrontier_run hL hF RI hcf
  obtain ⟨sub, mid⟩ := reducer_run hK c hshape hip hra
  -- a recorded shift is on `tok F` from a head at `L F`; STOP is not shifted, so the last level records none
  have hfacts : ∀ x ∈ st3.shifts, F < n ∧ ∃ hd : Head, st3.gss.heads[x.1]? = some hd ∧ hd.tok = some (tok F) ∧
      hd.pos = L F ∧ posAfter (sliceOf env.input (tok F).val) (L F) = P (F + 1) := by
    intro x hx
    obtain ⟨hd, tk', k1, k2, k3, k4⟩ := mid.sok.shifts x hx
    obtain ⟨p, _⟩ := mid.rb.lv.hd _ hd k1 k3
    cases p.tok tk' k2
    have hFn : F < n := Nat.lt_of_le_of_ne hF fun h => hK.complete.noShiftStop hd.state x.2 (by rw [← hL.stop, ← h]; exact k4)
    exact ⟨hFn, hd, k1, k2, p.pos, (hL.step F hFn).symm⟩
  have nx := shifter_run hK.table mid.sok mid.uinv.toGU mid.jinv (fun x hx => (hfacts x hx).2) hsh
  refine ⟨fun h => shifter_nil (List.eq_nil_iff_forall_not_mem.mpr fun x hx => Nat.lt_irrefl n (h ▸ (hfacts x hx).1)) hsh,
    ?_, sub, runInv_next RI frame0 mid nx⟩
  intro h hh
  obtain ⟨hd, k1, k4, _⟩ := RI.lb.at_ h hh
  obtain ⟨hd', m1, _, m3⟩ := ((frame0.trans mid.rb.frame).trans (nx.frame.mono (Nat.le_succ F))).mono_heads h hd k1
  exact ⟨hd', m1, m3.trans k4⟩

end Rustemo.Glr
