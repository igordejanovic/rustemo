import Rustemo.Proofs.GlrRunLevel
/-!
The main loop under `LexDet`: `RunInv` holds of the start graph (`runInv_start`) and is kept level by level
(`frontierStep_run`), so a run ends by fuel, by panic, or in a state `Final`: the run invariant with an empty base, the outcome
being the forest of the accepted heads or the error made from the last non-empty base (`mainLoop_inv`, `parse_final`).
-/

namespace Rustemo.Glr

variable {env : Env} {pp : Bool} {fuel n : Nat} {tok : Nat → Tok} {P L : Nat → Pos}

/-- `lastBase` when the base is empty: the (non-empty) base of the level before -/
def LastAt (g : Gss) (F : Nat) (lastBase : List Nat) : Prop :=
  lastBase ≠ [] ∧ ∀ h ∈ lastBase, ∃ hd : Head, g.heads[h]? = some hd ∧ hd.frontier + 1 = F

def Final (env : Env) (n : Nat) (tok : Nat → Tok) (P L : Nat → Pos) (o : Outcome GlrResult) : Prop :=
  ∃ (F : Nat) (st : St) (lastBase : List Nat) (subs : Nat → SubFrontier), RunInv env tok P L F st [] subs ∧ F ≤ n + 1 ∧
    LastAt st.gss F lastBase ∧
    o = (if !st.accepted.isEmpty then .ok ⟨st.gss, forestRoots st.gss st.accepted⟩ else makeError env st.gss lastBase)

theorem mainLoop_inv (hK : CertOk env)
    (hL : LexDet env pp fuel n tok P L) :
    ∀ (cnt F : Nat) (st : St) (base lastBase : List Nat) (subs : Nat → SubFrontier),
      RunInv env tok P L F st base subs → F ≤ n + 1 → (F = n + 1 → base = []) → (base = [] → LastAt st.gss F lastBase) →
      (mainLoop env pp fuel cnt F st base lastBase = .fuel) ∨ (∃ s, mainLoop env pp fuel cnt F st base lastBase = .panic s) ∨
      Final env n tok P L (mainLoop env pp fuel cnt F st base lastBase)
  | 0, _, _, _, _, _, _, _, _, _ => Or.inl rfl
  | cnt+1, F, st, base, lastBase, subs, RI, hF, hlast, hlb => by
    unfold mainLoop
    cases base with
    | nil => exact Or.inr (Or.inr ⟨F, st, lastBase, subs, RI, hF, hlb rfl, rfl⟩)
    | cons b rest =>
      simp only
      have hFn : F ≤ n :=
        Nat.le_of_lt_succ ((Nat.lt_or_eq_of_le hF).resolve_right fun h => List.cons_ne_nil _ _ (hlast h))
      cases hstep : frontierStep env pp fuel F st (b :: rest) with
      | ok x =>
        obtain ⟨st', base'⟩ := x
        obtain ⟨hlast', hkeep, sub, RI'⟩ := frontierStep_run hK hL hFn RI hstep
        refine mainLoop_inv hK hL cnt (F + 1) st' base' _ _ RI' (Nat.succ_le_succ hFn)
          (fun heq => hlast' (Nat.succ.inj heq)) fun hb' => ?_
        subst hb'
        exact ⟨List.cons_ne_nil _ _, fun h hh => let ⟨hd, k1, k2⟩ := hkeep h hh; ⟨hd, k1, by rw [k2]⟩⟩
      | err e =>
        -- inside a level no function of the engine returns an error
        exact absurd hstep ((frontierStep_sat (A := True) (E := False) hK.table (fun h => absurd trivial h) pp fuel RI.sok RI.bok).not_err e)
      | panic s => exact Or.inr (Or.inl ⟨s, rfl⟩)
      | fuel => exact Or.inl rfl

theorem runInv_start (hT : TableOk env) (hp0 : P 0 = Pos.start)
    (subs : Nat → SubFrontier) :
    RunInv env tok P L 0 { gss := (({} : Gss).addHead startHead).1 } [(({} : Gss).addHead startHead).2] subs := by
  refine ⟨(startGraph_ok hT).1,
    ⟨⟨startHead, startGraph_head, rfl, rfl⟩, fun e ed he => absurd he startGraph_noEdge, fun h hd hh => (startGraph_heads hh).1 ▸ Conn.start⟩,
    rfl, (fun h hh => ((startGraph_ok hT).2 h hh).2), ?_, ⟨List.pairwise_singleton _ _, ?_, ?_⟩,
    fun k hk => absurd hk (Nat.not_lt_zero k), fun k hk => absurd hk (Nat.not_lt_zero k),
    fun h hd hh hl => absurd hl (Nat.not_lt_zero _), ?_⟩
  · refine ⟨fun e e' ed ed' he => absurd he startGraph_noEdge, fun e ed hs hd he => absurd he startGraph_noEdge, ?_⟩
    intro h hd hh
    obtain ⟨_, rfl⟩ := startGraph_heads hh
    exact Nat.le_refl 0
  · intro h hh
    simp only [addHead_idx, List.mem_singleton] at hh
    subst hh
    exact ⟨startHead, startGraph_head, rfl, by rw [hp0]; rfl, rfl⟩
  · intro h hd hh _
    exact (startGraph_heads hh).1 ▸ List.mem_cons_self
  · intro h h' hd hd' hh hh' _ _
    rw [(startGraph_heads hh).1, (startGraph_heads hh').1]

theorem parse_final (hK : CertOk env)
    (hL : LexDet env pp fuel n tok P L) :
    (parse env pp fuel = .fuel) ∨ (∃ s, parse env pp fuel = .panic s) ∨ Final env n tok P L (parse env pp fuel) :=
  mainLoop_inv hK hL fuel 0 _ _ [] (fun _ => []) (runInv_start hK.table hL.p0 _) (Nat.zero_le _)
    (fun h0 => absurd h0 (Nat.succ_ne_zero n).symm) (fun h => nomatch h)

theorem parse_ok_final (hK : CertOk env)
    (hL : LexDet env pp fuel n tok P L) {r : GlrResult} (ho : parse env pp fuel = .ok r) :
    ∃ (F : Nat) (st : St) (subs : Nat → SubFrontier), RunInv env tok P L F st [] subs ∧ F ≤ n + 1 ∧
      st.accepted ≠ [] ∧ r = ⟨st.gss, forestRoots st.gss st.accepted⟩ := by
  rcases parse_final hK hL with h | ⟨s, h⟩ | ⟨F, st, lastBase, subs, RI, hF, hlast, hoe⟩
  · rw [h] at ho; cases ho
  · rw [h] at ho; cases ho
  · rw [ho] at hoe
    split at hoe
    · rename_i hc
      exact ⟨F, st, subs, RI, hF, fun h0 => (by rw [h0] at hc; cases hc), Outcome.ok.inj hoe⟩
    · obtain ⟨_, _, _, _, _, _, h⟩ := makeError_eq hK.table RI.sok.g hlast.1 fun h hh => (hlast.2 h hh).imp fun _ k => k.1
      rw [h] at hoe; cases hoe

theorem parse_err_final (hK : CertOk env) (hL : LexDet env pp fuel n tok P L) {e : PErr}
    (he : parse env pp fuel = .err e) : Final env n tok P L (.err e) := by
  rcases parse_final hK hL with h | ⟨s, h⟩ | h
  · rw [h] at he; cases he
  · rw [h] at he; cases he
  · exact he ▸ h

end Rustemo.Glr
