import Rustemo.Proofs.GlrClosureLoop
import Rustemo.Proofs.GlrDerivable
import Rustemo.Proofs.GlrLevelDone
import Rustemo.Proofs.GlrRunFrontier
import Rustemo.Proofs.GlrInitial
/-!
The reducer phase of one level under `LexDet`, where the frontier has at most one sub-frontier: from `Fresh` (what `create_frontier`
left) to `Mid` (`reducer_run`).  Three rules ride through the one reducer loop: the reduction closure (`closureRule`, started by
`start_closure` from what `initial_process_frontier` queued, `IFSpec`), the book-keeping `RB` (shifts and accepts of every entry of
the sub-frontier recorded, lower levels untouched, the heads of the level as `LvH` says) and `JInv`.
-/

namespace Rustemo.Glr

theorem PathRun.rb {env : Env} {tok : Nat → Tok} {F : Nat} {LF : Pos} {base acc0 : List Nat} {g0 : Gss} {rs rs' : RState}
    {p0 len : Nat} {pr : Prod} {startHead : Nat} {sh : Head} {tk : Tok} {q : Path} {hr : Head} {s' : Nat} (hI : RInv env F rs)
    (hI' : RInv env F rs') (d : PathRun env F rs rs' p0 len pr startHead sh q tk hr s')
    (hb : RB env tok F LF base acc0 g0 rs.gss rs.sub rs.shifts rs.accepted) :
    RB env tok F LF base acc0 g0 rs'.gss rs'.sub rs'.shifts rs'.accepted := by
  have hka : tk = tok F := (hb.lv.hd startHead sh d.hsh d.hF).1.tok tk d.htk
  cases d.step with
  | skip _ heq => subst heq; exact hb
  | fold hA e ed g' hne fr =>
    obtain ⟨hget, hed, hsrc, -, -, hspec, rfl⟩ := fr
    obtain ⟨hdA, hhA, _, hAF, _⟩ := hI.sub _ _ hget
    -- only nodes change
    exact ⟨hb.frame.trans (hspec.frame F hI.g hed (hsrc ▸ hhA) (Nat.le_of_eq hAF.symm) fun _ h => h),
      ⟨fun i hd hi => hb.lv.hd i hd (hspec.heads ▸ hi), hb.lv.sl⟩, hb.shift, hb.accept, hb.accKept⟩
  | new hA e n hc ec poss span hne ns =>
    rw [hka] at ns
    obtain ⟨_, hhA, _, hAF, _⟩ := hI'.sub _ _ ns.sub.self
    refine ⟨hb.frame.trans (ns.toSol.frame hhA (Nat.le_of_eq hAF.symm) fun _ _ _ he hn => hI.g.poss_lt he hn), ⟨?_, ?_⟩, ?_, ?_,
      fun x hx => ns.mem_accepted.mpr (Or.inl (hb.accKept x hx))⟩
    · -- a new head is the head of the goto state, a copy of the start head, and an entry of the sub-frontier
      intro i hd hi hiF
      rcases ns.heads_new hi with ho | ⟨_, hi', hd'⟩
      · obtain ⟨k1, k3, k4⟩ := hb.lv.hd i hd ho hiF
        exact ⟨k1, k3.imp_right ns.sub.old, fun hl => ns.sub.old (k4 hl)⟩
      · subst hd'
        obtain ⟨k1, _, _⟩ := hb.lv.hd startHead sh d.hsh d.hF
        exact ⟨⟨k1.pos, k1.tok⟩, Or.inr (hi' ▸ ns.sub.self), fun _ => hi' ▸ ns.sub.self⟩
    · intro s u hs
      rcases ns.sub.mem hs with ho | ⟨_, hx⟩
      · exact hb.lv.sl s u ho
      · cases hx
        exact hka ▸ hne
    · intro s u s' hs hact
      rcases ns.sub.mem hs with ho | ⟨hcb, hx⟩
      · exact ns.mem_shifts.mpr (Or.inl (hb.shift s u s' ho hact))
      · cases hx; exact ns.mem_shifts.mpr (Or.inr ⟨hcb, s', hact, rfl⟩)
    · intro s u hs hact
      rcases ns.sub.mem hs with ho | ⟨hcb, hx⟩
      · exact ns.mem_accepted.mpr (Or.inl (hb.accept s u ho hact))
      · cases hx; exact ns.mem_accepted.mpr (Or.inr ⟨hcb, hact, rfl⟩)

theorem start_closure {env : Env} (hC : CompleteRN env.g env.t) {F a : Nat} {g : Gss} {sub : SubFrontier}
    (hg : GInv env g) (hsub : SubOk g F sub)
    {acc r : List Reduction × List (Nat × Nat) × List Nat} (hsp : IFSpec env g a sub acc r)
    (hacc : acc.1 = []) :
    QSub ⟨g, r.1, r.2.1, r.2.2, sub⟩ ∧ RCInv env F a ⟨g, r.1, r.2.1, r.2.2, sub⟩ := by
  constructor
  · intro x hx
    rcases hsp.q_inv x hx with h | ⟨s, h, hm, hh⟩
    · rw [hacc] at h; simp at h
    · refine ⟨h, ?_, ⟨s, hm⟩⟩
      unfold startHeadOf
      rcases hh with hh | ⟨e, he, hh⟩
      · rw [hh]
      · rw [hh]
        obtain ⟨ed, hed, hsrc⟩ := mem_backedges.mp he
        simp only [edge_ok hed, obind, hsrc]
  · intro u p pr P s' hk
    right; left
    obtain ⟨v, hch, sv, hin⟩ := hk.chain
    obtain ⟨hv, hhv, hvs, hvF, _⟩ := hsub sv v hin
    have hact : Action.reduce p P.length ∈ env.t.cell sv a :=
      hvs ▸ hk.reduce_at hC hg (Nat.le_refl _) (by simpa using hch) hhv hvF
    cases hP : P with
    | nil =>
      subst hP
      have huv : u = v := hch.2
      refine ⟨⟨.node v, p, 0⟩, hsp.red0 sv v p hin (by simpa using hact), rfl, Nat.le_refl _, ?_⟩
      exact ⟨rfl, huv.symm⟩
    | cons e0 es =>
      obtain ⟨e, ed, h1, h2, h3⟩ := ChainEnd.lastEdge hch (by rw [hP]; simp)
      have hpos : 0 < P.length := by rw [hP]; simp
      have hmem : e ∈ g.backedges v := mem_backedges.mpr ⟨ed, h2, h3⟩
      rw [← hP]
      exact ⟨⟨.edge e, p, P.length⟩, hsp.red sv v p P.length hin hact hpos e hmem, rfl, Nat.le_refl _, hpos, h1⟩

theorem reducer_run {env : Env} (hK : CertOk env) {tok : Nat → Tok}
    {F : Nat} {LF : Pos} {fuel : Nat} {g1 : Gss} {acc0 : List Nat} {base : List Nat} {fr : Frontier} {sub0 : SubFrontier}
    (c : Fresh env tok F LF base g1 acc0 sub0) (hshape : FrShape (LF, (tok F).kind) fr sub0)
    {qs : List (List Reduction)} {st2 st3 : St}
    (hip : initialProcess env ⟨g1, [], acc0⟩ fr = .ok (qs, st2)) (hra : reduceAll env fuel fr qs st2 = .ok st3) :
    ∃ sub, Mid env tok F LF base g1 acc0 sub st3 := by
  obtain ⟨hs1, hJ1, hU, hsub0, hlv⟩ := c
  rcases hshape with ⟨hfr, hsb⟩ | ⟨hfr, _⟩
  · -- no head has a lookahead: nothing happens
    subst hfr; subst hsb
    cases hip; cases hra
    refine ⟨[], hs1, hJ1, hU, ⟨fun _ _ h => by simp at h, ?_, fun h hd hh hl => (hlv.hd h hd hh hl).2.2⟩,
      ⟨FrameLt.refl _ _, hlv, fun _ _ _ h => by simp at h, fun _ _ h => by simp at h, fun x hx => hx⟩⟩
    intro u p pr P s' hk
    obtain ⟨v, _, s, hin⟩ := hk.chain
    simp at hin
  · subst hfr
    obtain ⟨hs2, _, hq⟩ := (initialProcess_sat (A := True) (E := True) hK.table hs1
      fun _ _ hm => (_root_.Prod.mk.inj (List.mem_singleton.mp hm)).2 ▸ hsub0).of_ok hip
    obtain ⟨r, hfold, rfl, rfl⟩ := initialProcess_one hip
    obtain ⟨rs', hloop, rfl⟩ := reduceAll_one hra
    have hsp := initialFold_spec sub0 _ r hU.subKind hfold
    have hI : RInv env F ⟨g1, r.1, r.2.1, r.2.2, sub0⟩ :=
      ⟨hs1.g, hsub0, hq _ (List.mem_singleton_self _), hs2.shifts, hs2.acc⟩
    obtain ⟨hqs, hrc⟩ := start_closure hK.complete hs1.g hsub0 hsp rfl
    have hb : RB env tok F LF base acc0 g1 g1 sub0 r.2.1 r.2.2 :=
      ⟨FrameLt.refl _ _, hlv, hsp.shift, hsp.accept, hsp.a_mono⟩
    -- three rules for the loop: the closure, the book-keeping, the derivability of edges
    obtain ⟨m1, m2, ⟨⟨m3, _, m6⟩, m5, mJ⟩, m4⟩ := (reducerLoop_hoare (A := True) (E := True) hK.table
      ((closureRule hK F (tok F).kind).and
        ((ReducerRule.of_inv (Y := fun rs => RB env tok F LF base acc0 g1 rs.gss rs.sub rs.shifts rs.accepted)
            (fun _ _ h => h) fun hI d hI' _ => d.rb hI hI').and
          (ReducerRule.of_inv (Y := fun rs => JInv env tok rs.gss) (fun _ _ h => h) fun _ d => d.jinv hK.table)))
      fuel _ hI ⟨⟨hU, hqs, hrc⟩, hb, hJ1⟩).of_ok hloop
    exact ⟨rs'.sub, ⟨m1.g, m1.lists.shifts, m1.lists.acc⟩, mJ, m3,
      ⟨fun s h hm => let ⟨hd, k1, k2, k3, _⟩ := m1.sub s h hm; ⟨hd, k1, k2, k3⟩, fun _ _ _ _ _ => m6.covered m4,
        fun h hd hh hl => (m5.lv.hd h hd hh hl).2.2⟩,
      m5⟩

end Rustemo.Glr
