import Rustemo.Proofs.GlrMain
import Rustemo.Proofs.GlrDerivable
import Rustemo.Proofs.GlrLevelDone
import Rustemo.Proofs.GlrRunContracts
/-!
The shifter phase of one level under `LexDet`: every recorded shift is on `tok F` from a head at `L F`, so all new heads sit at
the one position `P (F+1)`, one per state (the keys of the base map), each on an edge down to level `F` that carries the token.
-/

namespace Rustemo.Glr

/-- the shifter's loop invariant after the shifts `done`: graph `g`, base map `m`, started on `g0` -/
structure SI (env : Env) (F : Nat) (tk : Tok) (PF1 : Pos) (g0 : Gss) (done : List (Nat × Nat)) (g : Gss) (m : BaseMap) :
    Prop where
  ginv : GInv env g
  frame : FrameLt (F + 1) g0 g
  gu : GU (F + 1) g
  map : ∀ k v, (k, v) ∈ m → k.2 = PF1 ∧ env.t.symAt k.1 = tk.kind ∧ ∃ hv : Head, g.heads[v]? = some hv ∧ hv.state = k.1 ∧
    hv.frontier = F + 1 ∧ hv.pos = PF1 ∧ hv.tok = none
  keys : m.Pairwise (fun x y => x.1 ≠ y.1)
  level : ∀ (h : Nat) (hd : Head), g.heads[h]? = some hd → hd.frontier = F + 1 → ∃ k, (k, h) ∈ m
  shifted : ∀ x ∈ done, ShiftedW g F tk x
  down : ∀ (e : Nat) (ed : Edge) (hs : Head), g.edges[e]? = some ed → g.heads[ed.src]? = some hs → hs.frontier = F + 1 →
    ∃ hd : Head, g.heads[ed.dst]? = some hd ∧ hd.frontier = F

/-- the key of an entry of the base map is the state of its head (and the one position): same state, same entry -/
theorem SI.state_inj {env : Env} {F : Nat} {tk : Tok} {PF1 : Pos} {g0 g : Gss} {done : List (Nat × Nat)} {m : BaseMap}
    (si : SI env F tk PF1 g0 done g m) {x y : (Nat × Pos) × Nat} {hd hd' : Head} (hx : x ∈ m) (hy : y ∈ m)
    (hh : g.heads[x.2]? = some hd) (hh' : g.heads[y.2]? = some hd') (hs : hd.state = hd'.state) : x = y := by
  obtain ⟨p1, _, hv, m2, m3, _⟩ := si.map x.1 x.2 hx
  obtain ⟨p1', _, hv', m2', m3', _⟩ := si.map y.1 y.2 hy
  cases hh.symm.trans m2
  cases hh'.symm.trans m2'
  exact eq_of_nodup_map Prod.fst (List.pairwise_map.mpr si.keys) hx hy
    (Prod.ext (by rw [← m3, ← m3', hs]) (by rw [p1, p1']))

theorem SI.levelBase {env : Env} {F : Nat} {tk : Tok} {PF1 : Pos} {g0 g : Gss} {done : List (Nat × Nat)} {m : BaseMap}
    (si : SI env F tk PF1 g0 done g m) : LevelBase g (F + 1) PF1 (m.map (·.2)) := by
  refine ⟨?_, ?_, ?_⟩
  · unfold List.Nodup
    rw [List.pairwise_map]
    refine List.Pairwise.imp_of_mem (fun {x y} hx hy hne heq => hne ?_) si.keys
    obtain ⟨_, _, hv, k2, _⟩ := si.map x.1 x.2 hx
    exact congrArg (·.1) (si.state_inj hx hy k2 (heq ▸ k2) rfl)
  · intro h hh
    obtain ⟨⟨k, v⟩, hkv, heq⟩ := List.mem_map.mp hh
    cases heq
    obtain ⟨_, _, hv, k2, _, k⟩ := si.map k v hkv
    exact ⟨hv, k2, k⟩
  · intro h hd hh hl
    obtain ⟨k, hk⟩ := si.level h hd hh hl
    exact List.mem_map.mpr ⟨(k, h), hk, rfl⟩

theorem shiftOne_run {env : Env} (hT : TableOk env) {tok : Nat → Tok} {F : Nat} {PF1 : Pos} {g0 g : Gss} {m : BaseMap}
    {r : Gss × BaseMap} {done done' : List (Nat × Nat)} (hI : SI env F (tok F) PF1 g0 done g m)
    {x : Nat × Nat} (hdone : ∀ y ∈ done', y = x ∨ y ∈ done) {hd : Head} {v e : Nat} {hc ec : Bool} {poss : List Nat}
    (d : ShiftRun env F g m x r hd (tok F) v e hc ec poss)
    (hpos : posAfter (sliceOf env.input (tok F).val) hd.pos = PF1) (hJ : JInv env tok g) (hg' : GInv env r.1) :
    SI env F (tok F) PF1 g0 done' r.1 r.2 ∧ JInv env tok r.1 := by
  have s := d.sol
  have hgi := d.ins
  rw [hpos] at s hgi
  obtain ⟨hv, hhv, hvs, hvf, hvp, hvt⟩ : ∃ hv : Head, r.1.heads[v]? = some hv ∧ hv.state = x.2 ∧ hv.frontier = F + 1 ∧
      hv.pos = PF1 ∧ hv.tok = none := by
    cases hgi with
    | found _ hmem =>
      obtain ⟨_, _, hv, hhv, k⟩ := hI.map _ _ hmem
      exact ⟨hv, s.heads_old hhv, k⟩
    | added => exact ⟨_, s.head_new rfl, rfl, rfl, rfl, rfl⟩
  have hsrcs := ginv_srcs hI.ginv
  have f : FrameLt (F + 1) g r.1 := s.frame hhv (Nat.le_of_eq hvf.symm) fun _ _ _ he hn => hI.ginv.poss_lt he hn
  have hterm := d.term hT
  have hsym := d.sym hT
  refine ⟨⟨hg', hI.frame.trans f, s.gu hI.gu hI.ginv hhv d.hhd (by rw [d.hF, hvf]; exact Nat.le_succ F)
    (fun _ => Nat.le_refl _), ?_, ?_, ?_, ?_, ?_⟩, ?_⟩
  · intro k v' hkv
    rcases hgi.mem hkv with hr | ⟨_, heq⟩
    · obtain ⟨k1, k1', y, k2, k3⟩ := hI.map k v' hr
      exact ⟨k1, k1', y, s.heads_old k2, k3⟩
    · cases heq
      exact ⟨rfl, hsym, hv, hhv, hvs, hvf, hvp, hvt⟩
  · exact hgi.pairwise hI.keys
  · intro h hd' hh' hl
    rcases s.heads_new hh' with k | ⟨_, rfl, _⟩
    · exact (hI.level h hd' k hl).imp fun _ hk0 => hgi.old hk0
    · exact ⟨_, hgi.self⟩
  · intro y hy
    rcases hdone y hy with heq | hr
    · rw [heq]
      exact ⟨v, hv, e, _, g.nodes.size, (tok F).span, hhv, hvs, hvf, s.edge, rfl, rfl,
        List.mem_append_right _ List.mem_cons_self, s.node⟩
    · exact (hI.shifted y hr).frame f
  · -- an edge out of a head of the next level is the one just touched, or starts at an old head
    intro i ed a hi ha hal
    rcases s.edges_new hi with ⟨_, k⟩ | ⟨_, rfl⟩
    · rcases s.heads_new ha with ka | ⟨kc, kk, _⟩
      · obtain ⟨y, hy, hyl⟩ := hI.down i ed a k ka hal
        exact ⟨y, s.heads_old hy, hyl⟩
      · exact absurd (hsrcs i ed k).1 (by rw [kk, s.newHead kc]; exact Nat.lt_irrefl _)
    · exact ⟨hd, s.heads_old d.hhd, d.hF⟩
  · -- the new edge spans one level and carries the token of that level
    refine s.jinv hJ hhv d.hhd ⟨by rw [d.hF, hvf]; exact Nat.le_succ F, .leaf (tok F).kind default default none, ?_, ?_⟩
    · rw [hvs, hsym]; exact ⟨rfl, hterm⟩
    · rw [d.hF, hvf, kindsOf_one]; rfl

theorem shifter_run {env : Env} (hT : TableOk env) {tok : Nat → Tok} {F : Nat} {LF PF1 : Pos} {st st' : St}
    {base' : List Nat} (hs : StOk env F st) (hu : GU F st.gss) (hJ : JInv env tok st.gss)
    (hl : ∀ x ∈ st.shifts, ∃ hd : Head, st.gss.heads[x.1]? = some hd ∧ hd.tok = some (tok F) ∧ hd.pos = LF ∧
      posAfter (sliceOf env.input (tok F).val) LF = PF1)
    (hok : shifter env (F + 1) st = .ok (st', base')) :
    AfterShift env tok F PF1 st st' base' := by
  have hnone : ∀ (h : Nat) (hd : Head), st.gss.heads[h]? = some hd → ¬ hd.frontier = F + 1 :=
    fun h hd hh hlv => absurd (hu.noAbove h hd hh) (by rw [hlv]; exact Nat.not_succ_le_self F)
  have hI0 : SI env F (tok F) PF1 st.gss [] st.gss [] :=
    ⟨hs.g, FrameLt.refl _ _, hu.mono (Nat.le_succ F), fun _ _ h => (nomatch h), List.Pairwise.nil,
      fun h hd hh hlv => absurd hlv (hnone h hd hh), fun _ h => (nomatch h),
      fun e ed x he hx hlv => absurd hlv (hnone _ x hx)⟩
  refine have ⟨k1, _, k2, k3, k4, m, k5, si, k7⟩ := (shifter_hoare (A := True) (E := True) hT hs
    (I := fun pre r => SI env F (tok F) PF1 st.gss pre r.1 r.2 ∧ JInv env tok r.1) ⟨hI0, hJ⟩ ?_).of_ok hok
    ⟨k1, fun h hh => (k2 h hh).2, k3, k4, k7, si.frame, si.gu, si.shifted, (show base' = _ from k5) ▸ si.levelBase, fun h h' hd hd' hh hh' hl hl' hs =>
      let ⟨_, hk⟩ := si.level h hd hh hl
      let ⟨_, hk'⟩ := si.level h' hd' hh' hl'
      congrArg (·.2) (si.state_inj hk hk' hh hh' hs)⟩
  intro pre x post g m r hd tk v e hc ec poss hp _ _ _ d hg' ⟨hI, hJ1⟩
  -- the head of a recorded shift is the one the reducer left: its token is `tok F`, its position `LF`
  obtain ⟨hd0, f1, f2, f3, f4⟩ := hl x (hp ▸ List.mem_append_right _ List.mem_cons_self)
  obtain rfl := Option.mem_unique f1 (hI.frame.heads_bwd _ hd d.hhd (d.hF ▸ Nat.lt_succ_self F))
  obtain rfl : tk = tok F := Option.some.inj (d.htk.symm.trans f2)
  exact shiftOne_run hT hI (fun y hy => (List.mem_append.mp hy).symm.imp_left List.mem_singleton.mp) d (f3 ▸ f4) hJ1 hg'

end Rustemo.Glr
