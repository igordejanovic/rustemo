import Rustemo.Proofs.GlrMain
import Rustemo.Proofs.GlrInForest
import Rustemo.Proofs.GlrElide
import Rustemo.Proofs.GlrCertOk
/-!
Every tree of the unfolding of a good graph (`InU`, to any depth, cut or not) is a derivation tree modulo elision of the
symbol of its edge, and its leaves are tokens shifted on consecutive levels (`unfold_ok`).  The unfolding has no empty
parent link, so without cut the forest of a result is well formed and every tree of a root is returned by some index.
-/

namespace Rustemo.Glr
open Rustemo.Forest Rustemo.Front

mutual
def toksOf : Tree → List Tok
  | .leaf k sp v _ => [⟨k, v, sp⟩]
  | .node _ _ _ cs => toksOfList cs
def toksOfList : TreeList → List Tok
  | .nil => []
  | .cons t ts => toksOf t ++ toksOfList ts
end

def ShiftedAt (g : Gss) (i : Nat) (tk : Tok) : Prop :=
  ∃ (e : Nat) (ed : Edge) (hd : Head) (n : Nat) (sp : Span), g.edges[e]? = some ed ∧ g.heads[ed.dst]? = some hd ∧
    hd.frontier = i ∧ n ∈ ed.poss ∧ g.nodes[n]? = some (.term tk sp)

def LeavesAt (g : Gss) : List Tok → Nat → Nat → Prop
  | [], i, j => i = j
  | tk :: rest, i, j => ShiftedAt g i tk ∧ LeavesAt g rest (i + 1) j

theorem LeavesAt.append {g : Gss} : ∀ {a b : List Tok} {i j k : Nat}, LeavesAt g a i j → LeavesAt g b j k →
    LeavesAt g (a ++ b) i k := by
  intro a
  induction a with
  | nil => intro b i j k h1 h2; cases h1; exact h2
  | cons tk rest ih => intro b i j k h1 h2; exact ⟨h1.1, ih h1.2 h2⟩

theorem LeavesAt.length {g : Gss} : ∀ {a : List Tok} {i j : Nat}, LeavesAt g a i j → i + a.length = j := by
  intro a
  induction a with
  | nil => intro i j h; exact h
  | cons tk rest ih => intro i j h; rw [List.length_cons, ← ih h.2]; omega

theorem toksOfList_ofList (ts : List Tree) : toksOfList (TreeList.ofList ts) = (ts.map toksOf).flatten := by
  induction ts with
  | nil => rfl
  | cons t ts ih => rw [TreeList.ofList, toksOfList, ih, List.map_cons, List.flatten_cons]

mutual
theorem toksOf_kinds : ∀ t : Tree, (toksOf t).map (·.kind) = t.yield
  | .leaf _ _ _ _ => rfl
  | .node _ _ _ cs => toksOfList_kinds cs
theorem toksOfList_kinds : ∀ ts : TreeList, (toksOfList ts).map (·.kind) = ts.yield
  | .nil => rfl
  | .cons t ts => by rw [toksOfList, List.map_append, toksOf_kinds t, toksOfList_kinds ts, TreeList.yield]
end

theorem validElided_ofList (g : Grammar) (ts : List Tree) (Xs tail : List Nat)
    (h : All2 (fun t X => Tree.ValidElided g t X) ts Xs) (hn : ∀ Y ∈ tail, Nullable g Y) :
    (TreeList.ofList ts).ValidElided g (Xs ++ tail) := by
  induction h with
  | nil => exact hn
  | cons h1 _ ih => exact ⟨_, _, rfl, h1, ih⟩

def TreeOk (env : Env) (g : Gss) (tr : Tree) (X i j : Nat) : Prop :=
  tr.ValidElided env.g X ∧ LeavesAt g (toksOf tr) i j

theorem children_ok {env : Env} {g : Gss} (hg : GInv env g) (k : Nat)
    (ih : ∀ (e : Nat) (ed : Edge) (hs hd : Head) (n : Nat), g.edges[e]? = some ed → n ∈ ed.poss →
      g.heads[ed.src]? = some hs → g.heads[ed.dst]? = some hd →
      ∀ (tr : Tree), InU g k n tr → TreeOk env g tr (env.t.symAt hs.state) hd.frontier hs.frontier)
    (ch Xs : List Nat) (r j : Nat) (ts : List Tree) (hc : ChildrenOk env.t g ch Xs r j)
    (hf : All2 (fun e t => ∃ m ∈ possOf g e, InU g k m t) ch ts) :
    ∃ hr : Head, g.heads[r]? = some hr ∧ All2 (fun t X => Tree.ValidElided env.g t X) ts Xs ∧
      LeavesAt g (ts.map toksOf).flatten hr.frontier j := by
  induction hf generalizing Xs r with
  | nil =>
    obtain ⟨rfl, hd, hhd, hfr⟩ := hc
    exact ⟨hd, hhd, .nil, hfr⟩
  | @cons e t es ts' h1 _ ihc =>
    obtain ⟨ed, hs, X, Xs', hed, hhs, rfl, rfl, rfl, hrest⟩ := hc
    obtain ⟨n, hn, hin⟩ := h1
    rw [possOf_eq hed] at hn
    obtain ⟨_, hdd, _, hhdd, _, _⟩ := (hg.edges e ed hed).ends
    have ht := ih e ed hs hdd n hed hn hhs hhdd t hin
    obtain ⟨hr', hhr', hv, hl⟩ := ihc Xs' ed.src hrest
    cases hhs.symm.trans hhr'
    exact ⟨hdd, hhdd, .cons ht.1 hv, LeavesAt.append ht.2 hl⟩

theorem unfold_ok {env : Env} {g : Gss} (hg : GInv env g) (k : Nat) :
    ∀ (e : Nat) (ed : Edge) (hs hd : Head) (n : Nat), g.edges[e]? = some ed → n ∈ ed.poss →
      g.heads[ed.src]? = some hs → g.heads[ed.dst]? = some hd →
      ∀ (tr : Tree), InU g k n tr → TreeOk env g tr (env.t.symAt hs.state) hd.frontier hs.frontier := by
  induction k with
  | zero => intro e ed hs hd n _ _ _ _ tr h; cases h
  | succ k ih =>
    intro e ed hs hd n hed hn hhs hhd tr h
    obtain ⟨nd, hnd, hfit⟩ := hg.fits hed hhs hn
    cases nd with
    | term tk sp =>
      cases (inU_term_iff hnd).mp h
      obtain ⟨hk, hterm, hd2, hhd2, hlvl⟩ := hfit
      cases hhd.symm.trans hhd2
      exact ⟨⟨hk, hk ▸ hterm⟩, ⟨e, ed, hd, n, sp, hed, hhd, rfl, hn, hnd⟩, hlvl⟩
    | nonterm p sp l ch =>
      obtain ⟨ts, hts, rfl⟩ := (inU_nonterm_iff hnd).mp h
      obtain ⟨pr, hpr, hl, hlen, hnul, hch⟩ := hfit
      obtain ⟨hr, hhr, hv, hleaves⟩ := children_ok hg k ih ch _ ed.dst hs.frontier ts hch hts
      cases hhd.symm.trans hhr
      refine ⟨⟨pr, hpr, hl, ?_⟩, by rw [toksOf, toksOfList_ofList]; exact hleaves⟩
      have := validElided_ofList env.g ts _ _ hv hnul
      rwa [List.take_append_drop] at this

theorem RootAt.treeOk {env : Env} {g : Gss} (hg : GInv env g) {N n k : Nat} {tr : Tree} (h : RootAt env g N n)
    (hin : InU g k n tr) : TreeOk env g tr env.g.startIdx 0 N := by
  obtain ⟨e, ed, hs, hd, hed, hmem, hhs, hhd, hf0, _, hN, hsym⟩ := h
  exact hsym ▸ hf0 ▸ hN ▸ unfold_ok hg _ e ed hs hd n hed hmem hhs hhd tr hin

theorem result_trees_ok {env : Env} {r : GlrResult} (hr : ResultOk env r) (i : Nat) (tr : Tree)
    (h : r.getTree i = some tr) :
    ∃ n, TreeOk env r.gss tr env.g.startIdx 0 n :=
  let ⟨m, hm, hin⟩ := getTree_inU h
  let ⟨N, hroot⟩ := hr.roots m hm
  ⟨N, hroot.treeOk hr.g hin⟩

theorem unfold_NE {env : Env} {g : Gss} (hg : GInv env g) (fuel : Nat) : ∀ (e : Nat) (ed : Edge) (n : Nat),
    g.edges[e]? = some ed → n ∈ ed.poss → (unfoldNode g fuel n).NE := by
  induction fuel with
  | zero => intro _ _ _ _ _; trivial
  | succ fuel ih =>
    intro e ed n hed hn
    obtain ⟨hs, hd, _, _, _, hposs⟩ := (hg.edges e ed hed).ends
    obtain ⟨nd, hnd, hfit⟩ := hposs n hn
    simp only [unfoldNode, hnd]
    cases nd with
    | term tk sp => trivial
    | nonterm p sp l ch =>
      obtain ⟨pr, _, _, _, _, hch⟩ := hfit
      apply listToDP_NE
      intro dp hdp
      obtain ⟨e', he', rfl⟩ := List.mem_map.mp hdp
      obtain ⟨ed', hed'⟩ := childrenOk_mem hch e' he'
      rw [possOf_eq hed']
      refine ⟨listToDN_ne_nil _ ?_, listToDN_NE _ ?_⟩
      · intro h
        exact (hg.edges e' ed' hed').poss_ne (by simp) (List.map_eq_nil_iff.mp h)
      · intro d hd
        obtain ⟨m, hm, rfl⟩ := List.mem_map.mp hd
        exact ih e' ed' m hed' hm

theorem droots_NE {env : Env} {r : GlrResult} (hg : GInv env r.gss)
    (hroots : ∀ m ∈ r.roots, ∃ (e : Nat) (ed : Edge), r.gss.edges[e]? = some ed ∧ m ∈ ed.poss) : r.droots.NE := by
  apply listToDN_NE
  intro d hd
  obtain ⟨m, hm, rfl⟩ := List.mem_map.mp hd
  obtain ⟨e, ed, hed, hmem⟩ := hroots m hm
  exact unfold_NE hg _ e ed m hed hmem

theorem ResultOk.droots_NE {env : Env} {r : GlrResult} (hr : ResultOk env r) : r.droots.NE :=
  Glr.droots_NE hr.g fun m hm => let ⟨_, e, ed, _, _, hed, hmem, _⟩ := hr.roots m hm; ⟨e, ed, hed, hmem⟩

/-- so `C03_forest_enum` applies -/
theorem forest_wf {env : Env} {r : GlrResult} (hr : ResultOk env r) (hc : r.droots.hasCut = false) :
    r.forest.roots.WF :=
  (DNList.wf_all _ hc hr.droots_NE).1

theorem getTree_of_root {env : Env} {r : GlrResult} (hr : ResultOk env r) (hc : r.droots.hasCut = false)
    {m k : Nat} {tr : Tree} (hm : m ∈ r.roots) (hinu : InU r.gss k m tr) : ∃ i, r.getTree i = some tr := by
  unfold GlrResult.getTree
  apply DNList.mem_all_get _ (DNList.wfd_of r.droots hc hr.droots_NE)
  unfold GlrResult.droots
  rw [mem_all_listToDN]
  exact ⟨_, List.mem_map.mpr ⟨m, hm, rfl⟩, inU_fixed (droots_noCut hc m hm) hinu⟩

/-- no assumption on the layout parser: panics are not results -/
theorem parse_sound {env : Env} (hT : TableOk env) (pp : Bool) (fuel : Nat) (r : GlrResult)
    (h : parse env pp fuel = .ok r) : ResultOk env r := by
  have := parse_sat (A := True) hT (fun h => absurd trivial h) pp fuel
  rw [h] at this
  exact this

theorem parse_no_panic (env : Env) (hcert : Cert.glr env.g env.t = true) (hl : LayoutSafe env) (pp : Bool)
    (fuel : Nat) (site : String) : parse env pp fuel ≠ .panic site :=
  (parse_sat (A := False) (tableOk_of_cert env hcert) (fun _ => hl) pp fuel).not_panic site

end Rustemo.Glr
