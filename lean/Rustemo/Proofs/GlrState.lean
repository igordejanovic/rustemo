import Rustemo.Proofs.GlrGraph
import Rustemo.Proofs.NoPanic
/-!
What the lists and maps of the engine state hold, each stable under `Ext`.  `registerActions` is turned into an equation
(the lists grow by `filterMap`s of the actions), from which what it keeps and what it adds is read.
-/

namespace Rustemo.Glr

/-- what the certificate `Cert.glr` establishes about the table -/
structure TableOk (env : Env) : Prop where
  s : StructuralRN env.g env.t (autosOf env.g env.t)
  sym : ∀ s X s', env.t.trans env.g s X s' → env.t.symAt s' = X
  tot : Total env.g env.t 0

/-- `HeadOk.start` for every head but the first -/
theorem TableOk.not_start {env : Env} (hT : TableOk env) {s X s' : Nat} (htr : env.t.trans env.g s X s') :
    ∀ au ∈ autosOf env.g env.t, s' ≠ au.start :=
  fun au hau heq => hT.s.no_into_start au hau s X (heq ▸ htr)

def RedOk (env : Env) (g : Gss) (F : Nat) (r : Reduction) : Prop :=
  ∃ (sh : Head) (pr : Prod), env.g.prods[r.prod]? = some pr ∧ r.len ≤ pr.rhs.length ∧
    (∀ Y ∈ pr.rhs.drop r.len, Nullable env.g Y) ∧ env.g.isAug r.prod = false ∧
    sh.tok.isSome = true ∧ sh.frontier = F ∧ env.t.hasItem sh.state r.prod r.len ∧
    (match r.start with
     | .edge e => ∃ ed : Edge, g.edges[e]? = some ed ∧ g.heads[ed.src]? = some sh ∧ 0 < r.len
     | .node n => g.heads[n]? = some sh ∧ r.len = 0)

def SubOk (g : Gss) (F : Nat) (sub : SubFrontier) : Prop :=
  ∀ s h, (s, h) ∈ sub → ∃ hd : Head, g.heads[h]? = some hd ∧ hd.state = s ∧ hd.frontier = F ∧ hd.tok.isSome = true

def ShiftOk (env : Env) (g : Gss) (F : Nat) (sh : Nat × Nat) : Prop :=
  ∃ (hd : Head) (tk : Tok), g.heads[sh.1]? = some hd ∧ hd.tok = some tk ∧ hd.frontier = F ∧
    Action.shift sh.2 ∈ env.t.cell hd.state tk.kind

def AccOk (env : Env) (g : Gss) (h : Nat) : Prop :=
  ∃ (hd : Head) (tk : Tok), g.heads[h]? = some hd ∧ hd.tok = some tk ∧ Action.accept ∈ env.t.cell hd.state tk.kind

theorem tok_isSome_ext {hd hd' : Head} (ht : ∀ tk, hd.tok = some tk → hd'.tok = some tk)
    (h : hd.tok.isSome = true) : hd'.tok.isSome = true := by
  cases hk : hd.tok with
  | none => rw [hk] at h; simp at h
  | some tk => rw [ht tk hk]; rfl

theorem StartAt.ext {g g' : Gss} (hx : Ext g g') {start : RStart} {len h : Nat} (hs : StartAt g start len h) :
    StartAt g' start len h := by
  cases start with
  | edge e =>
    obtain ⟨ed, hed, hsrc, hl⟩ := hs
    obtain ⟨ed', hed', hsrc', _⟩ := hx.edges e ed hed
    exact ⟨ed', hed', hsrc'.trans hsrc, hl⟩
  | node n => exact hs

/-- the last clause of `RedOk` -/
theorem startAt_head {g : Gss} {start : RStart} {len : Nat} {sh : Head} :
    (match start with
     | .edge e => ∃ ed : Edge, g.edges[e]? = some ed ∧ g.heads[ed.src]? = some sh ∧ 0 < len
     | .node n => g.heads[n]? = some sh ∧ len = 0) ↔ ∃ h, StartAt g start len h ∧ g.heads[h]? = some sh := by
  cases start with
  | edge e =>
    constructor
    · rintro ⟨ed, a, b, c⟩; exact ⟨ed.src, ⟨ed, a, rfl, c⟩, b⟩
    · rintro ⟨h, ⟨ed, a, rfl, c⟩, d⟩; exact ⟨ed, a, d, c⟩
  | node n =>
    constructor
    · rintro ⟨a, b⟩; exact ⟨n, ⟨rfl, b⟩, a⟩
    · rintro ⟨h, ⟨rfl, b⟩, c⟩; exact ⟨c, b⟩

theorem RedOk.ext {env : Env} {g g' : Gss} {F : Nat} {r : Reduction} (hx : Ext g g') (h : RedOk env g F r) :
    RedOk env g' F r := by
  obtain ⟨sh, pr, hpr, hlen, hnul, haug, htok, hF, hitem, hstart⟩ := h
  obtain ⟨h, hs, hsh⟩ := startAt_head.mp hstart
  obtain ⟨sh', hsh', hst, hfr, htk⟩ := hx.heads _ sh hsh
  exact ⟨sh', pr, hpr, hlen, hnul, haug, tok_isSome_ext htk htok, by rw [hfr, hF], by rw [hst]; exact hitem,
    startAt_head.mpr ⟨h, hs.ext hx, hsh'⟩⟩

theorem SubOk.ext {g g' : Gss} {F : Nat} {sub : SubFrontier} (hx : Ext g g') (h : SubOk g F sub) : SubOk g' F sub := by
  intro s hh hm
  obtain ⟨hd, hhd, hs, hf, ht⟩ := h s hh hm
  obtain ⟨hd', hhd', hs', hf', ht'⟩ := hx.heads _ hd hhd
  exact ⟨hd', hhd', by rw [hs', hs], by rw [hf', hf], tok_isSome_ext ht' ht⟩

theorem ShiftOk.ext {env : Env} {g g' : Gss} {F : Nat} {sh : Nat × Nat} (hx : Ext g g') (h : ShiftOk env g F sh) :
    ShiftOk env g' F sh := by
  obtain ⟨hd, tk, hhd, htk, hF, hm⟩ := h
  obtain ⟨hd', hhd', hs', hf', ht'⟩ := hx.heads _ hd hhd
  exact ⟨hd', tk, hhd', ht' tk htk, by rw [hf', hF], by rw [hs']; exact hm⟩

theorem AccOk.ext {env : Env} {g g' : Gss} {h : Nat} (hx : Ext g g') (ha : AccOk env g h) : AccOk env g' h := by
  obtain ⟨hd, tk, hhd, htk, hm⟩ := ha
  obtain ⟨hd', hhd', hs', _, ht'⟩ := hx.heads _ hd hhd
  exact ⟨hd', tk, hhd', ht' tk htk, by rw [hs']; exact hm⟩

theorem sfInsert_ins (s h : Nat) : ∀ (sub : SubFrontier), Ins s h sub (sfInsert s h sub)
  | [] => .here []
  | (s', h') :: rest => by
    simp only [sfInsert]
    split
    · exact .here _
    · split
      · rename_i heq; subst heq; exact .repl h' rest
      · rename_i hne; exact .skip _ _ _ (fun e => hne e.symm) (sfInsert_ins s h rest)

theorem baseInsert_ins (k : Nat × Pos) (h : Nat) : ∀ (m : BaseMap), Ins k h m (baseInsert k h m)
  | [] => .here []
  | (k', h') :: rest => by
    simp only [baseInsert]
    split
    · exact .here _
    · split
      · rename_i heq; cases beq_iff_eq.mp heq; exact .repl h' rest
      · rename_i hne; exact .skip _ _ _ (fun e => hne (beq_iff_eq.mpr e.symm)) (baseInsert_ins k h rest)

theorem sfGet_mem {s h : Nat} {sub : SubFrontier} (hg : sfGet s sub = some h) : (s, h) ∈ sub :=
  mem_of_find?_fst hg

theorem sfGet_of_mem {s h : Nat} {sub : SubFrontier} (hf : ∀ (s h h' : Nat), (s, h) ∈ sub → (s, h') ∈ sub → h = h')
    (hm : (s, h) ∈ sub) : sfGet s sub = some h := by
  cases hg : sfGet s sub with
  | none => exact absurd rfl (find?_fst_none hg (s, h) hm)
  | some h' => rw [hf s h h' hm (sfGet_mem hg)]

theorem baseGet_mem {k : Nat × Pos} {h : Nat} {m : BaseMap} (hg : baseGet k m = some h) : (k, h) ∈ m :=
  mem_of_find?_fst hg

theorem SubOk.insert {g : Gss} {F : Nat} {sub : SubFrontier} {s h : Nat} (hs : SubOk g F sub)
    (hd : Head) (hh : g.heads[h]? = some hd) (h1 : hd.state = s) (h2 : hd.frontier = F) (h3 : hd.tok.isSome = true) :
    SubOk g F (sfInsert s h sub) := by
  intro s' h' hm
  rcases (sfInsert_ins s h sub).mem hm with heq | hold
  · injection heq with e1 e2; subst e1 e2
    exact ⟨hd, hh, h1, h2, h3⟩
  · exact hs s' h' hold

def FrontierOk (g : Gss) (F : Nat) (fr : Frontier) : Prop := ∀ k sub, (k, sub) ∈ fr → SubOk g F sub

theorem FrontierOk.insert {g : Gss} {F : Nat} {k : Pos × Nat} {s h : Nat} (hd : Head)
    (hh : g.heads[h]? = some hd) (h1 : hd.state = s) (h2 : hd.frontier = F) (h3 : hd.tok.isSome = true) :
    ∀ {fr : Frontier}, FrontierOk g F fr → FrontierOk g F (frInsert k s h fr) := by
  have hsingle : SubOk g F [(s, h)] := SubOk.insert (sub := []) (fun _ _ hm => absurd hm List.not_mem_nil) hd hh h1 h2 h3
  intro fr
  induction fr with
  | nil =>
    intro _ k' sub hm
    rw [frInsert, List.mem_singleton] at hm
    rw [(_root_.Prod.mk.inj hm).2]; exact hsingle
  | cons e rest ih =>
    intro hf k' sub hm
    have hrest : FrontierOk g F rest := fun k sub hm => hf k sub (List.mem_cons_of_mem _ hm)
    simp only [frInsert] at hm
    split at hm
    · rcases List.mem_cons.mp hm with hm | hm
      · rw [(_root_.Prod.mk.inj hm).2]; exact hsingle
      · exact hf k' sub hm
    · split at hm
      · rcases List.mem_cons.mp hm with hm | hm
        · rw [(_root_.Prod.mk.inj hm).2]
          exact SubOk.insert (hf e.1 e.2 List.mem_cons_self) hd hh h1 h2 h3
        · exact hrest k' sub hm
      · rcases List.mem_cons.mp hm with hm | hm
        · exact hf k' sub (hm ▸ List.mem_cons_self)
        · exact ih hrest k' sub hm

theorem FrontierOk.ext {g g' : Gss} {F : Nat} {fr : Frontier} (hx : Ext g g') (h : FrontierOk g F fr) :
    FrontierOk g' F fr := fun k sub hm => (h k sub hm).ext hx

structure ListsOk (env : Env) (g : Gss) (F : Nat) (q : List Reduction) (sh : List (Nat × Nat)) (ac : List Nat) : Prop where
  queue : ∀ r ∈ q, RedOk env g F r
  shifts : ∀ s ∈ sh, ShiftOk env g F s
  acc : ∀ h ∈ ac, AccOk env g h

theorem ListsOk.ext {env : Env} {g g' : Gss} {F : Nat} {q : List Reduction} {sh : List (Nat × Nat)} {ac : List Nat}
    (hx : Ext g g') (h : ListsOk env g F q sh ac) : ListsOk env g' F q sh ac :=
  ⟨fun r hr => (h.queue r hr).ext hx, fun s hs => (h.shifts s hs).ext hx, fun a ha => (h.acc a ha).ext hx⟩

theorem RedOk.of_action {env : Env} (hT : TableOk env) {g : Gss} {F head kind p len : Nat} {hd : Head}
    (hhd : g.heads[head]? = some hd) (htok : hd.tok.isSome = true) (hF : hd.frontier = F)
    (hact : Action.reduce p len ∈ env.t.cell hd.state kind) {start : RStart} (hstart : StartAt g start len head) :
    RedOk env g F ⟨start, p, len⟩ := by
  obtain ⟨hitem, pr, hpr, hlen, hnul⟩ := hT.s.reduce_item _ _ _ _ hact
  exact ⟨hd, pr, hpr, hlen, hnul, hT.tot.no_reduce_aug _ _ _ _ hact, htok, hF, hitem, startAt_head.mpr ⟨head, hstart, hhd⟩⟩

def registered (head edge : Nat) (hc ec : Bool) : Action → Option Reduction
  | .reduce p len =>
    if (ec && decide (len > 0)) || hc then some ⟨if len > 0 then .edge edge else .node head, p, len⟩ else none
  | _ => none

def regShift (head : Nat) : Action → Option (Nat × Nat)
  | .shift s => some (head, s)
  | _ => none

def regAcc (head : Nat) : Action → Option Nat
  | .accept => some head
  | _ => none

theorem registerActions_eq (head edge : Nat) (hc ec : Bool) : ∀ (acts : List Action) (q : List Reduction)
    (sh : List (Nat × Nat)) (ac : List Nat),
    registerActions head edge hc ec acts (q, sh, ac) =
      (q ++ acts.filterMap (registered head edge hc ec),
       (if hc then (acts.filterMap (regShift head)).reverse else []) ++ sh,
       ac ++ (if hc then acts.filterMap (regAcc head) else []))
  | [], q, sh, ac => by cases hc <;> simp [registerActions]
  | .reduce p len :: rest, q, sh, ac => by
    simp only [registerActions, registered, regShift, regAcc, List.filterMap_cons]
    split
    · rw [registerActions_eq, List.append_assoc]; rfl
    · exact registerActions_eq head edge hc ec rest q sh ac
  | .shift s :: rest, q, sh, ac => by
    simp only [registerActions, registered, regShift, regAcc, List.filterMap_cons]
    rw [registerActions_eq]
    cases hc <;> simp
  | .accept :: rest, q, sh, ac => by
    simp only [registerActions, registered, regShift, regAcc, List.filterMap_cons]
    rw [registerActions_eq]
    cases hc <;> simp

theorem mem_registered {head edge : Nat} {hc ec : Bool} {acts : List Action} {r : Reduction} :
    r ∈ acts.filterMap (registered head edge hc ec) ↔ ∃ p len, Action.reduce p len ∈ acts ∧
      ((ec && decide (len > 0)) || hc) = true ∧ r = ⟨if len > 0 then .edge edge else .node head, p, len⟩ := by
  rw [List.mem_filterMap]
  constructor
  · rintro ⟨act, hact, hreg⟩
    cases act with
    | reduce p len =>
      simp only [registered] at hreg
      split at hreg
      · exact ⟨p, len, hact, ‹_›, (Option.some.inj hreg).symm⟩
      · cases hreg
    | shift s => cases hreg
    | accept => cases hreg
  · rintro ⟨p, len, hact, hc', rfl⟩
    exact ⟨_, hact, by simp only [registered, hc', ↓reduceIte]⟩

theorem mem_regShift {head : Nat} {acts : List Action} {x : Nat × Nat} :
    x ∈ acts.filterMap (regShift head) ↔ ∃ s, Action.shift s ∈ acts ∧ x = (head, s) := by
  rw [List.mem_filterMap]
  constructor
  · rintro ⟨act, hact, hreg⟩
    cases act with
    | shift s => exact ⟨s, hact, (Option.some.inj hreg).symm⟩
    | reduce p len => cases hreg
    | accept => cases hreg
  · rintro ⟨s, hact, rfl⟩
    exact ⟨_, hact, rfl⟩

theorem mem_regAcc {head : Nat} {acts : List Action} {x : Nat} :
    x ∈ acts.filterMap (regAcc head) ↔ Action.accept ∈ acts ∧ x = head := by
  rw [List.mem_filterMap]
  constructor
  · rintro ⟨act, hact, hreg⟩
    cases act with
    | accept => exact ⟨hact, (Option.some.inj hreg).symm⟩
    | reduce p len => cases hreg
    | shift s => cases hreg
  · rintro ⟨hact, rfl⟩
    exact ⟨_, hact, rfl⟩

section
variable {head edge : Nat} {hc ec : Bool} {acts : List Action} {q : List Reduction} {sh : List (Nat × Nat)} {ac : List Nat}

theorem mem_registerActions_queue {r : Reduction} : r ∈ (registerActions head edge hc ec acts (q, sh, ac)).1 ↔
    r ∈ q ∨ ∃ p len, Action.reduce p len ∈ acts ∧ ((ec && decide (len > 0)) || hc) = true ∧
      r = ⟨if len > 0 then .edge edge else .node head, p, len⟩ := by
  rw [registerActions_eq, List.mem_append, mem_registered]

theorem mem_registerActions_shifts {x : Nat × Nat} : x ∈ (registerActions head edge hc ec acts (q, sh, ac)).2.1 ↔
    x ∈ sh ∨ (hc = true ∧ ∃ s, Action.shift s ∈ acts ∧ x = (head, s)) := by
  rw [registerActions_eq, List.mem_append, Or.comm]
  cases hc with
  | false => simp
  | true => rw [if_pos rfl, List.mem_reverse, mem_regShift]; simp

theorem mem_registerActions_accepted {x : Nat} : x ∈ (registerActions head edge hc ec acts (q, sh, ac)).2.2 ↔
    x ∈ ac ∨ (hc = true ∧ Action.accept ∈ acts ∧ x = head) := by
  rw [registerActions_eq, List.mem_append]
  cases hc with
  | false => simp
  | true => rw [if_pos rfl, mem_regAcc]; simp

end

theorem registerActions_listsOk {env : Env} (hT : TableOk env) {g : Gss} {F : Nat} {head edge : Nat} {hc ec : Bool}
    {hd : Head} {ed : Edge} {kind : Nat}
    (hhd : g.heads[head]? = some hd) (htok : hd.tok.isSome = true) (hF : hd.frontier = F)
    (hkind : hc = true → ∃ tk, hd.tok = some tk ∧ tk.kind = kind)
    (hed : g.edges[edge]? = some ed) (hsrc : ed.src = head) (acts : List Action)
    (acc : List Reduction × List (Nat × Nat) × List Nat) (hm : ∀ a ∈ acts, a ∈ env.t.cell hd.state kind)
    (h : ListsOk env g F acc.1 acc.2.1 acc.2.2) :
    ListsOk env g F (registerActions head edge hc ec acts acc).1 (registerActions head edge hc ec acts acc).2.1
      (registerActions head edge hc ec acts acc).2.2 := by
  obtain ⟨q, sh, ac⟩ := acc
  refine ⟨fun r hr => (mem_registerActions_queue.mp hr).elim (h.queue r) fun ⟨p, len, hact, _, hr⟩ => ?_,
    fun x hx => (mem_registerActions_shifts.mp hx).elim (h.shifts x) fun ⟨hc1, s, hact, hx⟩ => ?_,
    fun x hx => (mem_registerActions_accepted.mp hx).elim (h.acc x) fun ⟨hc1, hact, hx⟩ => ?_⟩
  · exact hr ▸ RedOk.of_action hT hhd htok hF (hm _ hact) (.ite hed hsrc len)
  · obtain ⟨tk, htk, hk⟩ := hkind hc1
    exact hx ▸ ⟨hd, tk, hhd, htk, hF, hk ▸ hm _ hact⟩
  · obtain ⟨tk, htk, hk⟩ := hkind hc1
    exact hx ▸ ⟨hd, tk, hhd, htk, hk ▸ hm _ hact⟩

structure RInv (env : Env) (F : Nat) (rs : RState) : Prop where
  g : GInv env rs.gss
  sub : SubOk rs.gss F rs.sub
  lists : ListsOk env rs.gss F rs.queue rs.shifts rs.accepted

/-- stated for variables so that the projections of the record are reduced here and not by the unifier at every use -/
theorem RInv.of_parts {env : Env} {F : Nat} {g : Gss} {q : List Reduction} {sh : List (Nat × Nat)} {ac : List Nat}
    {sub : SubFrontier} (hg : GInv env g) (hsub : SubOk g F sub) (hl : ListsOk env g F q sh ac) :
    RInv env F ⟨g, q, sh, ac, sub⟩ := ⟨hg, hsub, hl⟩

/-- between the phases of a frontier -/
structure StOk (env : Env) (F : Nat) (st : St) : Prop where
  g : GInv env st.gss
  shifts : ∀ s ∈ st.shifts, ShiftOk env st.gss F s
  acc : ∀ h ∈ st.accepted, AccOk env st.gss h

end Rustemo.Glr
