import Rustemo.Proofs.GlrGraph
/-!
The two composite steps of the engine as relations with exact equations, so that each invariant of the graph needs ONE
lemma per step, next to the invariant (here `Sol.ginv`, `FoldSpec.ginv`).
-/

namespace Rustemo.Glr

/-- what a shift, and a reduction that is no fold, do to the graph: the new node `nd` (index `n`) is packed on the edge
    `e = (hA → dst)`; if `hc` the head `hA` is new and is `nh` (otherwise the users say which head of `g'` it is); the edge is
    new iff `ec`, otherwise it carried `poss`.  The lemmas per invariant (`Sol.ginv`, `.gu`, `.jinv`) look `hA` up in `g'`
    and `dst` in `g`. -/
structure Sol (g g' : Gss) (nh : Head) (hA dst : Nat) (nd : SNode) (e n : Nat) (hc ec : Bool) (poss : List Nat) : Prop where
  heads : g'.heads = if hc then g.heads.push nh else g.heads
  edges : ∀ i, g'.edges[i]? = if i = e then some ⟨hA, dst, poss ++ [n]⟩ else g.edges[i]?
  nodes : g'.nodes = g.nodes.push nd
  n_eq : n = g.nodes.size
  newHead : hc = true → hA = g.heads.size
  newEdge : ec = true → e = g.edges.size ∧ poss = [] ∧
    ∀ (e0 : Nat) (ed0 : Edge), g.edges[e0]? = some ed0 → ed0.src = hA → ed0.dst ≠ dst
  oldEdge : ec = false → g.edges[e]? = some ⟨hA, dst, poss⟩

section

variable {g g' : Gss} {nh : Head} {hA dst : Nat} {nd : SNode} {e n : Nat} {hc ec : Bool} {poss : List Nat}

theorem Sol.heads_old (s : Sol g g' nh hA dst nd e n hc ec poss) {i : Nat} {hd : Head} (h : g.heads[i]? = some hd) :
    g'.heads[i]? = some hd := by
  rw [s.heads]
  split
  · exact getElem?_push_of_some h nh
  · exact h

theorem Sol.heads_new (s : Sol g g' nh hA dst nd e n hc ec poss) {i : Nat} {hd : Head} (h : g'.heads[i]? = some hd) :
    g.heads[i]? = some hd ∨ (hc = true ∧ i = hA ∧ hd = nh) := by
  rw [s.heads] at h
  cases hc with
  | false => exact Or.inl h
  | true =>
    rw [if_pos rfl, Array.getElem?_push] at h
    split at h
    · exact Or.inr ⟨rfl, ‹i = _›.trans (s.newHead rfl).symm, (Option.some.inj h).symm⟩
    · exact Or.inl h

theorem Sol.head_new (s : Sol g g' nh hA dst nd e n hc ec poss) (h : hc = true) : g'.heads[hA]? = some nh := by
  rw [s.heads, if_pos h, s.newHead h, Array.getElem?_push, if_pos rfl]

theorem Sol.edge (s : Sol g g' nh hA dst nd e n hc ec poss) : g'.edges[e]? = some ⟨hA, dst, poss ++ [n]⟩ := by
  rw [s.edges, if_pos rfl]

theorem Sol.edges_old (s : Sol g g' nh hA dst nd e n hc ec poss) {i : Nat} {ed : Edge} (h : g.edges[i]? = some ed) :
    (i ≠ e ∧ g'.edges[i]? = some ed) ∨ (i = e ∧ ec = false ∧ ed = ⟨hA, dst, poss⟩) := by
  by_cases hi : i = e
  · cases ec with
    | false => exact Or.inr ⟨hi, rfl, Option.mem_unique (hi ▸ h) (s.oldEdge rfl)⟩
    | true =>
      rw [hi, (s.newEdge rfl).1] at h
      exact absurd (lt_size_of_getElem? h) (Nat.lt_irrefl _)
  · exact Or.inl ⟨hi, by rw [s.edges, if_neg hi]; exact h⟩

theorem Sol.edges_new (s : Sol g g' nh hA dst nd e n hc ec poss) {i : Nat} {ed : Edge} (h : g'.edges[i]? = some ed) :
    (i ≠ e ∧ g.edges[i]? = some ed) ∨ (i = e ∧ ed = ⟨hA, dst, poss ++ [n]⟩) := by
  rw [s.edges] at h
  split at h
  · exact Or.inr ⟨‹i = e›, (Option.some.inj h).symm⟩
  · exact Or.inl ⟨‹¬ i = e›, h⟩

theorem Sol.poss_new (s : Sol g g' nh hA dst nd e n hc ec poss) {i : Nat} {ed : Edge} (h : g'.edges[i]? = some ed)
    {m : Nat} (hm : m ∈ ed.poss) :
    (∃ ed0 : Edge, g.edges[i]? = some ed0 ∧ ed0.src = ed.src ∧ ed0.dst = ed.dst ∧ m ∈ ed0.poss) ∨ (m = n ∧ i = e) := by
  rcases s.edges_new h with ⟨_, k⟩ | ⟨rfl, rfl⟩
  · exact Or.inl ⟨ed, k, rfl, rfl, hm⟩
  · rcases List.mem_append.mp hm with hm | hm
    · cases ec with
      | false => exact Or.inl ⟨_, s.oldEdge rfl, rfl, rfl, hm⟩
      | true => rw [(s.newEdge rfl).2.1] at hm; cases hm
    · exact Or.inr ⟨List.mem_singleton.mp hm, rfl⟩

theorem Sol.node (s : Sol g g' nh hA dst nd e n hc ec poss) : g'.nodes[n]? = some nd := by
  rw [s.nodes, s.n_eq, Array.getElem?_push, if_pos rfl]

theorem Sol.nodes_old (s : Sol g g' nh hA dst nd e n hc ec poss) {m : Nat} {nd' : SNode} (h : g.nodes[m]? = some nd') :
    g'.nodes[m]? = some nd' := by
  rw [s.nodes]; exact getElem?_push_of_some h nd

theorem Sol.edge_fwd (s : Sol g g' nh hA dst nd e n hc ec poss) {i : Nat} {ed : Edge} (h : g.edges[i]? = some ed) :
    ∃ ed' : Edge, g'.edges[i]? = some ed' ∧ ed'.src = ed.src ∧ ed'.dst = ed.dst ∧ ∀ m ∈ ed.poss, m ∈ ed'.poss := by
  rcases s.edges_old h with ⟨_, k⟩ | ⟨rfl, _, rfl⟩
  · exact ⟨ed, k, rfl, rfl, fun _ hm => hm⟩
  · exact ⟨_, s.edge, rfl, rfl, fun _ hm => List.mem_append_left _ hm⟩

theorem Sol.edge_back (s : Sol g g' nh hA dst nd e n hc ec poss) {i : Nat} {ed : Edge} (h : g'.edges[i]? = some ed) :
    (∃ ed0 : Edge, g.edges[i]? = some ed0 ∧ ed0.src = ed.src ∧ ed0.dst = ed.dst) ∨
    (ec = true ∧ i = e ∧ ed.src = hA ∧ ed.dst = dst) := by
  rcases s.edges_new h with ⟨_, k⟩ | ⟨rfl, rfl⟩
  · exact Or.inl ⟨ed, k, rfl, rfl⟩
  · cases ec with
    | false => exact Or.inl ⟨_, s.oldEdge rfl, rfl, rfl⟩
    | true => exact Or.inr ⟨rfl, rfl, rfl, rfl⟩

theorem Sol.ext (s : Sol g g' nh hA dst nd e n hc ec poss) : Ext g g' :=
  ⟨fun _ hd hi => ⟨hd, s.heads_old hi, rfl, rfl, fun _ h => h⟩,
   fun _ _ hi => let ⟨ed', a, b, c, _⟩ := s.edge_fwd hi; ⟨ed', a, b, c⟩⟩

theorem Sol.ginv {env : Env} (s : Sol g g' nh hA dst nd e n hc ec poss) (hg : GInv env g)
    (hnh : hc = true → HeadOk env nh) {hs hd : Head} (hhs : g'.heads[hA]? = some hs) (hhd : g.heads[dst]? = some hd)
    (htr : env.t.trans env.g hd.state (env.t.symAt hs.state) hs.state)
    (hfit : NodeFits env g nd (env.t.symAt hs.state) dst hs.frontier) : GInv env g' := by
  have hx := s.ext
  refine ⟨fun i x hi => ?_, fun i ed hi => ?_, fun i i' ed ed' m hi hi' hm hm' hnt => ?_⟩
  · rcases s.heads_new hi with k | ⟨k, _, rfl⟩
    · exact hg.heads i x k
    · exact hnh k
  · rcases s.edges_new hi with ⟨_, k⟩ | ⟨rfl, rfl⟩
    · exact EdgeOk.ext hx (fun m _ nd' h => s.nodes_old h) (hg.edges i ed k)
    · refine ⟨⟨hs, hd, hhs, s.heads_old hhd, htr, fun m hm => ?_⟩,
        fun _ => List.append_ne_nil_of_right_ne_nil _ (List.cons_ne_nil _ _)⟩
      rcases s.poss_new s.edge hm with ⟨ed0, k0, -, -, hm0⟩ | ⟨rfl, -⟩
      · obtain ⟨hs0, _, hhs0, _, _, hposs⟩ := (hg.edges _ ed0 k0).ends
        obtain ⟨nd', hnd', hfit'⟩ := hposs m hm0
        rcases s.edges_old k0 with ⟨hne, _⟩ | ⟨_, _, rfl⟩
        · exact absurd rfl hne
        · obtain rfl := Option.mem_unique hhs (s.heads_old hhs0)
          exact ⟨nd', s.nodes_old hnd', NodeFits.ext hx hfit'⟩
      · exact ⟨nd, s.node, NodeFits.ext hx hfit⟩
  · -- the new node is on edge `e` only; every other possibility was there before
    have hfresh : ∀ {j : Nat} {x0 : Edge}, g.edges[j]? = some x0 → n ∉ x0.poss := fun hj hm0 =>
      Nat.lt_irrefl _ (s.n_eq ▸ hg.poss_lt hj hm0)
    have hnt0 : ¬ isTermNode g m := fun ht => hnt (ht.mono fun _ _ h => s.nodes_old h)
    rcases s.poss_new hi hm with ⟨a, ha, -, -, hma⟩ | ⟨h1, rfl⟩ <;>
      rcases s.poss_new hi' hm' with ⟨b, hb, -, -, hmb⟩ | ⟨h2, rfl⟩
    · exact hg.uniq i i' a b m ha hb hma hmb hnt0
    · exact absurd (h2 ▸ hma) (hfresh ha)
    · exact absurd (h1 ▸ hmb) (hfresh hb)
    · rfl

theorem Sol.of_addSolution {g gX : Gss} {nh : Head} {hc : Bool}
    (hh : gX.heads = if hc then g.heads.push nh else g.heads) (he : gX.edges = g.edges) (hn : gX.nodes = g.nodes)
    (v dst : Nat) (nd : SNode) (hv : hc = true → v = g.heads.size) :
    ∃ (e : Nat) (ec : Bool) (poss : List Nat),
      Sol g ((gX.addNode nd).1.addSolution v dst g.nodes.size) nh v dst nd e g.nodes.size hc ec poss := by
  unfold Gss.addSolution
  cases hb : (gX.addNode nd).1.edgeBetween v dst with
  | some e =>
    obtain ⟨⟨_, _, poss⟩, hed, rfl, rfl⟩ := edgeBetween_some hb
    refine ⟨e, false, poss, ?_, fun i => ?_, ?_, rfl, hv, nofun, fun _ => he ▸ hed⟩
    · show ((gX.addNode nd).1.pushPoss e _).heads = _
      rw [pushPoss_heads, addNode_heads, hh]
    · show ((gX.addNode nd).1.pushPoss e _).edges[i]? = _
      rw [pushPoss_edges _ _ _ _ hed, addNode_edges, he]
    · show ((gX.addNode nd).1.pushPoss e _).nodes = _
      rw [pushPoss_nodes, ← hn]; rfl
  | none =>
    refine ⟨g.edges.size, true, [], hh, fun i => ?_, hn ▸ rfl, rfl, hv, fun _ => ⟨rfl, rfl, he ▸ edgeBetween_none hb⟩, nofun⟩
    show ((gX.addNode nd).1.addEdge v dst [g.nodes.size]).1.edges[i]? = _
    rw [addEdge_edges, addNode_edges, he]; rfl

end

/-- what `replaceChildren` does: nothing, or the children of exactly one node of `ns` become `parents` -/
inductive FoldSpec (g : Gss) (prod : Nat) (parents : List Nat) (ns : List Nat) (g' : Gss) : Prop
  | same : g' = g → (∀ n ∈ ns, ∀ nd, g.nodes[n]? = some nd → extends? prod parents nd = false) →
      FoldSpec g prod parents ns g'
  | one (n0 : Nat) (sp : Span) (l : Option Slice) (C0 : List Nat) : n0 ∈ ns →
      g.nodes[n0]? = some (.nonterm prod sp l C0) → C0.length < parents.length → zipEq parents C0 = true →
      g'.heads = g.heads → g'.edges = g.edges →
      (∀ m, g'.nodes[m]? = if n0 = m then some (.nonterm prod sp l parents) else g.nodes[m]?) →
      FoldSpec g prod parents ns g'

theorem FoldSpec.cons {g g' : Gss} {prod : Nat} {parents rest : List Nat} {n : Nat}
    (h : FoldSpec g prod parents rest g')
    (hn : ∀ nd, g.nodes[n]? = some nd → extends? prod parents nd = false) : FoldSpec g prod parents (n :: rest) g' := by
  cases h with
  | same h1 h2 =>
    refine .same h1 fun m hm nd hmn => ?_
    rcases List.mem_cons.mp hm with rfl | hm
    · exact hn nd hmn
    · exact h2 m hm nd hmn
  | one n0 sp l C0 h1 h2 h3 h4 h5 h6 h7 => exact .one n0 sp l C0 (List.mem_cons_of_mem _ h1) h2 h3 h4 h5 h6 h7

theorem replaceChildren_spec (g : Gss) (prod : Nat) (parents : List Nat) : ∀ (ns : List Nat),
    FoldSpec g prod parents ns (replaceChildren g prod parents ns)
  | [] => .same rfl (by simp)
  | n :: rest => by
    simp only [replaceChildren]
    cases hnd : g.nodes[n]? with
    | none => exact (replaceChildren_spec g prod parents rest).cons fun nd h => by rw [hnd] at h; cases h
    | some nd =>
      simp only
      split
      · rename_i hext
        cases nd with
        | term tk sp => simp [extends?] at hext
        | nonterm p sp l ch =>
          simp only [extends?, Bool.and_eq_true, beq_iff_eq, decide_eq_true_eq] at hext
          obtain ⟨⟨hp, hlen⟩, hz⟩ := hext
          subst hp
          have hlt := lt_size_of_getElem? hnd
          refine .one n sp l ch (by simp) hnd hlen hz rfl rfl ?_
          intro m
          simp only [setChildren, Array.getElem?_setIfInBounds, hlt, ↓reduceIte]
      · rename_i hext
        exact (replaceChildren_spec g prod parents rest).cons fun nd' h => by
          obtain rfl := Option.mem_unique hnd h; simpa using hext

theorem FoldSpec.heads {g g' : Gss} {prod : Nat} {parents ns : List Nat} (h : FoldSpec g prod parents ns g') :
    g'.heads = g.heads := by
  cases h with
  | same h1 _ => rw [h1]
  | one _ _ _ _ _ _ _ _ h5 _ _ => exact h5

theorem FoldSpec.edges {g g' : Gss} {prod : Nat} {parents ns : List Nat} (h : FoldSpec g prod parents ns g') :
    g'.edges = g.edges := by
  cases h with
  | same h1 _ => rw [h1]
  | one _ _ _ _ _ _ _ _ _ h6 _ => exact h6

theorem FoldSpec.ginv {env : Env} {g g' : Gss} {prod : Nat} {parents : List Nat} {e : Nat} {ed : Edge} {hs : Head}
    (h : FoldSpec g prod parents ed.poss g') (hg : GInv env g) (he : g.edges[e]? = some ed)
    (hhs : g.heads[ed.src]? = some hs)
    (hfit : ∀ sp l, NodeFits env g (.nonterm prod sp l parents) (env.t.symAt hs.state) ed.dst hs.frontier) :
    GInv env g' ∧ Ext g g' := by
  cases h with
  | same h1 _ => rw [h1]; exact ⟨hg, Ext.refl g⟩
  | one n sp l ch hn hnd _ _ hh hee hnn =>
    replace hfit := hfit sp l
    have hx : Ext g g' := ⟨fun _ hd h => ⟨hd, hh ▸ h, rfl, rfl, fun _ h => h⟩, fun _ ed h => ⟨ed, hee ▸ h, rfl, rfl⟩⟩
    have hnotterm : ¬ isTermNode g n := by
      rintro ⟨tk, sp', h⟩; rw [hnd] at h; cases h
    refine ⟨⟨fun i hd hi => hg.heads i hd (hh ▸ hi), ?_, ?_⟩, hx⟩
    · intro e' ed' he'
      rw [hee] at he'
      have hok := hg.edges e' ed' he'
      obtain ⟨hs', hd', hhs', hhd', htr, hposs⟩ := hok.ends
      refine ⟨⟨hs', hd', hh ▸ hhs', hh ▸ hhd', htr, ?_⟩, hok.poss_ne⟩
      intro m hm
      by_cases hmn : n = m
      · subst hmn
        have hee' : e' = e := hg.uniq e' e ed' ed n he' he hm hn hnotterm
        subst hee'
        obtain rfl := Option.mem_unique he he'
        obtain rfl := Option.mem_unique hhs hhs'
        exact ⟨_, by rw [hnn, if_pos rfl], NodeFits.ext hx hfit⟩
      · obtain ⟨nd', hnd', hfit'⟩ := hposs m hm
        exact ⟨nd', by rw [hnn, if_neg hmn]; exact hnd', NodeFits.ext hx hfit'⟩
    · intro e1 e2 ed1 ed2 m he1 he2 hm1 hm2 hnt
      rw [hee] at he1 he2
      apply hg.uniq e1 e2 ed1 ed2 m he1 he2 hm1 hm2
      rintro ⟨tk, sp', h⟩
      apply hnt
      by_cases hmn : n = m
      · subst hmn; rw [hnd] at h; cases h
      · exact ⟨tk, sp', by rw [hnn, if_neg hmn]; exact h⟩

theorem zipEq_iff : ∀ (a b : List Nat), zipEq a b = true ↔ (a <+: b ∨ b <+: a)
  | [], b => by simp [zipEq]
  | a :: as, [] => by simp [zipEq]
  | a :: as, b :: bs => by
    simp only [zipEq, Bool.and_eq_true, beq_iff_eq, zipEq_iff as bs, List.cons_prefix_cons]
    constructor
    · rintro ⟨rfl, h | h⟩
      · exact Or.inl ⟨rfl, h⟩
      · exact Or.inr ⟨rfl, h⟩
    · rintro (⟨rfl, h⟩ | ⟨rfl, h⟩)
      · exact ⟨rfl, Or.inl h⟩
      · exact ⟨rfl, Or.inr h⟩

theorem FoldSpec.grown {g g' : Gss} {prod : Nat} {Q poss : List Nat} (hs : FoldSpec g prod Q poss g')
    (h : allDiffer g prod Q poss = false)
    (hnt : ∀ n ∈ poss, ∀ (tk : Tok) (sp : Span), g.nodes[n]? ≠ some (.term tk sp)) :
    ∃ n0 ∈ poss, ∃ (sp : Span) (l : Option Slice) (C0 C : List Nat), g.nodes[n0]? = some (.nonterm prod sp l C0) ∧
      (∀ m, g'.nodes[m]? = if n0 = m then some (.nonterm prod sp l C) else g.nodes[m]?) ∧
      C0 <+: C ∧ Q <+: C := by
  cases hs with
  | one n0 sp0 l0 C0 h1 h2 h3 h4 _ _ h7 =>
    -- the first possibility that the path extends gets the path as its children
    refine ⟨n0, h1, sp0, l0, C0, Q, h2, h7, ?_, List.prefix_refl Q⟩
    exact ((zipEq_iff _ _).mp h4).resolve_left fun k => Nat.not_le.mpr h3 k.length_le
  | same h1 h2 =>
    -- nothing was replaced: the possibility that does not differ is longer than the path
    unfold allDiffer at h
    rw [List.all_eq_false] at h
    obtain ⟨n, hn, hd⟩ := h
    cases hnd : g.nodes[n]? with
    | none => rw [hnd] at hd; simp at hd
    | some nd =>
      rw [hnd] at hd
      simp only [Bool.not_eq_true] at hd
      cases nd with
      | term tk sp => exact absurd hnd (hnt n hn tk sp)
      | nonterm p sp l ch =>
        simp only [differs, Bool.or_eq_false_iff, bne_eq_false_iff_eq, beq_eq_false_iff_ne, ne_eq,
          Bool.not_eq_false'] at hd
        obtain ⟨⟨hp, hlen⟩, hz⟩ := hd
        subst hp
        refine ⟨n, hn, sp, l, ch, ch, hnd, fun m => ?_, List.prefix_refl ch, ?_⟩
        · rw [h1]
          split
          · rename_i hm; rw [← hm, hnd]
          · rfl
        · have hnext := h2 n hn _ hnd
          simp only [extends?, beq_self_eq_true, Bool.true_and, Bool.and_eq_false_iff, decide_eq_false_iff_not,
            Nat.not_lt] at hnext
          rcases hnext with h3 | h3
          · exact ((zipEq_iff Q ch).mp hz).resolve_right fun k => hlen (Nat.le_antisymm h3 k.length_le)
          · rw [hz] at h3; simp at h3

end Rustemo.Glr
