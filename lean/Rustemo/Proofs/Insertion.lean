import Rustemo.Proofs.StringLexer
/-!
C14, layout insertion invariance (default string lexer, no Layout rule): two inputs parsed with the same table and settings.
`Aligned env1 env2 R`: `R` relates byte offsets of the two inputs at which the lexer looks for tokens (those reached after
whitespace skipping); related offsets see the same recognizer answers and token texts, and stay related after a matching token
and the skipping that follows.  `PathAligned` asks this only along the tokens the first parse shifts, known from its result as
the token history only grows.  The input enters the lexer's answer only through the recognizer answers at one offset
(`ntBase_key_congr`), so the two parses run in lockstep and give the same tree up to positions and layout (`Tree.shape`).
-/

namespace Rustemo

inductive Shape where
  | leaf (kind : Nat) (text : List Nat)
  | node (prod : Nat) (cs : List Shape)

mutual
def Tree.shape (input : List Nat) : Tree → Shape
  | .leaf k _ v _ => .leaf k (sliceOf input v)
  | .node p _ _ cs => .node p (TreeList.shapes input cs)
def TreeList.shapes (input : List Nat) : TreeList → List Shape
  | .nil => []
  | .cons t ts => Tree.shape input t :: TreeList.shapes input ts
end

theorem shapes_ofList (input : List Nat) (l : List Tree) :
    (TreeList.ofList l).shapes input = l.map (Tree.shape input) := by
  induction l with
  | nil => simp [TreeList.ofList, TreeList.shapes]
  | cons t ts ih => simp [TreeList.ofList, TreeList.shapes, ih]

structure Aligned (env1 env2 : Env) (R : Nat → Nat → Prop) : Prop where
  start : R (postSkip env1 0) (postSkip env2 0)
  recog : ∀ p q, R p q → ∀ k, env1.recog k p = env2.recog k q
  next : ∀ p q, R p q → ∀ k l, env1.recog k p = some l → R (postSkip env1 (p + l)) (postSkip env2 (q + l))
  text : ∀ p q, R p q → ∀ k l, env1.recog k p = some l →
    sliceOf env1.input (p, l) = sliceOf env2.input (q, l)

/-- the tokens in input order.  Where they end the lexer looks once more (end of input, or the stop of a partial parse): the
    recognizers agree there too -/
def PathAligned (env1 env2 : Env) : List Tok → Nat → Nat → Prop
  | [], p, q => ∀ k, env1.recog k p = env2.recog k q
  | tk :: rest, p, q =>
    tk.val.1 = p ∧ (∀ k, env1.recog k p = env2.recog k q) ∧
    sliceOf env1.input tk.val = sliceOf env2.input (q, tk.val.2) ∧
    PathAligned env1 env2 rest (postSkip env1 (p + tk.val.2)) (postSkip env2 (q + tk.val.2))

theorem PathAligned.recog {env1 env2 : Env} : ∀ {l : List Tok} {p q : Nat}, PathAligned env1 env2 l p q →
    ∀ k, env1.recog k p = env2.recog k q
  | [], _, _, h => h
  | _ :: _, _, _, h => h.2.1

def tokKey (tk : Tok) : Nat × Nat := (tk.kind, tk.val.2)

theorem tokKey_inj {a b : Tok} (h : tokKey a = tokKey b) : a.kind = b.kind ∧ a.val.2 = b.val.2 :=
  _root_.Prod.mk.inj h

theorem tokenIterAux_keys_congr {env1 env2 : Env} {pos1 pos2 : Pos}
    (h : ∀ k, env1.recog k pos1.pos = env2.recog k pos2.pos) :
    ∀ (exp : List (Nat × Bool)) (m : Bool),
      (tokenIterAux env1 pos1 m exp).map tokKey = (tokenIterAux env2 pos2 m exp).map tokKey
  | [], m => by simp [tokenIterAux]
  | (k, fin) :: rest, m => by
    unfold tokenIterAux
    rw [← h k]
    cases env1.recog k pos1.pos with
    | some l =>
      simp only [List.map_cons, tokKey]
      congr 1
      split
      · rfl
      · exact tokenIterAux_keys_congr h rest true
    | none =>
      simp only
      split
      · rfl
      · exact tokenIterAux_keys_congr h rest m

theorem pickToken_keys_congr (longest : Bool) {toks1 toks2 : List Tok}
    (h : toks1.map tokKey = toks2.map tokKey) :
    (pickToken longest toks1).map tokKey = (pickToken longest toks2).map tokKey := by
  have hmax : ∀ toks : List Tok, maxLen toks = (toks.map tokKey).foldl (fun m x => max m x.2) 0 := fun toks => by
    rw [maxLen, List.foldl_map]; rfl
  have hf : ∀ (n : Nat) (toks : List Tok), (toks.filter (fun t => t.val.2 == n)).map tokKey =
      (toks.map tokKey).filter (fun x => x.2 == n) := fun n toks => by rw [List.filter_map]; rfl
  unfold pickToken
  split
  · rw [← List.head?_map, ← List.head?_map, hf, hf, hmax, hmax, h]
  · rw [← List.head?_map, ← List.head?_map, h]

def Outcome.key : Outcome Tok → Option (Nat × Nat)
  | .ok tk => some (tokKey tk)
  | _ => none

theorem ntBase_key_congr {env1 env2 : Env} (hc1 : env1.custom = none) (hc2 : env2.custom = none)
    (ht : env2.t = env1.t) (hl : env2.longest = env1.longest) (pp : Bool) {ctx1 ctx2 : Ctx}
    (hstate : ctx1.state = ctx2.state)
    (h : ∀ k, env1.recog k (postSkip env1 ctx1.pos.pos) = env2.recog k (postSkip env2 ctx2.pos.pos)) :
    (nextTokenBase env1 pp ctx1).2.key = (nextTokenBase env2 pp ctx2).2.key := by
  have hk := pickToken_keys_congr env1.longest
    (tokenIterAux_keys_congr (env1 := env1) (env2 := env2) (pos1 := lexPos env1 ctx1.pos) (pos2 := lexPos env2 ctx2.pos)
      (by rw [lexPos_pos, lexPos_pos]; exact h) (env1.t.sorted ctx1.state) false)
  rw [nextTokenBase_string env1 hc1, nextTokenBase_string env2 hc2, ht, hl, ← hstate]
  unfold tokenIter
  generalize pickToken env1.longest (tokenIterAux env1 _ false _) = o1 at hk ⊢
  generalize pickToken env1.longest (tokenIterAux env2 _ false _) = o2 at hk ⊢
  cases o1 <;> cases o2 <;> simp only [Option.map_some, Option.map_none, reduceCtorEq] at hk
  · simp only [noToken, ht]
    split
    · rfl
    · split <;> rfl
  · exact congrArg some (Option.some.inj hk)

structure SameParser (env1 env2 : Env) : Prop where
  e1 : StringEnv env1
  e2 : StringEnv env2
  noLayout : env1.t.layoutState = none
  g : env2.g = env1.g
  t : env2.t = env1.t
  longest : env2.longest = env1.longest

theorem SameParser.symm {env1 env2 : Env} (h : SameParser env1 env2) : SameParser env2 env1 :=
  ⟨h.e2, h.e1, h.t ▸ h.noLayout, h.g.symm, h.t.symm, h.longest.symm⟩

theorem lexSim (env1 env2 : Env) (hp : SameParser env1 env2) (pp : Bool) (ctx1 ctx2 ctx1' : Ctx) (tk1 : Tok)
    (hstate : ctx1.state = ctx2.state) {rest : List Tok}
    (hpa : PathAligned env1 env2 rest (postSkip env1 ctx1.pos.pos) (postSkip env2 ctx2.pos.pos))
    (h : nextTokenBase env1 pp ctx1 = (ctx1', .ok tk1)) :
    ∃ ctx2' tk2, nextTokenBase env2 pp ctx2 = (ctx2', .ok tk2) ∧
      PathAligned env1 env2 rest ctx1'.pos.pos ctx2'.pos.pos ∧
      Stable env1 ctx1' ∧ Stable env2 ctx2' ∧ tokKey tk1 = tokKey tk2 := by
  have hk2 := ntBase_key_congr hp.e1.custom hp.e2.custom hp.t hp.longest pp hstate hpa.recog
  rw [h] at hk2
  generalize hn2 : nextTokenBase env2 pp ctx2 = r2 at hk2
  obtain ⟨ctx2', o2⟩ := r2
  cases o2 with
  | ok tk2 =>
    obtain ⟨hp1, _, hs1⟩ := ntWs_base env1 hp.e1.custom pp _ _ _ h
    obtain ⟨hp2, _, hs2⟩ := ntWs_base env2 hp.e2.custom pp _ _ _ hn2
    exact ⟨ctx2', tk2, rfl, by rw [hp1, hp2]; exact hpa, hs1, hs2, Option.some.inj hk2⟩
  | _ => cases hk2

theorem topState_map {st1 st2 : List StackItem} (h : st1.map (·.state) = st2.map (·.state)) :
    topState st1 = topState st2 := by
  rw [topState_eq, topState_eq, h]

theorem ReduceAt.transfer {env1 env2 : Env} {c1 c2 : Cfg} {p len s' : Nat} {pr : Prod} (hg : env2.g = env1.g)
    (ht : env2.t = env1.t) (hstack : c1.stack.map (·.state) = c2.stack.map (·.state))
    (hkind : c1.tok.kind = c2.tok.kind) (hr : ReduceAt env1 c1 p len pr s') : ReduceAt env2 c2 p len pr s' := by
  obtain ⟨state, fromState, acts, htop, hcell, hlen, hfrom, hpr, hgoto⟩ := hr
  refine ⟨state, fromState, acts, topState_map hstack ▸ htop, by rw [ht, ← hkind]; exact hcell, ?_, ?_,
    by rw [hg]; exact hpr, by rw [hg, ht]; exact hgoto⟩
  · have := congrArg List.length hstack
    simp only [List.length_map] at this
    exact this ▸ hlen
  · rw [← topState_map (st1 := c1.stack.drop len) (by rw [List.map_drop, List.map_drop, hstack])]
    exact hfrom

theorem Aligned.symm {env1 env2 : Env} {R : Nat → Nat → Prop} (h : Aligned env1 env2 R) :
    Aligned env2 env1 (fun q p => R p q) :=
  ⟨h.start, fun q p hR k => (h.recog p q hR k).symm,
   fun q p hR k l hk => h.next p q hR k l (by rw [h.recog p q hR k]; exact hk),
   fun q p hR k l hk => (h.text p q hR k l (by rw [h.recog p q hR k]; exact hk)).symm⟩

theorem runLoop_hist_ext (env : Env) (nt : Ctx → Ctx × Outcome Tok) (fuel : Nat) (c : Cfg) (ctx : Ctx)
    (r : ParseResult) (h : runLoop env nt fuel c = (ctx, .ok r)) : ∃ l, r.hist.reverse = c.hist.reverse ++ l := by
  have hI : ∀ c1 c2 : Cfg, (∃ l, c1.hist.reverse = c.hist.reverse ++ l) → step env nt c1 = .next c2 →
      ∃ l, c2.hist.reverse = c.hist.reverse ++ l := by
    intro c1 c2 ⟨l, hl⟩ hstep
    cases step_eq_next env nt c1 c2 hstep with
    | shift state s' acts ctx1 tk htop hcell hnt1 hc' =>
      subst hc'
      exact ⟨l ++ [c1.tok], by simp [hl]⟩
    | reduce p len s' pr ctx1 tk hr hrlen hnt1 hc' =>
      subst hc'
      exact ⟨l, hl⟩
  obtain ⟨c', ⟨l, hl⟩, hdone⟩ := runLoop_ok_inv env nt _ hI fuel c ⟨[], (List.append_nil _).symm⟩ h
  exact ⟨l, by rw [hdone.hist_eq, hl]⟩

section

variable (env1 env2 : Env) (T : List Tok)

/-- `T` are the tokens of the first run's result in input order, `rem` those still to come -/
structure CRel (c1 c2 : Cfg) : Prop where
  stack : c1.stack.map (·.state) = c2.stack.map (·.state)
  res : c1.res.map (Tree.shape env1.input) = c2.res.map (Tree.shape env2.input)
  rem : ∃ rem, T = c1.hist.reverse ++ rem ∧ PathAligned env1 env2 rem c1.ctx.pos.pos c2.ctx.pos.pos
  st1 : Stable env1 c1.ctx
  st2 : Stable env2 c2.ctx
  key : tokKey c1.tok = tokKey c2.tok
  s1 : SInv env1 c1
  s2 : SInv env2 c2

theorem sim_next (hp : SameParser env1 env2) (pp : Bool) (c1 c2 c1' : Cfg) (hrel : CRel env1 env2 T c1 c2)
    (hstep : step env1 (nextTokenBase env1 pp) c1 = .next c1')
    (hext : ∃ l, T = c1'.hist.reverse ++ l) :
    ∃ c2', step env2 (nextTokenBase env2 pp) c2 = .next c2' ∧ CRel env1 env2 T c1' c2' := by
  have hns := hp.e1.noShiftStop
  have ht := hp.t
  have hs1' := step_spans env1 _ c1 c1' (ntOk_base env1 hp.e1.custom hp.e1.recog pp) hns hrel.s1 hstep
  have hs2' : ∀ c2', step env2 (nextTokenBase env2 pp) c2 = .next c2' → SInv env2 c2' := fun c2' h2 =>
    step_spans env2 _ c2 c2' (ntOk_base env2 hp.e2.custom hp.e2.recog pp) hp.e2.noShiftStop hrel.s2 h2
  obtain ⟨hkind, hvlen⟩ := tokKey_inj hrel.key
  have hlenR : c1.res.length = c2.res.length := by
    have := congrArg List.length hrel.res; simpa using this
  obtain ⟨rem, hT, hpath⟩ := hrel.rem
  cases step_eq_next env1 _ c1 c1' hstep with
  | shift state s' acts ctx1 tk htop hcell hnt1 hc' =>
    have hcell2 : env2.t.cell state c2.tok.kind = .shift s' :: acts := by rw [ht, ← hkind]; exact hcell
    have hsh1 := hrel.s1.shiftAt hns hcell
    have hsh2 := hrel.s2.shiftAt hp.e2.noShiftStop hcell2
    -- the token being shifted is the next one of the path
    obtain ⟨l, hl⟩ := hext
    rw [hc'] at hl
    have hrem : rem = c1.tok :: l :=
      List.append_cancel_left (by rw [← hT, hl, List.reverse_cons, List.append_assoc]; rfl)
    rw [hrem] at hpath
    obtain ⟨_, _, htext, hrest⟩ := hpath
    obtain ⟨ctx2', tk2, hnt2, hpa, hs1, hs2, hkey⟩ :=
      lexSim env1 env2 hp pp (shiftCtx env1 c1 s') (shiftCtx env2 c2 s') ctx1 tk rfl
        (by rw [hsh1.pos_pos, hsh2.pos_pos, ← hvlen]; exact hrest) hnt1
    have htop2 : topState c2.stack = some state := by rw [← topState_map hrel.stack]; exact htop
    have hstep2 := (StepNext.shift state s' acts ctx2' tk2 htop2 hcell2 hnt2 rfl).step_eq
    refine ⟨_, hstep2, ?_⟩
    subst hc'
    refine ⟨by simp [shiftItem, hrel.stack], ?_, ⟨l, hl, hpa⟩, hs1, hs2, hkey, hs1', hs2' _ hstep2⟩
    · have htext' : sliceOf env1.input c1.tok.val = sliceOf env2.input c2.tok.val := by
        have e2 : c2.tok.val = (c2.ctx.pos.pos, c1.tok.val.2) := by rw [← hsh2.tokAt.1, hvlen]
        rw [e2]; exact htext
      simp only [List.map_cons, hrel.res, shiftLeaf, Tree.shape, htext', hkind]
  | reduce p len s' pr ctx1 tk hr hrlen hnt1 hc' =>
    obtain ⟨ctx2', tk2, hnt2, hpa, hs1, hs2, hkey⟩ :=
      lexSim env1 env2 hp pp (reduceCtx c1 s') (reduceCtx c2 s') ctx1 tk rfl
        (show PathAligned env1 env2 rem (postSkip env1 c1.ctx.pos.pos) (postSkip env2 c2.ctx.pos.pos) by
          rw [hrel.st1, hrel.st2]; exact hpath) hnt1
    have hstep2 := (StepNext.reduce p len s' pr ctx2' tk2 (hr.transfer hp.g ht hrel.stack hkind) (hlenR ▸ hrlen) hnt2
      rfl).step_eq
    refine ⟨_, hstep2, ?_⟩
    subst hc'
    refine ⟨?_, ?_, ⟨rem, hT, hpa⟩, hs1, hs2, hkey, hs1', hs2' _ hstep2⟩
    · simp only [List.map_cons, List.map_drop, hrel.stack]
    · simp only [List.map_cons, List.map_drop, hrel.res, reduceNode, Tree.shape, shapes_ofList,
        List.map_reverse, List.map_take]

theorem sim_done (ht : env2.t = env1.t) (pp : Bool) (c1 c2 : Cfg) (ctx1 : Ctx) (r1 : ParseResult)
    (hrel : CRel env1 env2 T c1 c2)
    (hstep : step env1 (nextTokenBase env1 pp) c1 = .done ctx1 r1) :
    ∃ ctx2 r2, step env2 (nextTokenBase env2 pp) c2 = .done ctx2 r2 ∧
      r1.tree.shape env1.input = r2.tree.shape env2.input := by
  have hkind := (tokKey_inj hrel.key).1
  obtain ⟨⟨state, acts, htop, hcell⟩, _, ⟨rest, hres⟩, _, _⟩ := step_eq_done env1 _ c1 ctx1 r1 hstep
  have hres2 := hrel.res
  rw [hres] at hres2
  cases hc2 : c2.res with
  | nil => rw [hc2] at hres2; simp at hres2
  | cons tr2 rest2 =>
    rw [hc2] at hres2
    simp only [List.map_cons, List.cons.injEq] at hres2
    refine ⟨c2.ctx, ⟨tr2, c2.slice, c2.hist⟩, ?_, hres2.1⟩
    exact step_accept_intro env2 _ c2 state acts tr2 rest2
      (by rw [← topState_map hrel.stack]; exact htop) (by rw [ht, ← hkind]; exact hcell) hc2

end

theorem parse_insertion_path (env1 env2 : Env) (hp : SameParser env1 env2)
    (pp : Bool) (fuel : Nat) (ctx1 : Ctx) (r1 : ParseResult) (h : parse env1 pp fuel = (ctx1, .ok r1))
    (hal : PathAligned env1 env2 r1.hist.reverse (postSkip env1 0) (postSkip env2 0)) :
    ∃ ctx2 r2, parse env2 pp fuel = (ctx2, .ok r2) ∧
      r1.tree.shape env1.input = r2.tree.shape env2.input := by
  unfold parse at h ⊢
  rw [nextTokenMain_eq_base env1 hp.noLayout] at h
  rw [nextTokenMain_eq_base env2 hp.symm.noLayout]
  refine parseWith_lockstep (CRel env1 env2 r1.hist.reverse) _ ctx1 r1 ?_
    (fun c1 c2 hrel hstep => sim_done env1 env2 _ hp.t pp c1 c2 ctx1 r1 hrel hstep) ?_ h
  · -- the tokens still to come are those of the result
    intro n c1 c2 c1' hrel hstep hrun
    obtain ⟨l, hl⟩ := runLoop_hist_ext env1 _ n c1' ctx1 r1 hrun
    exact sim_next env1 env2 _ hp pp c1 c2 c1' hrel hstep ⟨l, hl⟩
  · intro ctx1' tk1 hnt1
    obtain ⟨ctx2', tk2, hnt2, hpa, hs1, hs2, hkey⟩ :=
      lexSim env1 env2 hp pp {} {} ctx1' tk1 rfl hal hnt1
    have hok1 := ntOk_base env1 hp.e1.custom hp.e1.recog pp
    have hok2 := ntOk_base env2 hp.e2.custom hp.e2.recog pp
    exact ⟨ctx2', tk2, hnt2, by simp, by simp, ⟨_, rfl, hpa⟩, hs1, hs2, hkey,
      sinv_init 0 (hok1.ctxOk (ctxOk_start _) hnt1) (hok1.tokOk (ctxOk_start _) hnt1),
      sinv_init 0 (hok2.ctxOk (ctxOk_start _) hnt2) (hok2.tokOk (ctxOk_start _) hnt2)⟩

section

variable (env1 env2 : Env) (R : Nat → Nat → Prop)

/-- `PathAligned` recurses from the first token and the run adds tokens at the end: the invariant holds the alignment of the
    tokens shifted so far as a function of the alignment of those to come -/
structure AInv (c : Cfg) : Prop where
  st : Stable env1 c.ctx
  path : ∃ q, R c.ctx.pos.pos q ∧ ∀ rest, PathAligned env1 env2 rest c.ctx.pos.pos q →
    PathAligned env1 env2 (c.hist.reverse ++ rest) (postSkip env1 0) (postSkip env2 0)

theorem step_ainv (hc1 : env1.custom = none) (hns : NoShiftStop env1.t)
    (hal : Aligned env1 env2 R) (pp : Bool) (c c' : Cfg) (hs : SInv env1 c) (hinv : AInv env1 env2 R c)
    (hstep : step env1 (nextTokenBase env1 pp) c = .next c') : AInv env1 env2 R c' := by
  obtain ⟨q, hR, hcont⟩ := hinv.path
  cases step_eq_next env1 _ c c' hstep with
  | shift state s' acts ctx1 tk htop hcell hnt1 hc' =>
    have hsh := hs.shiftAt hns hcell
    obtain ⟨hv1, _, _, hrec⟩ := hsh.tokAt
    obtain ⟨hp1, _, hs1⟩ := ntWs_base env1 hc1 pp _ _ _ hnt1
    rw [hsh.pos_pos] at hp1
    rw [hv1] at hrec
    subst hc'
    refine ⟨hs1,
      postSkip env2 (q + c.tok.val.2), by rw [hp1]; exact hal.next _ _ hR _ _ hrec, ?_⟩
    intro rest hrest
    show PathAligned env1 env2 ((c.tok :: c.hist).reverse ++ rest) _ _
    rw [List.reverse_cons, List.append_assoc]
    refine hcont (c.tok :: rest) ⟨hv1, hal.recog _ _ hR, ?_, by rw [← hp1]; exact hrest⟩
    rw [show c.tok.val = (c.ctx.pos.pos, c.tok.val.2) by rw [← hv1]]
    exact hal.text _ _ hR _ _ hrec
  | reduce p len s' pr ctx1 tk hr hrlen hnt1 hc' =>
    obtain ⟨hp1, _, hs1⟩ := ntWs_base env1 hc1 pp _ _ _ hnt1
    have hpos : ctx1.pos.pos = c.ctx.pos.pos := hp1.trans hinv.st
    subst hc'
    refine ⟨hs1, q, ?_, ?_⟩
    · show R ctx1.pos.pos q
      rw [hpos]; exact hR
    · show ∀ rest, PathAligned env1 env2 rest ctx1.pos.pos q → _
      rw [hpos]; exact hcont

theorem aligned_path (he : StringEnv env1) (hl1 : env1.t.layoutState = none) (hal : Aligned env1 env2 R)
    (pp : Bool) (fuel : Nat) (ctx1 : Ctx)
    (r1 : ParseResult) (h : parse env1 pp fuel = (ctx1, .ok r1)) :
    PathAligned env1 env2 r1.hist.reverse (postSkip env1 0) (postSkip env2 0) := by
  unfold parse at h
  rw [nextTokenMain_eq_base env1 hl1] at h
  have hc1 := he.custom
  have hns := he.noShiftStop
  obtain ⟨c', _, hinv, hdone⟩ := parseWith_sinv env1 _ (ntOk_base env1 hc1 he.recog pp) hns (AInv env1 env2 R)
    (fun c c' hs _ => step_ainv env1 env2 R hc1 hns hal pp c c' hs) (ctxOk_start _) h (by
    intro ctx1' tk hnt1
    obtain ⟨hp1, _, hs1⟩ := ntWs_base env1 hc1 pp _ _ _ hnt1
    exact ⟨hs1, postSkip env2 0, by rw [hp1]; exact hal.start, fun rest hrest => by rw [hp1] at hrest; exact hrest⟩)
  have hhist := hdone.hist_eq
  obtain ⟨q, hR, hcont⟩ := hinv.path
  have := hcont [] (hal.recog _ _ hR)
  rw [List.append_nil, ← hhist] at this
  exact this

end

/-- one direction; with `Aligned.symm` and `SameParser.symm`, the other -/
theorem parse_insertion (env1 env2 : Env) (R : Nat → Nat → Prop) (hp : SameParser env1 env2)
    (hal : Aligned env1 env2 R) (pp : Bool) (fuel : Nat) (ctx1 : Ctx) (r1 : ParseResult)
    (h : parse env1 pp fuel = (ctx1, .ok r1)) :
    ∃ ctx2 r2, parse env2 pp fuel = (ctx2, .ok r2) ∧
      r1.tree.shape env1.input = r2.tree.shape env2.input :=
  parse_insertion_path env1 env2 hp pp fuel ctx1 r1 h
    (aligned_path env1 env2 R hp.e1 hp.noLayout hal pp fuel ctx1 r1 h)

end Rustemo
