import Rustemo.Proofs.LRStep
import Rustemo.Proofs.Pos
/-!
A property that every `step … = .next` preserves holds where the loop ends (`runLoop_inv`, `parseWith_end`), so an
invariant of a run is proved on the two cases of `StepNext` only.  `runLoop_invN` is the induction behind it: there the property
may mention the fuel that is left, which is how a bound on the number of iterations is read off (`runLoop_no_fuel`, in TermRun).
-/

namespace Rustemo

/-- where a run ends, with the fuel that was left -/
inductive RunEnd (env : Env) (nt : Ctx → Ctx × Outcome Tok) (c : Cfg) : Nat → Ctx → Outcome ParseResult → Prop where
  | fuel : RunEnd env nt c 0 c.ctx .fuel
  | done {n : Nat} {ctx : Ctx} {r : ParseResult} (h : step env nt c = .done ctx r) : RunEnd env nt c (n+1) ctx (.ok r)
  | stop {n : Nat} {ctx : Ctx} {o : Outcome ParseResult} (h : step env nt c = .stop ctx o) : RunEnd env nt c (n+1) ctx o

private theorem RunEnd.ctx_cases {env : Env} {nt : Ctx → Ctx × Outcome Tok} {c : Cfg} {n : Nat} {ctx : Ctx}
    {o : Outcome ParseResult} (h : RunEnd env nt c n ctx o) :
    ctx = c.ctx ∨
    (∃ state s' acts o', env.t.cell state c.tok.kind = .shift s' :: acts ∧ nt (shiftCtx env c s') = (ctx, o')) ∨
    (∃ s' o', nt (reduceCtx c s') = (ctx, o')) := by
  cases h with
  | fuel => exact Or.inl rfl
  | done h =>
    exact Or.inl (step_eq_done env nt c ctx _ h).ctx_eq
  | stop h =>
    cases step_eq_stop env nt c ctx o h with
    | panic site h _ => exact Or.inl h
    | noAction state _ _ h _ => exact Or.inl h
    | shift state s' acts o' _ hcell hnt1 _ => exact Or.inr (Or.inl ⟨state, s', acts, o', hcell, hnt1⟩)
    | reduce p len s' pr o' _ hnt1 _ => exact Or.inr (Or.inr ⟨s', o', hnt1⟩)

theorem runLoop_invN (env : Env) (nt : Ctx → Ctx × Outcome Tok) (I : Nat → Cfg → Prop)
    (hI : ∀ n c c', I (n+1) c → step env nt c = .next c' → I n c') :
    ∀ (fuel : Nat) (c : Cfg) {ctx : Ctx} {o : Outcome ParseResult}, I fuel c →
      runLoop env nt fuel c = (ctx, o) → ∃ n c', I n c' ∧ RunEnd env nt c' n ctx o
  | 0, c, _, _, hc, h => by cases h; exact ⟨0, c, hc, .fuel⟩
  | fuel+1, c, _, _, hc, h => by
    unfold runLoop at h
    split at h
    · next c' hstep => exact runLoop_invN env nt I hI fuel c' (hI fuel c c' hc hstep) h
    · next hstep => cases h; exact ⟨_, c, hc, .done hstep⟩
    · next hstep => cases h; exact ⟨_, c, hc, .stop hstep⟩

theorem runLoop_inv (env : Env) (nt : Ctx → Ctx × Outcome Tok) (I : Cfg → Prop)
    (hI : ∀ c c', I c → step env nt c = .next c' → I c') (fuel : Nat) (c : Cfg) {ctx : Ctx} {o : Outcome ParseResult}
    (hc : I c) (h : runLoop env nt fuel c = (ctx, o)) : ∃ n c', I c' ∧ RunEnd env nt c' n ctx o :=
  runLoop_invN env nt (fun _ => I) (fun _ => hI) fuel c hc h

theorem runLoop_fuel_of_inv (env : Env) (nt : Ctx → Ctx × Outcome Tok) (I : Cfg → Prop)
    (hI : ∀ c, I c → ∃ c', step env nt c = .next c' ∧ I c') (fuel : Nat) :
    ∀ c, I c → (runLoop env nt fuel c).2 = .fuel := by
  induction fuel with
  | zero => intro c _; rfl
  | succ n ih =>
    intro c hc
    obtain ⟨c', hstep, hc'⟩ := hI c hc
    unfold runLoop
    rw [hstep]
    exact ih c' hc'

theorem runLoop_ok_inv (env : Env) (nt : Ctx → Ctx × Outcome Tok) (I : Cfg → Prop)
    (hI : ∀ c c', I c → step env nt c = .next c' → I c') (fuel : Nat) (c : Cfg) {ctx : Ctx}
    {r : ParseResult} (hc : I c) (h : runLoop env nt fuel c = (ctx, .ok r)) :
    ∃ c', I c' ∧ StepDone env c' ctx r := by
  obtain ⟨_, c', hc', hend⟩ := runLoop_inv env nt I hI fuel c hc h
  cases hend with
  | done h => exact ⟨c', hc', step_eq_done env nt c' ctx r h⟩
  | stop h => exact absurd rfl (step_stop_not_ok env nt c' _ _ h r)

theorem parseWith_eq (env : Env) (nt : Ctx → Ctx × Outcome Tok) (start : Nat) (ctx : Ctx) (fuel : Nat) :
    parseWith env nt start ctx fuel =
      match liftTok [] [⟨start, ctx.span⟩] [] none (nt ctx) none with
      | .next c => runLoop env nt fuel c
      | .done ctx r => (ctx, .ok r)
      | .stop ctx o => (ctx, o) := by
  unfold parseWith liftTok
  split <;> rfl

theorem parseWith_eq_cases {env : Env} {nt : Ctx → Ctx × Outcome Tok} {start : Nat} {ctx0 : Ctx} {fuel : Nat}
    {ctx : Ctx} {o : Outcome ParseResult} (h : parseWith env nt start ctx0 fuel = (ctx, o)) :
    (∃ ctx1 tk, nt ctx0 = (ctx1, .ok tk) ∧
      runLoop env nt fuel ⟨[⟨start, ctx0.span⟩], [], none, ctx1, tk, []⟩ = (ctx, o)) ∨
    (∃ o', nt ctx0 = (ctx, o') ∧ o'.FailsAs o) := by
  unfold parseWith at h
  simp only at h
  split at h
  · rename_i ctx1 tk hnt
    exact Or.inl ⟨ctx1, tk, hnt, h⟩
  all_goals
    rename_i hnt
    injection h with h1 h2
    subst h1 h2
    exact Or.inr ⟨_, hnt, by constructor⟩

theorem parseWith_end (env : Env) (nt : Ctx → Ctx × Outcome Tok) (I : Cfg → Prop)
    (hI : ∀ c c', I c → step env nt c = .next c' → I c') {start : Nat} {ctx0 : Ctx} {fuel : Nat}
    {ctx : Ctx} {o : Outcome ParseResult} (h : parseWith env nt start ctx0 fuel = (ctx, o))
    (h0 : ∀ ctx1 tk, nt ctx0 = (ctx1, .ok tk) → I ⟨[⟨start, ctx0.span⟩], [], none, ctx1, tk, []⟩) :
    (∃ n c', I c' ∧ RunEnd env nt c' n ctx o) ∨ (∃ o', nt ctx0 = (ctx, o') ∧ o'.FailsAs o) := by
  rcases parseWith_eq_cases h with ⟨ctx1, tk, hnt, hrun⟩ | h
  · exact Or.inl (runLoop_inv env nt I hI fuel _ (h0 ctx1 tk hnt) hrun)
  · exact Or.inr h

theorem parseWith_ok_end (env : Env) (nt : Ctx → Ctx × Outcome Tok) (I : Cfg → Prop)
    (hI : ∀ c c', I c → step env nt c = .next c' → I c') {start : Nat} {ctx0 : Ctx} {fuel : Nat}
    {ctx : Ctx} {r : ParseResult} (h : parseWith env nt start ctx0 fuel = (ctx, .ok r))
    (h0 : ∀ ctx1 tk, nt ctx0 = (ctx1, .ok tk) → I ⟨[⟨start, ctx0.span⟩], [], none, ctx1, tk, []⟩) :
    ∃ c', I c' ∧ StepDone env c' ctx r := by
  rcases parseWith_eq_cases h with ⟨ctx1, tk, hnt, hrun⟩ | ⟨o', _, hf⟩
  · exact runLoop_ok_inv env nt I hI fuel _ (h0 ctx1 tk hnt) hrun
  · exact absurd rfl (hf.not_ok r)

/-- two runs in lockstep; the second may use that the first goes on to the result `(ctx1, r1)` -/
theorem runLoop_lockstep {env1 env2 : Env} {nt1 nt2 : Ctx → Ctx × Outcome Tok} (Rel : Cfg → Cfg → Prop)
    (Q : Ctx → ParseResult → Prop) (ctx1 : Ctx) (r1 : ParseResult)
    (hnext : ∀ n c1 c2 c1', Rel c1 c2 → step env1 nt1 c1 = .next c1' →
      runLoop env1 nt1 n c1' = (ctx1, .ok r1) → ∃ c2', step env2 nt2 c2 = .next c2' ∧ Rel c1' c2')
    (hdone : ∀ c1 c2, Rel c1 c2 → step env1 nt1 c1 = .done ctx1 r1 →
      ∃ ctx2 r2, step env2 nt2 c2 = .done ctx2 r2 ∧ Q ctx2 r2) :
    ∀ (fuel : Nat) (c1 c2 : Cfg), Rel c1 c2 → runLoop env1 nt1 fuel c1 = (ctx1, .ok r1) →
      ∃ ctx2 r2, runLoop env2 nt2 fuel c2 = (ctx2, .ok r2) ∧ Q ctx2 r2
  | 0, _, _, _, h => by simp [runLoop] at h
  | n+1, c1, c2, hrel, h => by
    unfold runLoop at h ⊢
    split at h
    · rename_i c1' hstep
      obtain ⟨c2', hstep2, hrel'⟩ := hnext n c1 c2 c1' hrel hstep h
      rw [hstep2]
      exact runLoop_lockstep Rel Q ctx1 r1 hnext hdone n c1' c2' hrel' h
    · rename_i hstep
      injection h with h1 h2
      injection h2 with h2
      subst h1 h2
      obtain ⟨ctx2, r2, hstep2, hq⟩ := hdone c1 c2 hrel hstep
      rw [hstep2]
      exact ⟨ctx2, r2, rfl, hq⟩
    · rename_i hstep
      injection h with _ h2
      exact absurd h2 (step_stop_not_ok env1 nt1 c1 _ _ hstep r1)

theorem parseWith_lockstep {env1 env2 : Env} {nt1 nt2 : Ctx → Ctx × Outcome Tok} (Rel : Cfg → Cfg → Prop)
    (Q : Ctx → ParseResult → Prop) (ctx1 : Ctx) (r1 : ParseResult)
    (hnext : ∀ n c1 c2 c1', Rel c1 c2 → step env1 nt1 c1 = .next c1' →
      runLoop env1 nt1 n c1' = (ctx1, .ok r1) → ∃ c2', step env2 nt2 c2 = .next c2' ∧ Rel c1' c2')
    (hdone : ∀ c1 c2, Rel c1 c2 → step env1 nt1 c1 = .done ctx1 r1 →
      ∃ ctx2 r2, step env2 nt2 c2 = .done ctx2 r2 ∧ Q ctx2 r2)
    {start1 start2 : Nat} {ctxA ctxB : Ctx} {fuel : Nat}
    (h0 : ∀ cA tk1, nt1 ctxA = (cA, .ok tk1) → ∃ cB tk2, nt2 ctxB = (cB, .ok tk2) ∧
      Rel ⟨[⟨start1, ctxA.span⟩], [], none, cA, tk1, []⟩ ⟨[⟨start2, ctxB.span⟩], [], none, cB, tk2, []⟩)
    (h : parseWith env1 nt1 start1 ctxA fuel = (ctx1, .ok r1)) :
    ∃ ctx2 r2, parseWith env2 nt2 start2 ctxB fuel = (ctx2, .ok r2) ∧ Q ctx2 r2 := by
  rcases parseWith_eq_cases h with ⟨cA, tk1, hntA, hrun⟩ | ⟨o', _, hf⟩
  · obtain ⟨cB, tk2, hntB, hrel⟩ := h0 cA tk1 hntA
    unfold parseWith
    rw [hntB]
    exact runLoop_lockstep Rel Q ctx1 r1 hnext hdone fuel _ _ hrel hrun
  · exact absurd rfl (hf.not_ok r1)

/-- A property `P` of contexts that a shift followed by the lexer, a reduce followed by the lexer (with and without the layout
    merged: the loop merges it when the lexer answers a token) and the first call of the lexer establish holds of the context
    a run hands back, whatever the outcome.  `J` is an invariant of configurations the cases may use. -/
theorem parseWith_ctx (env : Env) (nt : Ctx → Ctx × Outcome Tok) (J : Cfg → Prop) (P : Ctx → Prop)
    (hJ : ∀ c c', J c → step env nt c = .next c' → J c')
    (hshift : ∀ (c : Cfg) state s' acts cx o, J c → P c.ctx → env.t.cell state c.tok.kind = .shift s' :: acts →
      nt (shiftCtx env c s') = (cx, o) → P cx)
    (hreduce : ∀ (c : Cfg) s' cx o, J c → P c.ctx → nt (reduceCtx c s') = (cx, o) →
      P cx ∧ P { cx with lay := mergeLay c.ctx.lay c.ctx.pos.pos cx.pos.pos })
    {start : Nat} {ctx0 : Ctx} {fuel : Nat}
    (h0 : ∀ cx o, nt ctx0 = (cx, o) → P cx)
    (hJ0 : ∀ ctx1 tk, nt ctx0 = (ctx1, .ok tk) → J ⟨[⟨start, ctx0.span⟩], [], none, ctx1, tk, []⟩) :
    P (parseWith env nt start ctx0 fuel).1 := by
  generalize hres : parseWith env nt start ctx0 fuel = res
  obtain ⟨ctx, o⟩ := res
  rcases parseWith_end env nt (fun c => J c ∧ P c.ctx) (fun c c' hc hstep => ⟨hJ c c' hc.1 hstep, by
      cases step_eq_next env nt c c' hstep with
      | shift state s' acts ctx1 tk htop hcell hnt1 hc' => subst hc'; exact hshift c state s' acts _ _ hc.1 hc.2 hcell hnt1
      | reduce p len s' pr ctx1 tk hr hrlen hnt1 hc' =>
        subst hc'; exact (hreduce c s' _ _ hc.1 hc.2 hnt1).2⟩) hres
    (fun ctx1 tk hnt1 => ⟨hJ0 ctx1 tk hnt1, h0 _ _ hnt1⟩) with ⟨_, c, hc, hend⟩ | ⟨o', hnt1, _⟩
  · rcases hend.ctx_cases with e | ⟨state, s', acts, o', hcell, e⟩ | ⟨s', o', e⟩
    · rw [e]; exact hc.2
    · exact hshift c state s' acts _ _ hc.1 hc.2 hcell e
    · exact (hreduce c s' _ _ hc.1 hc.2 e).1
  · exact h0 _ _ hnt1

theorem parseWith_after (env : Env) (nt : Ctx → Ctx × Outcome Tok)
    (hnt : ∀ ctx : Ctx, ctx.pos.After (nt ctx).1.pos)
    (start : Nat) (ctx0 : Ctx) (fuel : Nat) : ctx0.pos.After (parseWith env nt start ctx0 fuel).1.pos := by
  have hnt' : ∀ {c c' : Ctx} {o : Outcome Tok}, nt c = (c', o) → c.pos.After c'.pos :=
    fun {c c' o} h => by have := hnt c; rwa [h] at this
  exact parseWith_ctx env nt (fun _ => True) (fun cx => ctx0.pos.After cx.pos) (fun _ _ _ _ => trivial)
    (fun c _ s' _ _ _ _ h _ e => h.trans (Pos.After.trans ⟨_, rfl⟩ (hnt' e)))
    (fun c s' _ _ _ h e => have h' := h.trans (hnt' e : (reduceCtx c s').pos.After _); ⟨h', h'⟩)
    (fun _ _ e => hnt' e) (fun _ _ _ => trivial)

end Rustemo
