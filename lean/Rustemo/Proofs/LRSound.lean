import Rustemo.Proofs.NextToken
import Rustemo.Proofs.CoreSound
/-!
C02.  Erasing positions, spans, layout and the context from a configuration of `step` (`Model/LR.lean`) gives a configuration
of `cstepWith` (`Cfg.abs`); `FInv` is what makes the erasure faithful.  One iteration of the real loop is then one core
action (`step_refines`; `step_core` for every outcome, the panics included, and for any core configuration with the same
states), for every lexer (`nt` is arbitrary), so the loop keeps the invariant of the core.  `partial_parse` only changes
what `next_token` answers when NO token is found (`noToken`: a synthetic STOP instead of an error), so an accepted run
with partial parsing off is the same run with it on (`parseWith_ext`).
-/

namespace Rustemo

def absStack (c : Cfg) : List (Nat × Tree) := (c.stack.map (·.state)).zip c.res

def Cfg.abs (c : Cfg) : CCfg := ⟨absStack c, c.hist.map (·.kind)⟩

structure FInv (start : Nat) (c : Cfg) : Prop where
  len : c.stack.length = c.res.length + 1
  bottom : c.stack.getLast?.map (·.state) = some start

/-- `stack` holds the states of the core stack `st` above the start state and `res` as many trees: `st` is `absStack c`
    (`FInv.sameStates`) or the stack of the token-level parser, whose trees carry no decorations -/
structure SameStates (start : Nat) (stack : List StackItem) (res : List Tree) (st : List (Nat × Tree)) : Prop where
  states : stack.map (·.state) = st.map (·.1) ++ [start]
  res : res.length = st.length

namespace SameStates
variable {start : Nat} {stack : List StackItem} {res : List Tree} {st : List (Nat × Tree)}
  (h : SameStates start stack res st)
include h

theorem topState : topState stack = some (topOf start st) := by
  rw [topState_eq, h.states]
  cases st <;> rfl

theorem length : stack.length = st.length + 1 := by
  simpa using congrArg List.length h.states

theorem drop {n : Nat} (hn : n ≤ st.length) : SameStates start (stack.drop n) (res.drop n) (st.drop n) :=
  ⟨by rw [List.map_drop, h.states, List.drop_append_of_le_length (by simpa using hn), ← List.map_drop],
   by rw [List.length_drop, List.length_drop, h.res]⟩

theorem push (s' : Nat) (sp : Span) (tr x : Tree) :
    SameStates start (⟨s', sp⟩ :: stack) (tr :: res) ((s', x) :: st) :=
  ⟨by simp only [List.map_cons, h.states, List.cons_append], by simp only [List.length_cons, h.res]⟩

/-- the byte-level stack has one entry more, the start state: something is left below `len` entries iff the core
    stack has `len` entries -/
theorem of_from {len fromState : Nat} (hfrom : Rustemo.topState (stack.drop len) = some fromState) :
    len ≤ st.length ∧ fromState = topOf start (st.drop len) := by
  have hle : len ≤ st.length := by
    refine Nat.le_of_lt_succ (Nat.lt_of_not_le fun hn => ?_)
    rw [List.drop_eq_nil_of_le (h.length ▸ hn)] at hfrom
    cases hfrom
  exact ⟨hle, Option.some.inj (hfrom.symm.trans (h.drop hle).topState)⟩

end SameStates

theorem ReduceAt.core {env : Env} {c : Cfg} {p len s' start : Nat} {pr : Prod} {st : List (Nat × Tree)}
    (hr : ReduceAt env c p len pr s') (h : SameStates start c.stack c.res st) :
    len ≤ st.length ∧ env.g.prods[p]? = some pr ∧
      env.t.goto env.g (topOf start (st.drop len)) pr.lhs = some s' ∧
      ∃ acts, env.t.cell (topOf start st) c.tok.kind = .reduce p len :: acts := by
  obtain ⟨state, fromState, acts, htop, hcell, _, hfrom, hpr, hgoto⟩ := hr
  cases htop.symm.trans h.topState
  obtain ⟨hle, rfl⟩ := h.of_from hfrom
  exact ⟨hle, hpr, hgoto, acts, hcell⟩

/-- One iteration of the loop beside one action of the core on a configuration with the same states, outcome by
    outcome.  The loop reports an empty cell as an error, the core has no such outcome; every other panic of the one
    is a panic of the other.  Of the trees nothing is said: `cc` shares only the states with `c`. -/
inductive StepCore (env : Env) (nt : Ctx → Ctx × Outcome Tok) (start : Nat) (leafOf : Nat → Tree)
    (nodeOf : Nat → List Tree → Tree) (c : Cfg) (cc : CCfg) : StepOut → CStep → Prop where
  | noAction (hcell : env.t.cell (topOf start cc.stack) c.tok.kind = []) :
      StepCore env nt start leafOf nodeOf c cc (.stop c.ctx (.err .noAction)) (.panic "actions[0]")
  | shift (s' : Nat) (acts : List Action)
      (hcell : env.t.cell (topOf start cc.stack) c.tok.kind = .shift s' :: acts) :
      StepCore env nt start leafOf nodeOf c cc
        (liftTok (c.tok :: c.hist) (shiftItem env c s' :: c.stack) (shiftLeaf c :: c.res) c.slice
          (nt (shiftCtx env c s')) none)
        (.shift ⟨(s', leafOf c.tok.kind) :: cc.stack, c.tok.kind :: cc.shifted⟩)
  | reduce (p len s' : Nat) (pr : Prod) (acts : List Action)
      (hcell : env.t.cell (topOf start cc.stack) c.tok.kind = .reduce p len :: acts)
      (hlen : len ≤ cc.stack.length) (hpr : env.g.prods[p]? = some pr)
      (hgoto : env.t.goto env.g (topOf start (cc.stack.drop len)) pr.lhs = some s') :
      StepCore env nt start leafOf nodeOf c cc
        (liftTok c.hist (⟨s', reduceSpan (c.stack.take len) c.ctx.span⟩ :: c.stack.drop len)
          (reduceNode c p len :: c.res.drop len) (some (reduceSlice c len)) (nt (reduceCtx c s'))
          (some (c.ctx.lay, c.ctx.pos.pos)))
        (.reduce ⟨(s', nodeOf p ((cc.stack.take len).reverse.map (·.2))) :: cc.stack.drop len, cc.shifted⟩)
  | accept (tr tr' : Tree) :
      StepCore env nt start leafOf nodeOf c cc (.done c.ctx ⟨tr, c.slice, c.hist⟩) (.accept tr')
  | panic (m m' : String) (hcell : env.t.cell (topOf start cc.stack) c.tok.kind ≠ []) :
      StepCore env nt start leafOf nodeOf c cc (.stop c.ctx (.panic m)) (.panic m')

theorem step_core (env : Env) (nt : Ctx → Ctx × Outcome Tok) {start : Nat} (leafOf : Nat → Tree)
    (nodeOf : Nat → List Tree → Tree) {c : Cfg} {cc : CCfg} (h : SameStates start c.stack c.res cc.stack) :
    StepCore env nt start leafOf nodeOf c cc (step env nt c)
      (cstepWith env.g env.t start leafOf nodeOf cc c.tok.kind) := by
  obtain ⟨htop, _⟩ | ⟨state, htop, hsp⟩ := step_spec env nt c
  · cases htop.symm.trans h.topState
  cases htop.symm.trans h.topState
  generalize step env nt c = out at hsp
  have hlen0 := h.length
  have hne : ∀ {act : Action} {acts : List Action},
      env.t.cell (topOf start cc.stack) c.tok.kind = act :: acts →
      env.t.cell (topOf start cc.stack) c.tok.kind ≠ [] := fun h1 h2 => by rw [h1] at h2; cases h2
  cases hsp with
  | noAction hcell => rw [cstepWith_noAction hcell]; exact .noAction hcell
  | shift s' acts hcell => rw [cstepWith_shift hcell]; exact .shift s' acts hcell
  | splitOff p len acts hcell hlen =>
    rw [cstepWith_splitOff hcell (Nat.lt_of_succ_lt (hlen0 ▸ hlen : cc.stack.length + 1 < len))]; exact .panic _ _ (hne hcell)
  | noFrom p len acts hcell hlen hfrom =>
    have hl : cc.stack.length < len := Nat.lt_of_not_le fun hle => by
      rw [(h.drop hle).topState] at hfrom; cases hfrom
    rw [cstepWith_splitOff hcell hl]; exact .panic _ _ (hne hcell)
  | noProd p len fromState acts hcell hlen hfrom hpr =>
    rw [cstepWith_noProd hcell (h.of_from hfrom).1 hpr]; exact .panic _ _ (hne hcell)
  | noGoto p len fromState pr acts hcell hlen hfrom hpr hgoto =>
    obtain ⟨hle, rfl⟩ := h.of_from hfrom
    rw [cstepWith_noGoto hcell hle hpr hgoto]; exact .panic _ _ (hne hcell)
  | resSplitOff p len s' pr hr hrlen => exact absurd (h.res ▸ hrlen) (Nat.not_lt.mpr (hr.core h).1)
  | reduce p len s' pr hr hrlen =>
    obtain ⟨hle, hpr, hgoto, acts, hcell⟩ := hr.core h
    rw [cstepWith_reduce hcell hle hpr hgoto]; exact .reduce p len s' pr acts hcell hle hpr hgoto
  | noResult acts hcell hres =>
    rw [cstepWith_noResult hcell (List.eq_nil_of_length_eq_zero (by rw [← h.res, hres]; rfl))]
    exact .panic _ _ (hne hcell)
  | accept acts tr rest hcell hres =>
    cases hst : cc.stack with
    | nil => have := h.res; rw [hres, hst] at this; cases this
    | cons e below => rw [cstepWith_accept hcell hst]; exact .accept tr e.2

theorem zip_map_snd_take (ss : List Nat) (rs : List Tree) (n : Nat) (h : rs.length ≤ ss.length) :
    ((ss.zip rs).take n).map (·.2) = rs.take n := by
  rw [List.zip, List.take_zipWith, ← List.zip, List.map_snd_zip]
  simp only [List.length_take]
  omega

theorem absStack_drop (c : Cfg) (n : Nat) :
    (absStack c).drop n = ((c.stack.drop n).map (·.state)).zip (c.res.drop n) := by
  simp [absStack, List.zip, List.drop_zipWith, List.map_drop]

theorem finv_iff {start : Nat} {c : Cfg} : FInv start c ↔ SameStates start c.stack c.res (absStack c) := by
  refine ⟨fun hf => ?_, fun h => ⟨h.length.trans (congrArg (· + 1) h.res.symm),
    by rw [← List.getLast?_map, h.states]; simp⟩⟩
  obtain ⟨stack, res, _, _, _, _⟩ := c
  obtain ⟨hlen, hbot⟩ := hf
  dsimp only [absStack] at hlen hbot ⊢
  refine ⟨?_, by rw [List.length_zip, List.length_map, hlen]; exact (Nat.min_eq_right (Nat.le_succ _)).symm⟩
  induction stack generalizing res with
  | nil => cases hlen
  | cons x rest ih =>
    cases res with
    | nil =>
      obtain rfl : rest = [] := List.eq_nil_of_length_eq_zero (Nat.succ.inj hlen)
      simpa using hbot
    | cons r rs =>
      have hne : rest ≠ [] := fun h => by rw [h] at hlen; cases hlen
      rw [List.getLast?_cons_of_ne_nil hne] at hbot
      simpa using ih rs (Nat.succ.inj hlen) hbot

theorem FInv.sameStates {start : Nat} {c : Cfg} (hf : FInv start c) :
    SameStates start c.stack c.res (absStack c) := finv_iff.mp hf

theorem step_refines (env : Env) (nt : Ctx → Ctx × Outcome Tok) (start : Nat) (c c' : Cfg)
    (hinv : FInv start c) (hstep : step env nt c = .next c') :
    FInv start c' ∧ ∃ leafOf nodeOf, Decorators leafOf nodeOf ∧
      (cstepWith env.g env.t start leafOf nodeOf c.abs c.tok.kind = .shift c'.abs ∨
       cstepWith env.g env.t start leafOf nodeOf c.abs c.tok.kind = .reduce c'.abs) := by
  have hss := hinv.sameStates
  cases step_eq_next env nt c c' hstep with
  | shift state s' acts ctx1 tk hst hcell _ hc =>
    cases hss.topState.symm.trans hst
    subst hc
    refine ⟨finv_iff.mpr (hss.push s' _ _ _), fun a => Tree.leaf a c.tok.span c.tok.val c.ctx.lay, Tree.mk,
      ⟨fun _ => ⟨_, _, _, rfl⟩, fun _ _ => ⟨_, _, rfl⟩⟩, Or.inl ?_⟩
    exact cstepWith_shift (c := c.abs) hcell
  | reduce p len s' pr ctx1 tk hr hrlen _ hc =>
    subst hc
    obtain ⟨hle, hpr, hgoto, acts, hcell⟩ := hr.core hss
    refine ⟨finv_iff.mpr ((absStack_drop c len ▸ hss.drop hle).push s' _ _ _),
      Tree.tok, fun p cs => Tree.node p (reduceSpan (c.stack.take len) c.ctx.span)
        (childrenLay cs) (TreeList.ofList cs),
      ⟨fun _ => ⟨_, _, _, rfl⟩, fun _ _ => ⟨_, _, rfl⟩⟩, Or.inr ?_⟩
    have hch : ((absStack c).take len).reverse.map (·.2) = (c.res.take len).reverse := by
      rw [List.map_reverse, absStack, zip_map_snd_take _ _ _ (by rw [List.length_map, hinv.len]; exact Nat.le_succ _)]
    refine (cstepWith_reduce (c := c.abs) hcell hle hpr hgoto).trans ?_
    simp only [Cfg.abs, hch, absStack_drop]; rfl

theorem step_done_refines {env : Env} {start : Nat} {c : Cfg} {ctx : Ctx} {r : ParseResult}
    (hinv : FInv start c) (hd : StepDone env c ctx r) :
    cstepWith env.g env.t start Tree.tok Tree.mk c.abs c.tok.kind = .accept r.tree := by
  obtain ⟨⟨state, acts, hst, hcell⟩, _, ⟨rest, hres⟩, _, _⟩ := hd
  cases hinv.sameStates.topState.symm.trans hst
  cases hstack : c.stack with
  | nil => have := hinv.len; rw [hstack] at this; cases this
  | cons x xs =>
    exact cstepWith_accept (c := c.abs) (s := x.state) (below := (xs.map (·.state)).zip rest) hcell
      (by simp [Cfg.abs, absStack, hstack, hres])

def CertInv (env : Env) (start : Nat) (c : Cfg) : Prop := FInv start c ∧ CInv env.g env.t start c.abs

theorem certInv_init (env : Env) (start : Nat) (sp : Span) (ctx : Ctx) (tk : Tok) :
    CertInv env start ⟨[⟨start, sp⟩], [], none, ctx, tk, []⟩ :=
  ⟨⟨by simp, by simp⟩, by simp [Cfg.abs, absStack, PathInv], by simp [Cfg.abs, absStack, yields]⟩

theorem step_certInv (env : Env) (nt : Ctx → Ctx × Outcome Tok) {autos : List Auto}
    (hs : Structural env.g env.t autos) {au : Auto} (hin : au ∈ autos) (c c' : Cfg) (h : CertInv env au.start c)
    (hstep : step env nt c = .next c') : CertInv env au.start c' := by
  obtain ⟨hf', leafOf, nodeOf, hd, hcs⟩ := step_refines env nt au.start c c' h.1 hstep
  exact ⟨hf', cstep_preserves hs hin hd h.2 hcs⟩

theorem done_certInv {env : Env} {autos : List Auto}
    (hs : Structural env.g env.t autos) {au : Auto} (hin : au ∈ autos) {c : Cfg} {ctx : Ctx} {r : ParseResult}
    (h : CertInv env au.start c) (hd : StepDone env c ctx r) :
    ctx = c.ctx ∧ c.res = [r.tree] ∧ r.slice = c.slice ∧ r.hist = c.hist ∧ r.tree.Valid env.g au.sym ∧
      r.tree.yield = (r.hist.map (·.kind)).reverse := by
  have hacc := step_done_refines h.1 hd
  obtain ⟨_, hctx, ⟨rest, hres⟩, hslice, hhist⟩ := hd
  obtain ⟨hv, hy, hlen1⟩ := cstep_accept_sound hs.toRN hin h.2 hacc
  have hlen1 := h.1.sameStates.res.trans hlen1
  rw [hres, List.length_cons, Nat.add_eq_right, List.length_eq_zero_iff] at hlen1
  rw [hres, hlen1]
  exact ⟨hctx, rfl, hslice, hhist, hv, by rw [hy, hhist]; rfl⟩

theorem parseWith_sound (env : Env) (nt : Ctx → Ctx × Outcome Tok) {autos : List Auto}
    (hs : Structural env.g env.t autos) {au : Auto} (hin : au ∈ autos) (ctx0 : Ctx) (fuel : Nat) (ctx : Ctx)
    (r : ParseResult) (h : parseWith env nt au.start ctx0 fuel = (ctx, .ok r)) :
    r.tree.Valid env.g au.sym ∧ r.tree.yield = (r.hist.map (·.kind)).reverse := by
  obtain ⟨c, hc, hdone⟩ := parseWith_ok_end env nt _ (step_certInv env nt hs hin) h (fun _ _ _ => certInv_init ..)
  exact (done_certInv hs hin hc hdone).2.2.2.2

theorem parseWith_ext (env : Env) (nt1 nt2 : Ctx → Ctx × Outcome Tok) (hext : NtExt nt1 nt2)
    (start : Nat) (ctx0 : Ctx) (fuel : Nat) (ctx : Ctx) (r : ParseResult)
    (h : parseWith env nt1 start ctx0 fuel = (ctx, .ok r)) :
    parseWith env nt2 start ctx0 fuel = (ctx, .ok r) := by
  suffices h' : ∃ ctx2 r2, parseWith env nt2 start ctx0 fuel = (ctx2, .ok r2) ∧ ctx2 = ctx ∧ r2 = r by
    obtain ⟨_, _, h2, rfl, rfl⟩ := h'
    exact h2
  refine parseWith_lockstep Eq _ ctx r ?_ ?_ (fun cA tk1 hnt => ⟨cA, tk1, hext _ _ _ hnt, rfl⟩) h
  · intro n c _ c' hc hstep _
    subst hc
    refine ⟨c', ?_, rfl⟩
    cases step_eq_next env nt1 c c' hstep with
    | shift state s' acts ctx1 tk htop hcell hnt1 hc' =>
      exact (StepNext.shift state s' acts ctx1 tk htop hcell (hext _ _ _ hnt1) hc').step_eq
    | reduce p len s' pr ctx1 tk hr hrlen hnt1 hc' =>
      exact (StepNext.reduce p len s' pr ctx1 tk hr hrlen (hext _ _ _ hnt1) hc').step_eq
  · intro c _ hc hstep
    subst hc
    exact ⟨ctx, r, (step_eq_done env nt1 c ctx r hstep).step_eq nt2, rfl, rfl⟩

end Rustemo
