import Rustemo.Model.LR
/-!
The branches of `step` (`Model/LR.lean`) are read once (`StepSpec`: every panic site with the condition under which it is reached);
`step … = .next c'` then holds in exactly two ways (`StepNext`: shift or reduce, with `c'` given explicitly), likewise
`.done` and `.stop`, so that an invariant is proved without unfolding `step` again.
-/

namespace Rustemo

theorem topState_eq (st : List StackItem) : topState st = (st.map (·.state)).head? :=
  List.head?_map.symm

/-- the context handed to the lexer after shifting the token ahead into state `s'` -/
def shiftCtx (env : Env) (c : Cfg) (s' : Nat) : Ctx :=
  { state := s', pos := posAfter (sliceOf env.input c.tok.val) c.ctx.pos,
    span := ⟨c.ctx.pos, posAfter (sliceOf env.input c.tok.val) c.ctx.pos⟩, lay := none }

/-- the context handed to the lexer after a reduction that lands in state `s'` -/
def reduceCtx (c : Cfg) (s' : Nat) : Ctx :=
  { state := s', pos := c.ctx.pos, span := c.ctx.span, lay := c.ctx.lay }

def shiftItem (env : Env) (c : Cfg) (s' : Nat) : StackItem :=
  ⟨s', ⟨c.ctx.pos, posAfter (sliceOf env.input c.tok.val) c.ctx.pos⟩⟩

def shiftLeaf (c : Cfg) : Tree := Tree.leaf c.tok.kind c.tok.span c.tok.val c.ctx.lay

def reduceNode (c : Cfg) (p len : Nat) : Tree :=
  Tree.node p (reduceSpan (c.stack.take len) c.ctx.span) (childrenLay (c.res.take len).reverse)
    (TreeList.ofList (c.res.take len).reverse)

def reduceSlice (c : Cfg) (len : Nat) : Slice :=
  ((reduceSpan (c.stack.take len) c.ctx.span).s.pos,
   (reduceSpan (c.stack.take len) c.ctx.span).e.pos - (reduceSpan (c.stack.take len) c.ctx.span).s.pos)

/-- what the loop reads from stack, table and grammar for a reduction by `p`, before it touches the result stack and
    the lexer: `len` entries to pop, the production `pr`, the goto target `s'` from the state below them -/
inductive ReduceAt (env : Env) (c : Cfg) (p len : Nat) (pr : Prod) (s' : Nat) : Prop where
  | intro (state fromState : Nat) (acts : List Action) (htop : topState c.stack = some state)
      (hcell : env.t.cell state c.tok.kind = .reduce p len :: acts) (hlen : len ≤ c.stack.length)
      (hfrom : topState (c.stack.drop len) = some fromState) (hpr : env.g.prods[p]? = some pr)
      (hgoto : env.t.goto env.g fromState pr.lhs = some s')

theorem ReduceAt.goto {env : Env} {c : Cfg} {p len s' : Nat} {pr : Prod} (hr : ReduceAt env c p len pr s') :
    ∃ s, env.t.goto env.g s pr.lhs = some s' :=
  let ⟨_, s, _, _, _, _, _, _, hgoto⟩ := hr; ⟨s, hgoto⟩

inductive StepSpec (env : Env) (nt : Ctx → Ctx × Outcome Tok) (c : Cfg) (state : Nat) : StepOut → Prop where
  | noAction (hcell : env.t.cell state c.tok.kind = []) :
      StepSpec env nt c state (.stop c.ctx (.err .noAction))
  | shift (s' : Nat) (acts : List Action)
      (hcell : env.t.cell state c.tok.kind = .shift s' :: acts) :
      StepSpec env nt c state (liftTok (c.tok :: c.hist) (shiftItem env c s' :: c.stack) (shiftLeaf c :: c.res)
        c.slice (nt (shiftCtx env c s')) none)
  | splitOff (p len : Nat) (acts : List Action)
      (hcell : env.t.cell state c.tok.kind = .reduce p len :: acts) (hlen : c.stack.length < len) :
      StepSpec env nt c state (.stop c.ctx (.panic "split_off"))
  | noFrom (p len : Nat) (acts : List Action)
      (hcell : env.t.cell state c.tok.kind = .reduce p len :: acts) (hlen : len ≤ c.stack.length)
      (hfrom : topState (c.stack.drop len) = none) :
      StepSpec env nt c state (.stop c.ctx (.panic "stack.last().unwrap()"))
  | noProd (p len fromState : Nat) (acts : List Action)
      (hcell : env.t.cell state c.tok.kind = .reduce p len :: acts) (hlen : len ≤ c.stack.length)
      (hfrom : topState (c.stack.drop len) = some fromState) (hpr : env.g.prods[p]? = none) :
      StepSpec env nt c state (.stop c.ctx (.panic "prod.into()"))
  | noGoto (p len fromState : Nat) (pr : Prod) (acts : List Action)
      (hcell : env.t.cell state c.tok.kind = .reduce p len :: acts) (hlen : len ≤ c.stack.length)
      (hfrom : topState (c.stack.drop len) = some fromState) (hpr : env.g.prods[p]? = some pr)
      (hgoto : env.t.goto env.g fromState pr.lhs = none) :
      StepSpec env nt c state (.stop c.ctx (.panic "goto"))
  | resSplitOff (p len s' : Nat) (pr : Prod) (hr : ReduceAt env c p len pr s') (hrlen : c.res.length < len) :
      StepSpec env nt c state (.stop c.ctx (.panic "res_stack.split_off"))
  | reduce (p len s' : Nat) (pr : Prod) (hr : ReduceAt env c p len pr s') (hrlen : len ≤ c.res.length) :
      StepSpec env nt c state (liftTok c.hist (⟨s', reduceSpan (c.stack.take len) c.ctx.span⟩ :: c.stack.drop len)
        (reduceNode c p len :: c.res.drop len) (some (reduceSlice c len)) (nt (reduceCtx c s'))
        (some (c.ctx.lay, c.ctx.pos.pos)))
  | noResult (acts : List Action)
      (hcell : env.t.cell state c.tok.kind = .accept :: acts) (hres : c.res = []) :
      StepSpec env nt c state (.stop c.ctx (.panic "res_stack.pop().unwrap()"))
  | accept (acts : List Action) (tr : Tree) (rest : List Tree)
      (hcell : env.t.cell state c.tok.kind = .accept :: acts) (hres : c.res = tr :: rest) :
      StepSpec env nt c state (.done c.ctx ⟨tr, c.slice, c.hist⟩)

theorem step_spec (env : Env) (nt : Ctx → Ctx × Outcome Tok) (c : Cfg) :
    (topState c.stack = none ∧ step env nt c = .stop c.ctx (.panic "stack.last().unwrap()")) ∨
    ∃ state, topState c.stack = some state ∧ StepSpec env nt c state (step env nt c) := by
  unfold step
  simp only
  split
  · rename_i htop; exact .inl ⟨htop, rfl⟩
  · rename_i state htop
    refine .inr ⟨state, htop, ?_⟩
    split
    · rename_i hcell; exact .noAction hcell
    · rename_i act acts hcell
      split
      · rename_i s'; exact .shift s' acts hcell
      · rename_i p len
        split
        · rename_i hlen; exact .splitOff p len acts hcell hlen
        · rename_i hlen
          split
          · rename_i hfrom; exact .noFrom p len acts hcell (by omega) hfrom
          · rename_i fromState hfrom
            split
            · rename_i hpr; exact .noProd p len fromState acts hcell (by omega) hfrom hpr
            · rename_i pr hpr
              split
              · rename_i hgoto; exact .noGoto p len fromState pr acts hcell (by omega) hfrom hpr hgoto
              · rename_i s' hgoto
                split
                · rename_i hrlen
                  exact .resSplitOff p len s' pr ⟨state, fromState, acts, htop, hcell, by omega, hfrom, hpr, hgoto⟩ hrlen
                · rename_i hrlen
                  exact .reduce p len s' pr ⟨state, fromState, acts, htop, hcell, by omega, hfrom, hpr, hgoto⟩ (by omega)
      · split
        · rename_i hres; exact .noResult acts hcell hres
        · rename_i tr rest hres; exact .accept acts tr rest hcell hres
inductive StepNext (env : Env) (nt : Ctx → Ctx × Outcome Tok) (c c' : Cfg) : Prop where
  | shift (state s' : Nat) (acts : List Action) (ctx1 : Ctx) (tk : Tok)
      (htop : topState c.stack = some state)
      (hcell : env.t.cell state c.tok.kind = .shift s' :: acts)
      (hnt : nt (shiftCtx env c s') = (ctx1, .ok tk))
      (hc : c' = ⟨shiftItem env c s' :: c.stack, shiftLeaf c :: c.res, c.slice, ctx1, tk, c.tok :: c.hist⟩)
  | reduce (p len s' : Nat) (pr : Prod) (ctx1 : Ctx) (tk : Tok) (hr : ReduceAt env c p len pr s')
      (hrlen : len ≤ c.res.length)
      (hnt : nt (reduceCtx c s') = (ctx1, .ok tk))
      (hc : c' = ⟨⟨s', reduceSpan (c.stack.take len) c.ctx.span⟩ :: c.stack.drop len,
                  reduceNode c p len :: c.res.drop len, some (reduceSlice c len),
                  { ctx1 with lay := mergeLay c.ctx.lay c.ctx.pos.pos ctx1.pos.pos }, tk, c.hist⟩)

/-- a lexer failure is handed on unchanged -/
inductive Outcome.FailsAs {α β : Type} : Outcome α → Outcome β → Prop where
  | ofErr (e : PErr) : FailsAs (.err e) (.err e)
  | ofPanic (s : String) : FailsAs (.panic s) (.panic s)
  | ofFuel : FailsAs .fuel .fuel

theorem Outcome.FailsAs.not_ok {α β : Type} {o' : Outcome α} {o : Outcome β} (h : o'.FailsAs o) (b : β) :
    o ≠ .ok b := by
  cases h <;> nofun

theorem Outcome.FailsAs.ne_fuel {α β : Type} {o' : Outcome α} {o : Outcome β} (h : o'.FailsAs o)
    (hn : o' ≠ .fuel) : o ≠ .fuel := by
  cases h with
  | ofErr e => nofun
  | ofPanic s => nofun
  | ofFuel => exact absurd rfl hn

inductive StepStop (env : Env) (nt : Ctx → Ctx × Outcome Tok) (c : Cfg) (ctx : Ctx)
    (o : Outcome ParseResult) : Prop where
  | panic (site : String) (h : ctx = c.ctx) (ho : o = .panic site)
  | noAction (state : Nat) (htop : topState c.stack = some state)
      (hcell : env.t.cell state c.tok.kind = []) (h : ctx = c.ctx) (ho : o = .err .noAction)
  | shift (state s' : Nat) (acts : List Action) (o' : Outcome Tok)
      (htop : topState c.stack = some state)
      (hcell : env.t.cell state c.tok.kind = .shift s' :: acts)
      (hnt : nt (shiftCtx env c s') = (ctx, o')) (hf : o'.FailsAs o)
  | reduce (p len s' : Nat) (pr : Prod) (o' : Outcome Tok) (hr : ReduceAt env c p len pr s')
      (hnt : nt (reduceCtx c s') = (ctx, o')) (hf : o'.FailsAs o)

theorem liftTok_spec (hist : List Tok) (stack : List StackItem) (res : List Tree) (slice : Option Slice)
    (r : Ctx × Outcome Tok) (k : Option (Option Slice × Nat)) :
    match liftTok hist stack res slice r k with
    | .next c' => ∃ tk, r.2 = .ok tk ∧ c' = ⟨stack, res, slice,
        (match k with
          | some (l, p) => { r.1 with lay := mergeLay l p r.1.pos.pos }
          | none => r.1), tk, hist⟩
    | .done _ _ => False
    | .stop ctx o => ctx = r.1 ∧ r.2.FailsAs o := by
  obtain ⟨ctx1, o'⟩ := r
  unfold liftTok
  cases o' with
  | ok tk => exact ⟨tk, rfl, rfl⟩
  | err e => exact ⟨rfl, .ofErr e⟩
  | panic s => exact ⟨rfl, .ofPanic s⟩
  | fuel => exact ⟨rfl, .ofFuel⟩

/-- the lexer has no part in it -/
structure StepDone (env : Env) (c : Cfg) (ctx : Ctx) (r : ParseResult) : Prop where
  cell : ∃ state acts, topState c.stack = some state ∧ env.t.cell state c.tok.kind = .accept :: acts
  ctx_eq : ctx = c.ctx
  res : ∃ rest, c.res = r.tree :: rest
  slice_eq : r.slice = c.slice
  hist_eq : r.hist = c.hist

theorem StepDone.tree_mem {env : Env} {c : Cfg} {ctx : Ctx} {r : ParseResult} (h : StepDone env c ctx r) :
    r.tree ∈ c.res :=
  let ⟨_, e⟩ := h.res; e ▸ List.mem_cons_self

theorem step_eq_cases (env : Env) (nt : Ctx → Ctx × Outcome Tok) (c : Cfg) :
    match step env nt c with
    | .next c' => StepNext env nt c c'
    | .done ctx r => StepDone env c ctx r
    | .stop ctx o => StepStop env nt c ctx o := by
  obtain ⟨_, h⟩ | ⟨state, htop, h⟩ := step_spec env nt c
  · rw [h]; exact .panic _ rfl rfl
  generalize step env nt c = out at h
  cases h with
  | shift s' acts hcell =>
    have hl := liftTok_spec (c.tok :: c.hist) (shiftItem env c s' :: c.stack) (shiftLeaf c :: c.res) c.slice
      (nt (shiftCtx env c s')) none
    generalize liftTok _ _ _ _ _ _ = out at hl ⊢
    cases out with
    | next c' =>
      obtain ⟨tk, ho, hc⟩ := hl
      exact .shift state s' acts _ tk htop hcell (Prod.ext rfl ho) hc
    | done => exact hl.elim
    | stop ctx o =>
      obtain ⟨rfl, hf⟩ := hl
      exact .shift state s' acts _ htop hcell rfl hf
  | reduce p len s' pr hr hrlen =>
    have hl := liftTok_spec c.hist (⟨s', reduceSpan (c.stack.take len) c.ctx.span⟩ :: c.stack.drop len)
      (reduceNode c p len :: c.res.drop len) (some (reduceSlice c len)) (nt (reduceCtx c s'))
      (some (c.ctx.lay, c.ctx.pos.pos))
    generalize liftTok _ _ _ _ _ _ = out at hl ⊢
    cases out with
    | next c' =>
      obtain ⟨tk, ho, hc⟩ := hl
      exact .reduce p len s' pr _ tk hr hrlen (Prod.ext rfl ho) hc
    | done => exact hl.elim
    | stop ctx o =>
      obtain ⟨rfl, hf⟩ := hl
      exact .reduce p len s' pr _ hr rfl hf
  | noAction hcell => exact .noAction state htop hcell rfl rfl
  | accept acts tr rest hcell hres => exact ⟨⟨state, acts, htop, hcell⟩, rfl, ⟨rest, hres⟩, rfl, rfl⟩
  | _ => exact .panic _ rfl rfl

theorem step_eq_next (env : Env) (nt : Ctx → Ctx × Outcome Tok) (c c' : Cfg)
    (hstep : step env nt c = .next c') : StepNext env nt c c' := by
  have h := step_eq_cases env nt c
  rw [hstep] at h
  exact h

theorem step_eq_done (env : Env) (nt : Ctx → Ctx × Outcome Tok) (c : Cfg) (ctx : Ctx)
    (r : ParseResult) (h : step env nt c = .done ctx r) : StepDone env c ctx r := by
  have hs := step_eq_cases env nt c
  rw [h] at hs
  exact hs

theorem step_eq_stop (env : Env) (nt : Ctx → Ctx × Outcome Tok) (c : Cfg) (ctx : Ctx)
    (o : Outcome ParseResult) (h : step env nt c = .stop ctx o) : StepStop env nt c ctx o := by
  have hs := step_eq_cases env nt c
  rw [h] at hs
  exact hs

theorem step_stop_not_ok (env : Env) (nt : Ctx → Ctx × Outcome Tok) (c : Cfg) (ctx : Ctx)
    (o : Outcome ParseResult) (h : step env nt c = .stop ctx o) : ∀ pr, o ≠ .ok pr := by
  cases step_eq_stop env nt c ctx o h with
  | panic site _ ho => subst ho; exact fun _ => nofun
  | noAction _ _ _ _ ho => subst ho; exact fun _ => nofun
  | shift _ _ _ _ _ _ _ hf => exact hf.not_ok
  | reduce _ _ _ _ _ _ _ hf => exact hf.not_ok

theorem StepNext.step_eq {env : Env} {nt : Ctx → Ctx × Outcome Tok} {c c' : Cfg} (h : StepNext env nt c c') :
    step env nt c = .next c' := by
  cases h with
  | shift state s' acts ctx1 tk htop hcell hnt hc =>
    subst hc
    unfold step
    simp only [htop, hcell]
    have : nt { state := s', pos := posAfter (sliceOf env.input c.tok.val) c.ctx.pos,
                span := ⟨c.ctx.pos, posAfter (sliceOf env.input c.tok.val) c.ctx.pos⟩, lay := none } =
        (ctx1, .ok tk) := hnt
    rw [this]
    rfl
  | reduce p len s' pr ctx1 tk hr hrlen hnt hc =>
    obtain ⟨state, fromState, acts, htop, hcell, hlen, hfrom, hpr, hgoto⟩ := hr
    subst hc
    unfold step
    have h1 : ¬ c.stack.length < len := by omega
    have h2 : ¬ c.res.length < len := by omega
    simp only [htop, hcell, h1, ↓reduceIte, hfrom, hpr, hgoto, h2]
    have : nt { state := s', pos := c.ctx.pos, span := c.ctx.span, lay := c.ctx.lay } = (ctx1, .ok tk) := hnt
    rw [this]
    rfl

theorem step_accept_intro (env : Env) (nt : Ctx → Ctx × Outcome Tok) (c : Cfg) (state : Nat)
    (acts : List Action) (tr : Tree) (rest : List Tree)
    (htop : topState c.stack = some state)
    (hcell : env.t.cell state c.tok.kind = .accept :: acts)
    (hres : c.res = tr :: rest) :
    step env nt c = .done c.ctx ⟨tr, c.slice, c.hist⟩ := by
  unfold step
  simp only [htop, hcell, hres]

theorem StepDone.step_eq {env : Env} {c : Cfg} {ctx : Ctx} {r : ParseResult} (h : StepDone env c ctx r)
    (nt : Ctx → Ctx × Outcome Tok) : step env nt c = .done ctx r := by
  obtain ⟨⟨state, acts, htop, hcell⟩, rfl, ⟨rest, hres⟩, hslice, hhist⟩ := h
  rw [step_accept_intro env nt c state acts r.tree rest htop hcell hres, ← hslice, ← hhist]

end Rustemo
