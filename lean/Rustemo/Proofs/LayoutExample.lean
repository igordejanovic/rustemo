import Rustemo.Model.LROld
import Rustemo.Proofs.Roundtrip
import Rustemo.Proofs.Insertion
import Rustemo.Proofs.CertSound
import Rustemo.Proofs.Example
/-!
The example environments of `Props/ExampleLayout.lean` meet the hypotheses of the C14 theorems; the two sides of the round-trip
equation as a function to evaluate on them.
-/

namespace Rustemo
open Rustemo.ExampleLayout

def flatOfRes (input : List Nat) : Ctx × Outcome ParseResult → Option (List Nat × List Nat)
  | (ctx, .ok r) => some (Tree.flat input r.tree ++ layBytes input ctx.lay, input.take ctx.pos.pos)
  | _ => none

theorem flatOfRes_spec {input : List Nat} {res : Ctx × Outcome ParseResult} {a b : List Nat}
    (h : flatOfRes input res = some (a, b)) :
    ∃ ctx r, res = (ctx, .ok r) ∧ Tree.flat input r.tree ++ layBytes input ctx.lay = a ∧ input.take ctx.pos.pos = b := by
  unfold flatOfRes at h
  split at h
  · injection h with h
    injection h with h1 h2
    exact ⟨_, _, rfl, h1, h2⟩
  · simp at h

/-- the two sides of the round-trip equation, computed: the examples and counterexamples of `Props/C14.lean` are decided by
    kernel evaluation of it -/
def flatOf (env : Env) (pp : Bool) (fuel : Nat) : Option (List Nat × List Nat) :=
  match parse env pp fuel with
  | (ctx, .ok r) =>
    some (Tree.flat env.input r.tree ++ layBytes env.input ctx.lay, env.input.take ctx.pos.pos)
  | _ => none

/-- the same for `parseOld`, the loop before the repairs of C14-N1/N2 (`Model/LROld.lean`) -/
def flatOfOld (env : Env) (pp : Bool) (fuel : Nat) : Option (List Nat × List Nat) :=
  flatOfRes env.input (parseOld env pp fuel)

theorem flatOfOld_spec (env : Env) (pp : Bool) (fuel : Nat) (a b : List Nat)
    (h : flatOfOld env pp fuel = some (a, b)) :
    ∃ ctx r, parseOld env pp fuel = (ctx, .ok r) ∧
      Tree.flat env.input r.tree ++ layBytes env.input ctx.lay = a ∧ env.input.take ctx.pos.pos = b :=
  flatOfRes_spec h

theorem flatOf_spec (env : Env) (pp : Bool) (fuel : Nat) (a b : List Nat)
    (h : flatOf env pp fuel = some (a, b)) :
    ∃ ctx r, parse env pp fuel = (ctx, .ok r) ∧
      Tree.flat env.input r.tree ++ layBytes env.input ctx.lay = a ∧ env.input.take ctx.pos.pos = b :=
  flatOfRes_spec (res := parse env pp fuel) h

theorem spaces_le : ∀ (l : List Nat), spaces l ≤ l.length
  | [] => by simp [spaces]
  | b :: r => by
    unfold spaces
    split
    · rename_i r' heq
      injection heq with h1 h2
      subst h2
      have := spaces_le r
      simp only [List.length_cons]
      omega
    · omega

theorem lit_ok (input : List Nat) (pos : Nat) (bytes : List Nat) (l : Nat) (hne : bytes ≠ [])
    (h : lit input pos bytes = some l) : pos + l ≤ input.length := by
  unfold lit at h
  split at h
  · rename_i heq
    injection h with h
    subst h
    have hl := congrArg List.length heq
    simp only [List.length_take, List.length_drop] at hl
    have hpos : 0 < bytes.length := List.length_pos_iff.mpr hne
    omega
  · simp at h

theorem spaces_ok (input : List Nat) (pos : Nat) (h : spaces (input.drop pos) > 0) :
    pos + spaces (input.drop pos) ≤ input.length := by
  have := spaces_le (input.drop pos)
  simp only [List.length_drop] at this
  omega

theorem Ws.recogOk : RecogOk Ws.env := by
  intro k p l h
  show p + l ≤ Ws.input.length
  have h' : Ws.recog k p = some l := h
  unfold Ws.recog at h'
  split at h'
  · split at h'
    · injection h' with h'; omega
    · simp at h'
  · split at h'
    · exact lit_ok _ _ _ _ (by simp) h'
    · split at h'
      · split at h'
        · rename_i hs
          injection h' with h'
          subst h'
          exact spaces_ok _ _ hs
        · simp at h'
      · simp at h'

theorem Ins.recogOk1 : RecogOk Ins.env1 := fun k p l h => Ins.recogA_ok Example.input k p l h
theorem Ins.recogOk2 : RecogOk Ins.env2 := fun k p l h => Ins.recogA_ok Ins.input2 k p l h

theorem Ins.aligned : Aligned Ins.env1 Ins.env2 Ins.R := by
  refine ⟨Or.inl ⟨by decide, by decide⟩, ?_, ?_, ?_⟩
  · intro p q hR k
    show Ins.recogA Example.input k p = Ins.recogA Ins.input2 k q
    rcases hR with ⟨rfl, rfl⟩ | ⟨rfl, rfl⟩ | ⟨rfl, rfl⟩ <;>
    · unfold Ins.recogA
      by_cases h1 : k = 1
      · subst h1; decide
      · by_cases h0 : k = 0
        · subst h0; decide
        · simp [h1, h0]
  · intro p q hR k l h
    have h' : Ins.recogA Example.input k p = some l := h
    rcases Ins.recogA_cases _ _ _ _ h' with ⟨_, rfl, h2⟩ | ⟨_, rfl, h2⟩ <;>
    rcases hR with ⟨rfl, rfl⟩ | ⟨rfl, rfl⟩ | ⟨rfl, rfl⟩
    · exact Or.inr (Or.inl ⟨by decide, by decide⟩)
    · exact Or.inr (Or.inr ⟨by decide, by decide⟩)
    · exact absurd h2 (by decide)
    · exact absurd h2 (by decide)
    · exact absurd h2 (by decide)
    · exact Or.inr (Or.inr ⟨by decide, by decide⟩)
  · intro p q hR k l h
    have h' : Ins.recogA Example.input k p = some l := h
    rcases Ins.recogA_cases _ _ _ _ h' with ⟨_, rfl, h2⟩ | ⟨_, rfl, h2⟩ <;>
    rcases hR with ⟨rfl, rfl⟩ | ⟨rfl, rfl⟩ | ⟨rfl, rfl⟩ <;>
    first
      | decide
      | exact absurd h2 (by decide)

theorem Ins.accepted : Example.isOk (parse Ins.env1 false 100).2 = true ∧
    Example.isOk (parse Ins.env2 false 100).2 = true := by decide +kernel

theorem Ins.pathAligned : ∃ ctx1 r1, parse Ins.env1 false 100 = (ctx1, .ok r1) ∧
    PathAligned Ins.env1 Ins.env2 r1.hist.reverse (postSkip Ins.env1 0) (postSkip Ins.env2 0) := by
  have hok := Ins.accepted.1
  generalize hres : parse Ins.env1 false 100 = res at hok
  obtain ⟨ctx1, o⟩ := res
  cases o with
  | ok r1 =>
    exact ⟨ctx1, r1, rfl, aligned_path Ins.env1 Ins.env2 Ins.R
      ⟨rfl, Ins.recogOk1, noShiftStop_sound _ Example.checks.2.2.1⟩ rfl Ins.aligned false 100 ctx1 r1 hres⟩
  | _ => simp [Example.isOk] at hok

end Rustemo
