import Rustemo.Proofs.LayoutParse
/-!
C14: the stored layout is layout.  By `GInv` the layout ahead is the input between the end of the last token and the position, so
every slice stored in a tree (`Tree.AllLay`) is a concatenation of the stretches single calls of `next_token` moved over: `P`
holds of it when every move is an `L` stretch (`NtMoves`), `P` holds of one `L` stretch and of a `P` slice extended by one
(`LayClosed`).  The instances: whole whitespace characters (`char::is_whitespace`, as `wsCharLen` decodes them), and sentences of
the Layout symbol, one per run of the layout parser (a second run happens only on the re-lex after a reduce; its layout is
merged, `mergeLay`).
-/

namespace Rustemo

/-- `c` is the encoding of exactly one whitespace character -/
def WsChar (c : List Nat) : Prop := c ≠ [] ∧ wsCharLen c = c.length

inductive WsBytes : List Nat → Prop where
  | nil : WsBytes []
  | cons (c rest : List Nat) : WsChar c → WsBytes rest → WsBytes (c ++ rest)

theorem WsBytes.append {a b : List Nat} (ha : WsBytes a) (hb : WsBytes b) : WsBytes (a ++ b) := by
  induction ha with
  | nil => exact hb
  | cons c rest hc _ ih => rw [List.append_assoc]; exact .cons c _ hc ih

theorem wsCharLen_take_self (bs : List Nat) : wsCharLen (bs.take (wsCharLen bs)) = wsCharLen bs := by
  -- the branches that find a character whose bytes are not all literals: one byte (U+0009–U+000D,
  -- U+0020), `C2 85`/`C2 A0`, `E2 80 xx`; the other branches are closed terms or find nothing
  fun_cases wsCharLen bs
  case case2 h => simp only [List.take_succ_cons, List.take_zero, wsCharLen, if_pos h]
  case case3 h _ => simp [wsCharLen, h]
  case case8 h _ _ _ => simp [wsCharLen, h]
  all_goals rfl

theorem wsPrefix_wsBytes : ∀ (fuel : Nat) (bs : List Nat), WsBytes (bs.take (wsPrefixLen fuel bs))
  | 0, bs => by simp [wsPrefixLen]; exact .nil
  | fuel+1, bs => by
    unfold wsPrefixLen
    simp only
    split
    · simp; exact .nil
    · rename_i h0
      rw [List.take_add]
      refine .cons _ _ ⟨?_, ?_⟩ (wsPrefix_wsBytes fuel (bs.drop (wsCharLen bs)))
      · intro hnil
        have hle := wsCharLen_le bs
        have : (bs.take (wsCharLen bs)).length = wsCharLen bs := by
          simp only [List.length_take]; omega
        rw [hnil] at this
        simp at this
        exact h0 this.symm
      · rw [wsCharLen_take_self bs]
        have hle := wsCharLen_le bs
        simp only [List.length_take]; omega

mutual
def Tree.AllLay (P : Slice → Prop) : Tree → Prop
  | .leaf _ _ _ l => ∀ s, l = some s → P s
  | .node _ _ l cs => (∀ s, l = some s → P s) ∧ TreeList.AllLay P cs
def TreeList.AllLay (P : Slice → Prop) : TreeList → Prop
  | .nil => True
  | .cons t ts => Tree.AllLay P t ∧ TreeList.AllLay P ts
end

theorem firstLay_allLay (P : Slice → Prop) : ∀ (t : Tree), t.AllLay P → ∀ s, firstLay t = some s → P s
  | .leaf _ _ _ _, h => h
  | .node _ _ _ _, h => h.1

def NtMoves (env : Env) (L : Nat → Nat → Prop) (nt : Ctx → Ctx × Outcome Tok) : Prop :=
  ∀ ctx ctx' tk, CtxOk env.input ctx → nt ctx = (ctx', .ok tk) → ctx.pos.pos < ctx'.pos.pos →
    L ctx.pos.pos ctx'.pos.pos

structure LayClosed (P : Slice → Prop) (L : Nat → Nat → Prop) : Prop where
  one : ∀ p p', p < p' → L p p' → P (p, p' - p)
  app : ∀ E p p', E < p → p < p' → P (E, p - E) → L p p' → P (E, p' - E)

theorem ahead_step {P : Slice → Prop} {L : Nat → Nat → Prop} (hcl : LayClosed P L) {E p p' : Nat} (hE : E ≤ p)
    (hp : p ≤ p') (hah : ∀ s, layOf E p = some s → P s) (hmv : p < p' → L p p') :
    ∀ s, layOf E p' = some s → P s := by
  intro s hs
  rcases Nat.eq_or_lt_of_le hp with rfl | hlt
  · exact hah s hs
  · rw [layOf, if_pos (Nat.lt_of_le_of_lt hE hlt)] at hs
    obtain rfl := Option.some.inj hs
    rcases Nat.eq_or_lt_of_le hE with rfl | hE'
    · exact hcl.one _ _ hlt (hmv hlt)
    · exact hcl.app _ _ _ hE' hlt (hah _ (by rw [layOf, if_pos hE'])) (hmv hlt)

theorem ahead_first {P : Slice → Prop} {L : Nat → Nat → Prop} (hcl : LayClosed P L) {p p' : Nat} (hp : p ≤ p')
    (hmv : p < p' → L p p') : ∀ s, layOf p p' = some s → P s :=
  ahead_step hcl (Nat.le_refl _) hp (fun s h => by rw [layOf_self] at h; cases h) hmv

structure PInv (P : Slice → Prop) (c : Cfg) : Prop where
  trees : ∀ t ∈ c.res, t.AllLay P
  ahead : ∀ s, c.ctx.lay = some s → P s

theorem step_pinv (env : Env) (P : Slice → Prop) (L : Nat → Nat → Prop) (nt : Ctx → Ctx × Outcome Tok) (c c' : Cfg)
    (hnt : NtOk env nt) (hg : NtG env nt) (hm : NtMoves env L nt) (hcl : LayClosed P L) (hns : NoShiftStop env.t)
    (hs : SInv env c) (hgi : GInv env c) (hinv : PInv P c) (hstep : step env nt c = .next c') : PInv P c' := by
  cases step_eq_next env nt c c' hstep with
  | shift state s' acts ctx1 tk htop hcell hnt1 hc' =>
    have hcs := (hs.shiftAt hns hcell).ctxOk
    obtain ⟨hle, hlay⟩ := hg _ ctx1 tk hcs hnt1 rfl rfl
    subst hc'
    refine ⟨?_, fun s h => ahead_first hcl hle (hm _ ctx1 tk hcs hnt1) s (hlay ▸ h)⟩
    exact res_all_shift hinv.trees hinv.ahead
  | reduce p len s' pr ctx1 tk hr hrlen hnt1 hc' =>
    have hcr := ctxOk_reduceCtx hs s'
    have hmono := (hnt.fwd hcr hnt1).le
    obtain ⟨hE, hlay⟩ := hgi.lay
    subst hc'
    refine ⟨?_, fun s h => ahead_step hcl hE hmono (fun s h => hinv.ahead s (hlay ▸ h)) (hm (reduceCtx c s') ctx1 tk hcr hnt1) s
      (by rw [← mergeLay_layOf hE hmono, ← hlay]; exact h)⟩
    have hch := kids_all hinv.trees len
    refine res_all_reduce hinv.trees ⟨fun s hs => ?_, TreeList.ofList_all (PL := TreeList.AllLay P) trivial
      (fun _ _ => And.intro) _ hch⟩
    unfold childrenLay at hs
    split at hs
    · rename_i ch hhead
      exact firstLay_allLay P ch (hch ch (List.mem_of_head? hhead)) s hs
    · simp at hs

theorem parse_pinv (env : Env) (he : StringEnv env) (P : Slice → Prop) (L : Nat → Nat → Prop) (pp : Bool) (fuel : Nat)
    (hg : NtG env (nextTokenMain env pp fuel)) (hm : NtMoves env L (nextTokenMain env pp fuel)) (hcl : LayClosed P L)
    (ctx : Ctx) (r : ParseResult) (h : parse env pp fuel = (ctx, .ok r)) :
    r.tree.AllLay P ∧ ∀ s, ctx.lay = some s → P s := by
  obtain ⟨c, _, _, hinv, hd⟩ := parse_ginv_with env he pp fuel hg (PInv P)
    (fun c c' hs hgi hi hstep =>
      step_pinv env P L _ c c' (ntOk_main env he pp fuel) hg hm hcl he.noShiftStop hs hgi hi hstep)
    (fun ctx1 tk hnt1 hl0 => ⟨by simp, fun s h =>
      ahead_first hcl hl0.1 (hm _ ctx1 tk (ctxOk_start _) hnt1) s (hl0.2 ▸ h)⟩) h
  refine ⟨hinv.trees _ hd.tree_mem, ?_⟩
  rw [hd.ctx_eq]; exact hinv.ahead

def WsSlice (input : List Nat) (s : Slice) : Prop := WsBytes (sliceOf input s)

/-- default whitespace skipping: every stored layout is whitespace -/
theorem parse_layout_is_ws (env : Env) (he : StringEnv env) (hl : env.t.layoutState = none)
    (pp : Bool) (fuel : Nat) (ctx : Ctx) (r : ParseResult) (h : parse env pp fuel = (ctx, .ok r)) :
    r.tree.AllLay (WsSlice env.input) ∧ ∀ s, ctx.lay = some s → WsSlice env.input s := by
  have hntl := ntWs_main env he.custom hl pp fuel
  refine parse_pinv env he _ (fun p p' => WsSlice env.input (p, p' - p)) pp fuel (ntG_of_ntWs env _ hntl) ?_
    ⟨fun _ _ _ h => h, ?_⟩ ctx r h
  · intro ctx ctx' tk _ hn hlt
    rw [(hntl _ _ _ hn).1, postSkip_eq] at hlt ⊢
    rw [Nat.add_sub_cancel_left]
    unfold wsAt at hlt ⊢
    cases hsk : env.skipWs with
    | false => rw [hsk] at hlt; exact absurd hlt (Nat.lt_irrefl _)
    | true => exact wsPrefix_wsBytes _ _
  · intro E p p' hE hp h1 h2
    unfold WsSlice
    rw [← slice_append_slice env.input E p p' (Nat.le_of_lt hE) (Nat.le_of_lt hp)]
    exact h1.append h2

/-- Layout rule: every stored layout is a concatenation of sentences of the Layout symbol, each tiled by adjacent tokens -/
theorem parse_layout_is_sentence {env : Env} {au : Auto} (hl : LayoutEnv env au) (pp : Bool) (fuel : Nat)
    (ctx : Ctx) (r : ParseResult) (h : parse env pp fuel = (ctx, .ok r)) :
    r.tree.AllLay (LaySlice env au.sym) ∧ ∀ s, ctx.lay = some s → LaySlice env au.sym s := by
  refine parse_pinv env hl.toStringEnv _ (LaySentence env au.sym) pp fuel (ntG_main hl fuel pp) ?_ ⟨?_, ?_⟩ ctx r h
  · intro ctx ctx' tk hctx hn hlt
    rcases ntMain_layout hl pp fuel ctx ctx' tk hctx hn with ⟨hp, _⟩ | ⟨hsent, _⟩
    · exact absurd (congrArg Pos.pos hp) (Nat.ne_of_gt hlt)
    · exact hsent
  · intro p p' hlt h
    show LayoutSentences env au.sym p (p + (p' - p))
    rw [Nat.add_sub_cancel' (Nat.le_of_lt hlt)]
    exact .one _ _ h
  · intro E p p' hE hp h1 h2
    have h1 : LayoutSentences env au.sym E (E + (p - E)) := h1
    rw [Nat.add_sub_cancel' (Nat.le_of_lt hE)] at h1
    show LayoutSentences env au.sym E (E + (p' - E))
    rw [Nat.add_sub_cancel' (Nat.le_of_lt (Nat.lt_trans hE hp))]
    exact .app _ _ _ h1 h2

end Rustemo
