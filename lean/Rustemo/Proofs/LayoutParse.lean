import Rustemo.Model.LayoutCert
import Rustemo.Proofs.Roundtrip
/-!
C14 under a Layout rule.  In the layout sub-parse (string lexer, no whitespace skipping, started where the context's span ends)
the spans on the parse stack tile the input from the start offset `P0` to the position (`TChain`), the shifted tokens are
adjacent recognizer matches over the same range (`HChain`), and `SliceBuilder`'s slice is the span of the node on top: an accepted
layout parse returns exactly the slice `[ctx.pos, ctx'.pos)`.  As the position is restored after a failed or empty layout parse
(C14-N2) and what a re-lex after a reduce skips is merged into the layout ahead (`mergeLay`, C14-N1), `nextTokenMain` meets `NtG`
of Proofs/Roundtrip.lean and the round trip needs no hypothesis on the input.
-/

namespace Rustemo

def TChain : List StackItem → Nat → Nat → Prop
  | [], a, b => a = b
  | it :: below, a, b => it.span.e.pos = b ∧ it.span.s.pos ≤ b ∧ TChain below a it.span.s.pos

def HChain (env : Env) : List Tok → Nat → Nat → Prop
  | [], a, b => a = b
  | tk :: rest, a, b =>
    tk.val.1 + tk.val.2 = b ∧ env.recog tk.kind tk.val.1 = some tk.val.2 ∧ HChain env rest a tk.val.1

def LaySentence (env : Env) (lsym : Nat) (a b : Nat) : Prop :=
  ∃ (tr : Tree) (toks : List Tok), tr.Valid env.g lsym ∧ tr.yield = (toks.map (·.kind)).reverse ∧
    HChain env toks a b

inductive LayoutSentences (env : Env) (lsym : Nat) : Nat → Nat → Prop where
  | one (a b : Nat) : LaySentence env lsym a b → LayoutSentences env lsym a b
  | app (a m b : Nat) : LayoutSentences env lsym a m → LaySentence env lsym m b → LayoutSentences env lsym a b

def LaySlice (env : Env) (lsym : Nat) (s : Slice) : Prop := LayoutSentences env lsym s.1 (s.1 + s.2)

/-- the setting under a Layout rule: string lexer without whitespace skipping (the generator switches it off), a structurally
    certified table whose layout automaton `au` recognizes a nonterminal -/
structure LayoutEnv (env : Env) (au : Auto) : Prop extends NoSkipEnv env where
  layout : env.t.layoutState = some au.start
  structural : Structural env.g env.t (autosOf env.g env.t)
  auto : au ∈ autosOf env.g env.t
  nonterm : env.g.nterms ≤ au.sym

theorem LayoutEnv.of_autoOk {env : Env} {ls : Nat} (he : StringEnv env) (hsk : env.skipWs = false)
    (hl : env.t.layoutState = some ls) (hs : Structural env.g env.t (autosOf env.g env.t))
    (h : LayoutCert.autoOk env.g env.t ls = true) : ∃ au, LayoutEnv env au := by
  unfold LayoutCert.autoOk at h
  rw [List.any_eq_true] at h
  obtain ⟨au, hin, hau⟩ := h
  simp only [Bool.and_eq_true, beq_iff_eq, decide_eq_true_eq] at hau
  exact ⟨au, ⟨he, hsk⟩, hau.1 ▸ hl, hs, hin, hau.2⟩

theorem TChain.le : ∀ {l : List StackItem} {a b : Nat}, TChain l a b → a ≤ b
  | [], a, b, h => by simp [TChain] at h; omega
  | it :: below, a, b, h => by
    obtain ⟨_, h2, h3⟩ := h
    have := TChain.le h3
    omega

theorem HChain.le (env : Env) : ∀ {l : List Tok} {a b : Nat}, HChain env l a b → a ≤ b
  | [], a, b, h => by simp [HChain] at h; omega
  | tk :: rest, a, b, h => by
    obtain ⟨h1, _, h3⟩ := h
    have := HChain.le env h3
    omega

theorem tchain_getLast : ∀ (n : Nat) (it : StackItem) (below : List StackItem) (a b : Nat),
    TChain (it :: below) a b → n ≤ below.length →
    ∃ first, (it :: below.take n).getLast? = some first ∧ first.span.s.pos ≤ b ∧
      TChain (below.drop n) a first.span.s.pos
  | 0, it, below, a, b, h, _ => by
    obtain ⟨_, h2, h3⟩ := h
    exact ⟨it, by simp, h2, by simpa using h3⟩
  | n+1, it, below, a, b, h, hn => by
    cases below with
    | nil => simp at hn
    | cons it2 below2 =>
      obtain ⟨_, h2, h3⟩ := h
      obtain ⟨first, hf, hle, hch⟩ := tchain_getLast n it2 below2 a _ h3 (by simpa using hn)
      refine ⟨first, ?_, by omega, by simpa using hch⟩
      simp only [List.take_succ_cons]
      rw [List.getLast?_cons_cons]
      exact hf

theorem reduceSpan_chain (items : List StackItem) (a b len : Nat) (ctxSpan : Span)
    (h : TChain items a b) (hE : ctxSpan.e.pos = b) (hlen : len ≤ items.length) :
    (reduceSpan (items.take len) ctxSpan).e.pos = b ∧
    (reduceSpan (items.take len) ctxSpan).s.pos ≤ b ∧
    TChain (items.drop len) a (reduceSpan (items.take len) ctxSpan).s.pos := by
  cases len with
  | zero =>
    rw [List.take_zero, List.drop_zero, reduceSpan_nil]
    exact ⟨hE, Nat.le_of_eq hE, (show _ = b from hE) ▸ h⟩
  | succ n =>
    cases items with
    | nil => simp at hlen
    | cons it below =>
      obtain ⟨first, hf, hle, hch⟩ := tchain_getLast n it below a b h (by simpa using hlen)
      rw [List.take_succ_cons, reduceSpan_of_ends _ hf rfl]
      exact ⟨h.1, hle, hch⟩

structure LInv (P0 : Nat) (c : Cfg) : Prop where
  stack : ∃ items bottom, c.stack = items ++ [bottom] ∧ TChain items P0 c.ctx.pos.pos
  spanE : c.ctx.span.e.pos = c.ctx.pos.pos
  slice : match c.stack, c.res with
    | it :: _, .node .. :: _ => c.slice = some (it.span.s.pos, it.span.e.pos - it.span.s.pos)
    | _, _ => True

theorem step_hchain {env : Env} (hn : NoSkipEnv env) (P0 : Nat) (c c' : Cfg) (hs : SInv env c)
    (hinv : HChain env c.hist P0 c.ctx.pos.pos) (hstep : step env (nextTokenBase env true) c = .next c') :
    HChain env c'.hist P0 c'.ctx.pos.pos := by
  cases step_eq_next env _ c c' hstep with
  | shift state s' acts ctx1 tk htop hcell hnt1 hc' =>
    have hsh := hs.shiftAt hn.noShiftStop hcell
    obtain ⟨hv1, _, _, hrec⟩ := hsh.tokAt
    obtain rfl := ntBase_ctx hn hnt1
    subst hc'
    refine ⟨by rw [hsh.pos_pos, hv1], hrec, ?_⟩
    rw [hv1]; exact hinv
  | reduce p len s' pr ctx1 tk hr hrlen hnt1 hc' =>
    obtain rfl := ntBase_ctx hn hnt1
    subst hc'
    exact hinv

theorem stack_split {c : Cfg} {items : List StackItem} {bottom : StackItem} {len fromState : Nat}
    (hstack : c.stack = items ++ [bottom]) (hfrom : topState (c.stack.drop len) = some fromState) :
    len ≤ items.length ∧ c.stack.take len = items.take len ∧
      c.stack.drop len = items.drop len ++ [bottom] := by
  have hlen' : len ≤ items.length := by
    rcases Nat.lt_or_ge items.length len with h | h
    · exfalso
      have : c.stack.drop len = [] := by
        apply List.drop_eq_nil_of_le; rw [hstack]; simp; omega
      rw [this] at hfrom; simp [topState] at hfrom
    · exact h
  exact ⟨hlen', by rw [hstack, List.take_append_of_le_length hlen'],
    by rw [hstack, List.drop_append_of_le_length hlen']⟩

theorem step_linv {env : Env} (hn : NoSkipEnv env) (P0 : Nat) (c c' : Cfg) (hinv : LInv P0 c)
    (hstep : step env (nextTokenBase env true) c = .next c') : LInv P0 c' := by
  obtain ⟨items, bottom, hstack, hchain⟩ := hinv.stack
  cases step_eq_next env _ c c' hstep with
  | shift state s' acts ctx1 tk htop hcell hnt1 hc' =>
    obtain rfl := ntBase_ctx hn hnt1
    subst hc'
    refine ⟨⟨shiftItem env c s' :: items, bottom, by simp [hstack], ?_⟩, rfl, ?_⟩
    · exact ⟨rfl, by show c.ctx.pos.pos ≤ c.ctx.pos.pos + _; omega, hchain⟩
    · trivial
  | reduce p len s' pr ctx1 tk hr hrlen hnt1 hc' =>
    obtain ⟨_, _, _, _, _, _, hfrom, _⟩ := hr
    obtain ⟨hlen', htake, hdrop⟩ := stack_split hstack hfrom
    obtain ⟨h1, h2, h3⟩ := reduceSpan_chain items P0 c.ctx.pos.pos len c.ctx.span hchain hinv.spanE hlen'
    obtain rfl := ntBase_ctx hn hnt1
    subst hc'
    refine ⟨⟨⟨s', reduceSpan (c.stack.take len) c.ctx.span⟩ :: items.drop len, bottom, by simp [hdrop], ?_⟩,
      hinv.spanE, ?_⟩
    · rw [htake]; exact ⟨h1, h2, h3⟩
    · exact rfl

theorem layoutParse_ok {env : Env} {au : Auto} (hl : LayoutEnv env au) (ctx : Ctx)
    (hctx : CtxOk env.input ctx) (fuel : Nat) (cx : Ctx) (pr : ParseResult)
    (h : layoutParse env au.start ctx fuel = (cx, .ok pr)) :
    LaySentence env au.sym ctx.pos.pos cx.pos.pos ∧
    (ctx.span.e.pos = ctx.pos.pos → pr.slice = some (ctx.pos.pos, cx.pos.pos - ctx.pos.pos)) := by
  have hn := hl.toNoSkipEnv
  have hok := ntOk_base env hl.custom hl.recog true
  have hctx0 : CtxOk env.input { ctx with state := au.start } := hctx
  obtain ⟨c, _, ⟨hci, hh, hli⟩, hdone⟩ := parseWith_sinv env _ hok hl.noShiftStop
    (fun c => CertInv env au.start c ∧ HChain env c.hist ctx.pos.pos c.ctx.pos.pos ∧
      (ctx.span.e.pos = ctx.pos.pos → LInv ctx.pos.pos c))
    (fun c c' hsi _ hi hstep => ⟨step_certInv env _ hl.structural hl.auto c c' hi.1 hstep,
      step_hchain hn _ c c' hsi hi.2.1 hstep, fun hE => step_linv hn _ c c' (hi.2.2 hE) hstep⟩)
    hctx0 ((layoutParse_eq env _ ctx fuel).symm.trans h) (by
      intro ctx1 tk hnt1
      obtain rfl := ntBase_ctx hn hnt1
      exact ⟨certInv_init .., by simp [HChain], fun hE =>
        ⟨⟨[], _, rfl, by simp [TChain]⟩, hE, trivial⟩⟩)
  obtain ⟨hcx, hres, hslice, hhist, hv, hy⟩ := done_certInv hl.structural hl.auto hci hdone
  refine ⟨⟨pr.tree, pr.hist, hv, hy, hcx ▸ hhist ▸ hh⟩, fun hE => ?_⟩
  have hli := hli hE
  -- the result is a node: its root symbol is a nonterminal
  obtain ⟨p, sp, l, cs, hnode⟩ : ∃ p sp l cs, pr.tree = Tree.node p sp l cs := by
    cases htr : pr.tree with
    | leaf a sp v l =>
      rw [htr] at hv
      simp only [Tree.Valid] at hv
      have := hl.nonterm
      omega
    | node p sp l cs => exact ⟨p, sp, l, cs, rfl⟩
  obtain ⟨items, bottom, hstack, hchain⟩ := hli.stack
  obtain ⟨top, hitems⟩ : ∃ top, items = [top] := by
    have hlen2 := hci.1.len
    rw [hres, hstack] at hlen2
    match items, hlen2 with
    | [t], _ => exact ⟨t, rfl⟩
    | [], h => simp at h
    | _ :: _ :: _, h => simp at h
  subst hitems
  obtain ⟨he, _, hs0⟩ := hchain
  have hP : top.span.s.pos = ctx.pos.pos := (show ctx.pos.pos = top.span.s.pos from hs0).symm
  have hsl := hli.slice
  rw [hstack, hres, hnode] at hsl
  rw [hcx, hslice, show c.slice = _ from hsl, hP, he]

theorem layoutParse_lay_none {env : Env} (hn : NoSkipEnv env) (ls : Nat) (ctx : Ctx) (fuel : Nat) (cx : Ctx)
    (o : Outcome ParseResult) (hl : ctx.lay = none) (h : layoutParse env ls ctx fuel = (cx, o)) : cx.lay = none := by
  have := parseWith_ctx env (nextTokenBase env true) (fun _ => True) (fun cx => cx.lay = none) (fun _ _ _ _ => trivial)
    (fun _ _ _ _ _ _ _ _ _ e => by rw [ntBase_ctx hn e]; rfl)
    (fun _ _ _ _ _ h e => by obtain rfl := ntBase_ctx hn e; exact ⟨h, (mergeLay_same _ _).trans h⟩)
    (start := ls) (ctx0 := { ctx with state := ls }) (fuel := fuel) (fun _ _ e => by rw [ntBase_ctx hn e]; exact hl)
    (fun _ _ _ => trivial)
  rwa [← layoutParse_eq, h] at this

theorem ntMain_layout {env : Env} {au : Auto} (hl : LayoutEnv env au) (pp : Bool) (fuel : Nat)
    (ctx ctx' : Ctx) (tk : Tok) (hctx : CtxOk env.input ctx) (hn : nextTokenMain env pp fuel ctx = (ctx', .ok tk)) :
    (ctx'.pos = ctx.pos ∧ (ctx.lay = none → ctx'.lay = none)) ∨
    (LaySentence env au.sym ctx.pos.pos ctx'.pos.pos ∧
      (ctx.span.e.pos = ctx.pos.pos →
        ctx.pos.pos < ctx'.pos.pos ∧ ctx'.lay = some (ctx.pos.pos, ctx'.pos.pos - ctx.pos.pos))) := by
  have hc := hl.custom
  have hsk := hl.noSkip
  have hinv := nextTokenMain_eq_cases hn
  rw [lexNext_noSkip env hc hsk] at hinv
  simp only at hinv
  cases hinv with
  | tok _ hpick => exact Or.inl ⟨rfl, id⟩
  | noLayout _ _ hl' _ => rw [hl.layout] at hl'; cases hl'
  | skipped ls' cx pr off len _ _ hl' hlp hslice hlen hn =>
    obtain rfl : ls' = au.start := Option.some.inj (hl'.symm.trans hl.layout)
    have hctx' := ntBase_ctx hl.toNoSkipEnv hn
    subst hctx'
    obtain ⟨hsent, hsl⟩ := layoutParse_ok hl ctx hctx fuel cx pr hlp
    refine Or.inr ⟨hsent, fun hE => ?_⟩
    obtain ⟨rfl, rfl⟩ := _root_.Prod.mk.inj (Option.some.inj (hslice.symm.trans (hsl hE)))
    exact ⟨Nat.lt_of_sub_pos hlen, rfl⟩
  | back ls' cx r _ _ hl' hlp hn =>
    obtain ⟨hctx', _, _⟩ := noToken_eq_ok env pp _ _ _ hn
    subst hctx'
    exact Or.inl ⟨rfl, fun hlay => layoutParse_lay_none hl.toNoSkipEnv ls' ctx fuel cx _ hlay hlp⟩
  | layFail _ _ _ _ _ _ hf _ => exact absurd rfl (hf.not_ok tk)

theorem ntG_main {env : Env} {au : Auto} (hl : LayoutEnv env au) (fuel : Nat) (pp : Bool) :
    NtG env (nextTokenMain env pp fuel) := by
  intro ctx ctx' tk hcx hn hlay hE
  rcases ntMain_layout hl pp fuel ctx ctx' tk hcx hn with ⟨hp, hl0⟩ | ⟨_, hsl⟩
  · exact ⟨Nat.le_of_eq (congrArg Pos.pos hp).symm, by rw [hl0 hlay, hp, layOf_self]⟩
  · obtain ⟨hlt, hl'⟩ := hsl hE
    exact ⟨Nat.le_of_lt hlt, by rw [hl', layOf, if_pos hlt]⟩

theorem parse_roundtrip_layout {env : Env} {au : Auto} (hl : LayoutEnv env au) (pp : Bool) (fuel : Nat)
    (ctx : Ctx) (r : ParseResult) (h : parse env pp fuel = (ctx, .ok r)) :
    Tree.flat env.input r.tree ++ layBytes env.input ctx.lay = env.input.take ctx.pos.pos ∧
    Tree.flat env.input r.tree = env.input.take (endOf r.hist) :=
  parse_ginv env hl.toStringEnv hl.structural pp fuel (ntG_main hl fuel pp) ctx r h

end Rustemo
