import Rustemo.Model.LayoutCert
import Rustemo.Proofs.StringLexer
import Rustemo.Proofs.CertSound
/-!
`LayoutCert.scan` is the layout sub-parse (string lexer, no whitespace skipping) with everything but the states, the byte offset
and the token ahead erased: what a layout parse answers is a function of the byte offset alone.  Then the executable conditions
of `LayoutCert` as propositions about the scanner.  The round-trip theorems (Proofs/LayoutParse.lean) need none of this and no
other module imports this one: `Rustemo.lean` does, so that it is built.
-/

namespace Rustemo
open LayoutCert

def Outcome.stok : Outcome Tok → STok
  | .ok tk => .ok tk.kind tk.val.2
  | .err _ => .err
  | _ => .other

theorem ntBase_scan (env : Env) (hc : env.custom = none) (hsk : env.skipWs = false)
    (ctx : Ctx) (hp : ctx.pos = posOf env.input ctx.pos.pos) :
    scanTok env ctx.state ctx.pos.pos = (nextTokenBase env true ctx).2.stok := by
  unfold nextTokenBase scanTok
  rw [lexNext_noSkip env hc hsk, show posAt env.input ctx.pos.pos = posOf env.input ctx.pos.pos from rfl, ← hp]
  simp only
  cases pickToken env.longest (tokenIter env ctx.pos (env.t.sorted ctx.state)) with
  | some tk => rfl
  | none =>
    simp only [scanPick, scanNoToken, noToken, Bool.true_and]
    generalize (env.t.sorted ctx.state).map (·.1) = exp
    split
    · rfl
    · cases exp <;> rfl

def sabs (c : Cfg) : SCfg := ⟨c.stack.map (·.state), c.ctx.pos.pos, c.tok.kind, c.tok.val.2⟩

def StepOut.sabs : StepOut → SStep
  | .next c => .next (Rustemo.sabs c)
  | .done ctx _ => .fin (.ok ctx.pos.pos)
  | .stop ctx (.err _) => .fin (.fail ctx.pos.pos)
  | .stop _ _ => .fin .other

def sabsRes : Ctx × Outcome ParseResult → SRes
  | (ctx, .ok _) => .ok ctx.pos.pos
  | (ctx, .err _) => .fail ctx.pos.pos
  | _ => .other

theorem head?_map_state {st : List StackItem} {s : Nat} (h : topState st = some s) :
    (st.map (·.state)).head? = some s :=
  topState_eq st ▸ h

theorem liftTok_sabs (hist : List Tok) (stack : List StackItem) (res : List Tree) (slice : Option Slice)
    (ctx' : Ctx) (o : Outcome Tok) (k : Option (Option Slice × Nat)) :
    (liftTok hist stack res slice (ctx', o) k).sabs = sLift (stack.map (·.state)) ctx'.pos.pos o.stok := by
  rcases k with _ | ⟨l, p⟩ <;> cases o <;> rfl

theorem step_scan {env : Env} (hn : NoSkipEnv env) (c : Cfg) (hinv : SInv env c) :
    sstep env (sabs c) = (step env (nextTokenBase env true) c).sabs := by
  have hlen := hinv.len
  obtain ⟨htop, _⟩ | ⟨state, htop, hsp⟩ := step_spec env (nextTokenBase env true) c
  · cases hst : c.stack with
    | nil => rw [hst] at hlen; cases hlen
    | cons x xs => rw [hst] at htop; cases htop
  generalize step env (nextTokenBase env true) c = out at hsp
  have lex : ∀ cx : Ctx, cx.pos = posOf env.input cx.pos.pos →
      ∀ hist stack res slice k, (liftTok hist stack res slice (nextTokenBase env true cx) k).sabs =
        sLift (stack.map (·.state)) cx.pos.pos (scanTok env cx.state cx.pos.pos) := by
    intro cx hp hist stack res slice k
    rw [ntBase_scan env hn.custom hn.noSkip cx hp, ← liftTok_sabs hist stack res slice cx _ k]
    congr 2
    exact Prod.ext (ntBase_ctx hn rfl) rfl
  have notLt : ∀ {len : Nat}, len ≤ c.stack.length → ¬ (c.stack.map (·.state)).length < len :=
    fun h => by rw [List.length_map]; exact Nat.not_lt.mpr h
  unfold sstep
  cases hsp with
  | noAction hcell => simp only [sabs, head?_map_state htop, hcell, StepOut.sabs]
  | shift s' acts hcell =>
    have hsh := hinv.shiftAt hn.noShiftStop hcell
    have hpp := hsh.pos_pos
    rw [lex (shiftCtx env c s') (by rw [hpp, hsh.pos])]
    simp only [sabs, head?_map_state htop, hcell, hpp, List.map_cons, shiftItem]
    rfl
  | reduce p len s' pr hr hrlen =>
    obtain ⟨state, fromState, acts, htop, hcell, hlen', hfrom, hpr, hgoto⟩ := hr
    rw [lex (reduceCtx c s') hinv.ctx.1.1]
    have hl := notLt hlen'
    simp only [sabs, head?_map_state htop, hcell, hl, ↓reduceIte, ← List.map_drop, head?_map_state hfrom, hpr,
      hgoto, List.map_cons]
    rfl
  | splitOff p len acts hcell hlen' =>
    simp only [sabs, head?_map_state htop, hcell, List.length_map, hlen', ↓reduceIte, StepOut.sabs]
  | noFrom p len acts hcell hlen' hfrom =>
    have hl := notLt hlen'
    have : ((c.stack.map (·.state)).drop len).head? = none := by
      rw [← List.map_drop, ← topState_eq]; exact hfrom
    simp only [sabs, head?_map_state htop, hcell, hl, ↓reduceIte, this, StepOut.sabs]
  | noProd p len fromState acts hcell hlen' hfrom hpr =>
    have hl := notLt hlen'
    simp only [sabs, head?_map_state htop, hcell, hl, ↓reduceIte, ← List.map_drop, head?_map_state hfrom, hpr,
      StepOut.sabs]
  | noGoto p len fromState pr acts hcell hlen' hfrom hpr hgoto =>
    have hl := notLt hlen'
    simp only [sabs, head?_map_state htop, hcell, hl, ↓reduceIte, ← List.map_drop, head?_map_state hfrom, hpr,
      hgoto, StepOut.sabs]
  | resSplitOff p len s' pr hr hrlen =>
    obtain ⟨_, _, _, _, _, _, hfrom, _⟩ := hr
    -- the stacks are one apart: nothing would be left below the popped entries
    exfalso
    rw [List.drop_eq_nil_of_le (by omega)] at hfrom
    cases hfrom
  | noResult acts hcell hres =>
    have hl : (c.stack.map (·.state)).length < 2 := by rw [hres] at hlen; simp [hlen]
    simp only [sabs, head?_map_state htop, hcell, hl, ↓reduceIte, StepOut.sabs]
  | accept acts tr rest hcell hres =>
    have hl : ¬ (c.stack.map (·.state)).length < 2 := by rw [hres] at hlen; simp [hlen]
    simp only [sabs, head?_map_state htop, hcell, hl, ↓reduceIte, StepOut.sabs]

theorem runLoop_scan {env : Env} (hn : NoSkipEnv env) : ∀ (fuel : Nat) (c : Cfg), SInv env c →
    srun env fuel (sabs c) = sabsRes (runLoop env (nextTokenBase env true) fuel c) := by
  intro fuel
  induction fuel with
  | zero => intro c _; rfl
  | succ n ih =>
    intro c hinv
    unfold runLoop srun
    rw [step_scan hn c hinv]
    cases hstep : step env (nextTokenBase env true) c with
    | next c' => exact ih c' (step_spans env _ c c' (ntOk_base env hn.custom hn.recog true) hn.noShiftStop hinv hstep)
    | done ctx r => rfl
    | stop ctx o =>
      cases o with
      | ok r => exact absurd rfl (step_stop_not_ok env _ c ctx _ hstep r)
      | _ => rfl

theorem layoutParse_scan (env : Env) (hc : env.custom = none) (hsk : env.skipWs = false) (hr : RecogOk env)
    (hns : NoShiftStop env.t) (ls : Nat) (ctx : Ctx) (fuel : Nat) (cx : Ctx) (o : Outcome ParseResult)
    (hctx : CtxOk env.input ctx) (h : layoutParse env ls ctx fuel = (cx, o)) :
    (∀ r, o = .ok r → scan env ls fuel ctx.pos.pos = .ok cx.pos.pos) ∧
    (∀ e, o = .err e → scan env ls fuel ctx.pos.pos = .fail cx.pos.pos) := by
  have hctx0 : CtxOk env.input { ctx with state := ls } := hctx
  have key : scan env ls fuel ctx.pos.pos = sabsRes (cx, o) := by
    have hok := ntOk_base env hc hr true
    unfold scan
    rw [show scanTok env ls ctx.pos.pos = _ from ntBase_scan env hc hsk { ctx with state := ls } hctx.1.1]
    rw [← h]
    rw [layoutParse_eq]
    unfold parseWith
    generalize hnt : nextTokenBase env true { ctx with state := ls } = res
    obtain ⟨ctx1, o1⟩ := res
    have hctx1 := ntBase_ctx ⟨⟨hc, hr, hns⟩, hsk⟩ hnt
    subst hctx1
    cases o1 with
    | ok tk => exact runLoop_scan ⟨⟨hc, hr, hns⟩, hsk⟩ fuel _ (sinv_init ls (hok.ctxOk hctx0 hnt) (hok.tokOk hctx0 hnt))
    | _ => rfl
  exact ⟨fun r hr => by rw [key, hr]; rfl, fun e he => by rw [key, he]; rfl⟩

structure Closed (g : Grammar) (t : Table) (ms : List Nat) : Prop where
  start : 0 ∈ ms
  shift : ∀ s ∈ ms, ∀ a s', Action.shift s' ∈ t.cell s a → s' ∈ ms
  goto : ∀ s ∈ ms, ∀ A s', t.goto g s A = some s' → s' ∈ ms

theorem mem_succs_shift {t : Table} {s a s' : Nat} (h : Action.shift s' ∈ t.cell s a) :
    s' ∈ succs t s := by
  obtain ⟨st, hst, hm⟩ := mem_cell h
  unfold succs
  rw [hst]
  simp only [List.mem_append, List.mem_flatMap, List.mem_filterMap]
  exact .inl ⟨_, getD_mem_toList (List.ne_nil_of_mem hm), Action.shift s', hm, rfl⟩

theorem mem_succs_goto {t : Table} {g : Grammar} {s A s' : Nat} (h : t.goto g s A = some s') :
    s' ∈ succs t s := by
  obtain ⟨_, st, hst, hm⟩ := goto_eq_some h
  unfold succs
  rw [hst]
  simp only [List.mem_append, List.mem_filterMap]
  exact .inr ⟨some s', hm ▸ getD_mem_toList (by rw [hm]; nofun), rfl⟩

theorem closed_sound (g : Grammar) (t : Table) (ms : List Nat) (h : closed t ms = true) :
    Closed g t ms := by
  unfold closed at h
  simp only [Bool.and_eq_true, List.all_eq_true, List.contains_iff_mem] at h
  obtain ⟨h0, hcl⟩ := h
  exact ⟨h0, fun s hs a s' hm => hcl s hs s' (mem_succs_shift hm),
    fun s hs A s' hm => hcl s hs s' (mem_succs_goto hm)⟩

theorem mem_offsets (env : Env) (p : Nat) (h : p ≤ env.input.length) : p ∈ offsets env := by
  unfold offsets; simp; omega

structure Conds (env : Env) (ls fuel : Nat) (ms : List Nat) : Prop where
  notToken : ∀ p ≤ env.input.length, ∀ s ∈ ms,
      (pickToken env.longest (tokenIter env (posAt env.input p) (env.t.sorted s))).isSome = true →
      consumes env ls fuel p = false
  idempotent : ∀ p ≤ env.input.length, ∀ q, scan env ls fuel p = .ok q → consumes env ls fuel q = false
  failStays : ∀ p ≤ env.input.length, ∀ q, scan env ls fuel p = .fail q → q = p

theorem consumes_ok_self (env : Env) (ls fuel p : Nat) (h : scan env ls fuel p = .ok p) :
    consumes env ls fuel p = false := by
  unfold consumes; rw [h]; simp

theorem consumes_false_ok (env : Env) (ls fuel p q : Nat) (h : scan env ls fuel p = .ok q)
    (hc : consumes env ls fuel p = false) : q = p := by
  unfold consumes at hc; rw [h] at hc; simpa using hc

theorem consumes_fail (env : Env) (ls fuel p q : Nat) (h : scan env ls fuel p = .fail q) :
    consumes env ls fuel p = false := by
  unfold consumes; rw [h]

theorem conds_sound (env : Env) (ls fuel : Nat)
    (h1 : LayoutCert.notToken env ls fuel = true) (h2 : LayoutCert.idempotent env ls fuel = true)
    (h3 : LayoutCert.failStays env ls fuel = true) : Conds env ls fuel (mainStates env.t) := by
  unfold LayoutCert.notToken at h1
  unfold LayoutCert.idempotent at h2
  unfold LayoutCert.failStays at h3
  rw [List.all_eq_true] at h1 h2 h3
  refine ⟨?_, ?_, ?_⟩
  · intro p hp s hs htok
    have := h1 p (mem_offsets env p hp)
    unfold notTokenAt at this
    cases hcs : consumes env ls fuel p with
    | false => rfl
    | true =>
      exfalso
      rw [hcs] at this
      have hta : tokenAt env (mainStates env.t) p = true := by
        unfold tokenAt
        rw [List.any_eq_true]
        exact ⟨s, hs, htok⟩
      rw [hta] at this
      simp at this
  · intro p hp q hq
    have := h2 p (mem_offsets env p hp)
    unfold idempotentAt at this
    rw [hq] at this
    by_cases hqp : q = p
    · subst hqp; exact consumes_ok_self env ls fuel q hq
    · cases hcs : consumes env ls fuel q with
      | false => rfl
      | true =>
        simp only at this
        rw [hcs] at this
        simp [hqp] at this
  · intro p hp q hq
    have := h3 p (mem_offsets env p hp)
    unfold failStaysAt at this
    rw [hq] at this
    simpa using this

end Rustemo
