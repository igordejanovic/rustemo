import Rustemo.Model.Lex
/-!
The yield of the token iterator has a closed form for ANY matching function `m`: of the terminals that match, in sorted
order, the `headGroup` (`iter_eq`).  The documented rule (`Survives`) and the grammar order of the yield are both read off that list.
-/
namespace Rustemo.Lex

def Before (ms : Bool) (a b : TermDesc) : Prop :=
  KeyLt (key ms b) (key ms a) ∨ (key ms a = key ms b ∧ a.idx < b.idx)

def Sorted (ms : Bool) : List TermDesc → Prop
  | [] => True
  | a :: rest => (∀ b ∈ rest, Before ms a b) ∧ Sorted ms rest

def Matches (m : Nat → Option Nat) (t : TermDesc) : Prop := (m t.idx).isSome = true

def TopPrio (m : Nat → Option Nat) (S : List TermDesc) (t : TermDesc) : Prop :=
  t ∈ S ∧ Matches m t ∧ ∀ u ∈ S, Matches m u → u.prio ≤ t.prio

/-- the documented survivors of "priority, then most specific" -/
def Survives (ms : Bool) (m : Nat → Option Nat) (S : List TermDesc) (t : TermDesc) : Prop :=
  TopPrio m S t ∧ (ms = true →
    (t.isStr = true → ∀ u ∈ S, TopPrio m S u → u.isStr = true →
        u.strLen.getD 0 ≤ t.strLen.getD 0 ∧ (u.strLen.getD 0 = t.strLen.getD 0 → t.idx ≤ u.idx)) ∧
    (t.isStr = false → ∀ u ∈ S, TopPrio m S u → u.isStr = false))

theorem before_iff {ms : Bool} {a b : TermDesc} : Before ms a b ↔
    (b.prio < a.prio ∨ (b.prio = a.prio ∧ (key ms b).2 < (key ms a).2) ∨
      (a.prio = b.prio ∧ (key ms a).2 = (key ms b).2 ∧ a.idx < b.idx)) := by
  unfold Before KeyLt
  have h1 : (key ms a).1 = a.prio := rfl
  have h2 : (key ms b).1 = b.prio := rfl
  rw [h1, h2]
  constructor
  · rintro ((h | h) | ⟨h, hi⟩)
    · exact Or.inl h
    · exact Or.inr (Or.inl h)
    · exact Or.inr (Or.inr ⟨h1 ▸ h2 ▸ congrArg (·.1) h, congrArg (·.2) h, hi⟩)
  · rintro (h | h | ⟨hp, hl, hi⟩)
    · exact Or.inl (Or.inl h)
    · exact Or.inl (Or.inr h)
    · refine Or.inr ⟨?_, hi⟩
      show ((key ms a).1, (key ms a).2) = ((key ms b).1, (key ms b).2)
      rw [h1, h2, hp, hl]

theorem sortedB_sound (ms : Bool) : ∀ (l : List TermDesc), sortedB ms l = true → Sorted ms l
  | [], _ => trivial
  | a :: rest, h => by
    simp only [sortedB, Bool.and_eq_true, List.all_eq_true] at h
    refine ⟨fun b hb => ?_, sortedB_sound ms rest h.2⟩
    have := h.1 b hb
    unfold beforeB at this
    simp only [Bool.or_eq_true, decide_eq_true_eq, Bool.and_eq_true, beq_iff_eq] at this
    exact this

theorem sorted_tail {ms : Bool} {a : TermDesc} {rest : List TermDesc} (h : Sorted ms (a :: rest)) :
    Sorted ms rest := h.2

theorem sorted_iff_pairwise (ms : Bool) : ∀ (S : List TermDesc), Sorted ms S ↔ S.Pairwise (Before ms)
  | [] => ⟨fun _ => List.Pairwise.nil, fun _ => trivial⟩
  | _ :: rest => (and_congr_right' (sorted_iff_pairwise ms rest)).trans List.pairwise_cons.symm

theorem Sorted.filter {ms : Bool} {S : List TermDesc} (hs : Sorted ms S) (p : TermDesc → Bool) :
    Sorted ms (S.filter p) :=
  (sorted_iff_pairwise ms _).mpr (((sorted_iff_pairwise ms S).mp hs).filter p)

/-- what `sortedOk` certifies of a state's terminals: in the order of `sort_terminals`, no string recognizer empty -/
structure WF (ms : Bool) (S : List TermDesc) : Prop where
  sorted : Sorted ms S
  wft : ∀ u ∈ S, wftB u = true

theorem WF.of_checks {ms : Bool} {S : List TermDesc} (hs : sortedB ms S = true) (hw : S.all wftB = true) :
    WF ms S :=
  ⟨sortedB_sound ms S hs, List.all_eq_true.mp hw⟩

theorem WF.filter {ms : Bool} {S : List TermDesc} (h : WF ms S) (p : TermDesc → Bool) : WF ms (S.filter p) :=
  ⟨h.sorted.filter p, fun u hu => h.wft u (List.mem_filter.mp hu).1⟩

theorem WF.tail {ms : Bool} {a : TermDesc} {S : List TermDesc} (h : WF ms (a :: S)) : WF ms S :=
  ⟨h.sorted.2, fun u hu => h.wft u (List.mem_cons_of_mem _ hu)⟩

theorem Before.prio_le {ms : Bool} {a u : TermDesc} (h : Before ms a u) : u.prio ≤ a.prio := by
  rcases before_iff.mp h with h | h | h <;> omega

theorem before_same_prio {a u : TermDesc} (h : Before true a u) (hp : u.prio = a.prio) :
    u.strLen.getD 0 < a.strLen.getD 0 ∨ (a.strLen.getD 0 = u.strLen.getD 0 ∧ a.idx < u.idx) := by
  rcases before_iff.mp h with h | h | h
  · omega
  · exact .inl h.2
  · exact .inr h.2

/-- string recognizers are not empty (an empty one would tie with the regexes of its priority) -/
theorem isStr_getD_pos {t : TermDesc} (hw : wftB t = true) (hs : t.isStr = true) :
    1 ≤ t.strLen.getD 0 := by
  unfold TermDesc.isStr at hs
  unfold wftB at hw
  cases h : t.strLen with
  | none => rw [h] at hs; simp at hs
  | some n => rw [h] at hw; simpa using hw

theorem notStr_getD {t : TermDesc} (hs : t.isStr = false) : t.strLen.getD 0 = 0 := by
  unfold TermDesc.isStr at hs
  cases h : t.strLen with
  | none => simp
  | some n => rw [h] at hs; simp at hs

/-- inside one priority group, after a terminal that is no most-specific string: under most-specific the strings of a
    priority, not being empty, sort before its regexes, so what follows ties on the key and is sorted by grammar index -/
theorem Before.in_group {ms : Bool} {a u : TermDesc} (hb : Before ms a u) (hw : wftB u = true)
    (hstr : (ms && a.isStr) = false) (hp : u.prio = a.prio) : (ms && u.isStr) = false ∧ a.idx < u.idx := by
  have ka : (key ms a).2 = 0 := by
    cases ms
    · rfl
    · exact notStr_getD hstr
  rcases before_iff.mp hb with h | h | h
  · omega
  · omega
  · refine ⟨?_, h.2.2⟩
    cases ms with
    | false => rfl
    | true =>
      cases hus : u.isStr with
      | false => rfl
      | true =>
        have := isStr_getD_pos hw hus
        have : u.strLen.getD 0 = 0 := h.2.1.symm.trans ka
        omega

def nextDiffers (a : TermDesc) : List TermDesc → Bool
  | [] => false
  | b :: _ => b.prio != a.prio

theorem withFlags_cons (ms : Bool) (a : TermDesc) (rest : List TermDesc) :
    withFlags ms (a :: rest) = (a, (ms && a.isStr) || nextDiffers a rest) :: withFlags ms rest := by
  cases rest with
  | nil => simp [withFlags, nextDiffers]
  | cons b r => rfl

theorem Sorted.group_ends {ms : Bool} {a u : TermDesc} {rest : List TermDesc}
    (hs : Sorted ms (a :: rest)) (hnd : nextDiffers a rest = true) (hu : u ∈ rest) :
    u.prio ≠ a.prio := by
  cases rest with
  | nil => cases hu
  | cons c r =>
    have hc : c.prio ≠ a.prio := by simpa [nextDiffers] using hnd
    have := (hs.1 c List.mem_cons_self).prio_le
    rcases List.mem_cons.mp hu with rfl | h
    · exact hc
    · have := (hs.2.1 u h).prio_le; omega

theorem iter_cons_some {m : Nat → Option Nat} {t : TermDesc} {l : Nat} (h : m t.idx = some l)
    (b fin : Bool) (rest : List (TermDesc × Bool)) :
    iter m b ((t, fin) :: rest) = (t, l) :: (if fin then [] else iter m true rest) := by
  simp only [iter, h]

theorem iter_cons_none {m : Nat → Option Nat} {t : TermDesc} (h : m t.idx = none)
    (b fin : Bool) (rest : List (TermDesc × Bool)) :
    iter m b ((t, fin) :: rest) = if fin && b then [] else iter m b rest := by
  simp only [iter, h]

def sel (m : Nat → Option Nat) (L : List TermDesc) : List (TermDesc × Nat) :=
  L.filterMap fun t => (m t.idx).map (Prod.mk t)

theorem sel_cons_some {m : Nat → Option Nat} {t : TermDesc} {l : Nat} (h : m t.idx = some l)
    (L : List TermDesc) : sel m (t :: L) = (t, l) :: sel m L :=
  List.filterMap_cons_some (by rw [h]; rfl)

theorem mem_sel {m : Nat → Option Nat} {L : List TermDesc} {t : TermDesc} {l : Nat} :
    (t, l) ∈ sel m L ↔ t ∈ L ∧ m t.idx = some l := by
  simp [sel, List.mem_filterMap, Option.map_eq_some_iff]

theorem pairwise_sel {m : Nat → Option Nat} {R : TermDesc → TermDesc → Prop} {L : List TermDesc}
    (h : L.Pairwise R) : (sel m L).Pairwise (fun x y => R x.1 y.1) :=
  h.filterMap _ fun a a' hr b hb b' hb' => by
    obtain ⟨_, _, rfl⟩ := Option.map_eq_some_iff.mp hb
    obtain ⟨_, _, rfl⟩ := Option.map_eq_some_iff.mp hb'
    exact hr

def matching (m : Nat → Option Nat) (S : List TermDesc) : List TermDesc :=
  S.filter fun t => (m t.idx).isSome

theorem mem_matching {m : Nat → Option Nat} {S : List TermDesc} {t : TermDesc} :
    t ∈ matching m S ↔ t ∈ S ∧ Matches m t := List.mem_filter

theorem matching_cons_some {m : Nat → Option Nat} {t : TermDesc} {l : Nat} (h : m t.idx = some l)
    (S : List TermDesc) : matching m (t :: S) = t :: matching m S :=
  List.filter_cons_of_pos (by rw [h]; rfl)

theorem matching_cons_none {m : Nat → Option Nat} {t : TermDesc} (h : m t.idx = none)
    (S : List TermDesc) : matching m (t :: S) = matching m S :=
  List.filter_cons_of_neg (by rw [h]; exact Bool.false_ne_true)

/-- what the strategies "priority, then most specific" leave of a sorted list in which everything matches -/
def headGroup (ms : Bool) : List TermDesc → List TermDesc
  | [] => []
  | a :: rest => if ms && a.isStr then [a] else (a :: rest).filter (·.prio == a.prio)

/-- the `if` is how `iter` goes on after a match at `b` that is no most-specific string: its flag is `nextDiffers b R` -/
theorem iter_group_eq (ms : Bool) (m : Nat → Option Nat) (R : List TermDesc) :
    ∀ (b : TermDesc), Sorted ms (b :: R) →
      (∀ u ∈ R, u.prio = b.prio → (ms && u.isStr) = false) →
      (if nextDiffers b R then [] else iter m true (withFlags ms R)) =
        sel m ((matching m R).filter (·.prio == b.prio)) := by
  induction R with
  | nil => intro b _ _; rfl
  | cons c R' ih =>
    intro b hs hns
    by_cases hnd : nextDiffers b (c :: R') = true
    · rw [if_pos hnd, List.filter_eq_nil_iff.mpr fun u hu => by
        simpa using hs.group_ends hnd (mem_matching.mp hu).1]
      rfl
    · have hcb : c.prio = b.prio := by simpa [nextDiffers] using hnd
      have ih' := ih c hs.2 (fun u hu hp => hns u (List.mem_cons_of_mem _ hu) (hp.trans hcb))
      rw [if_neg hnd, withFlags_cons, hns c List.mem_cons_self hcb, Bool.false_or, ← hcb]
      cases hmc : m c.idx with
      | some lc =>
        rw [iter_cons_some hmc, ih', matching_cons_some hmc,
          List.filter_cons_of_pos (p := fun x : TermDesc => x.prio == c.prio) (beq_self_eq_true _),
          sel_cons_some hmc]
      | none => rw [iter_cons_none hmc, Bool.and_true, ih', matching_cons_none hmc]

theorem iter_eq {ms : Bool} (m : Nat → Option Nat) {S : List TermDesc} (h : WF ms S) :
    iter m false (withFlags ms S) = sel m (headGroup ms (matching m S)) := by
  induction S with
  | nil => rfl
  | cons a rest ih =>
    rw [withFlags_cons]
    cases hma : m a.idx with
    | none =>
      rw [iter_cons_none hma, Bool.and_false, if_neg Bool.false_ne_true, ih h.tail, matching_cons_none hma]
    | some la =>
      rw [iter_cons_some hma, matching_cons_some hma]
      simp only [headGroup]
      cases hstr : (ms && a.isStr) with
      | true => exact (sel_cons_some hma []).symm
      | false =>
        rw [if_neg Bool.false_ne_true, Bool.false_or,
          List.filter_cons_of_pos (p := fun x : TermDesc => x.prio == a.prio) (beq_self_eq_true _),
          sel_cons_some hma]
        exact congrArg _ (iter_group_eq ms m rest a h.sorted fun u hu hp =>
          (Before.in_group (h.sorted.1 u hu) (h.tail.wft u hu) hstr hp).1)

theorem survives_iff_head {ms : Bool} {m : Nat → Option Nat} {S : List TermDesc} {a : TermDesc}
    (haS : a ∈ S) (ha : Matches m a) (hF : ∀ u ∈ S, Matches m u → u = a ∨ Before ms a u)
    (hw : ∀ u ∈ S, wftB u = true) (t : TermDesc) :
    Survives ms m S t ↔
      (t ∈ S ∧ Matches m t ∧ if ms && a.isStr then t = a else t.prio = a.prio) := by
  have hle : ∀ u ∈ S, Matches m u → u.prio ≤ a.prio := fun u hu hmu => by
    rcases hF u hu hmu with rfl | hb
    · exact Nat.le_refl _
    · exact hb.prio_le
  have hT : ∀ u, TopPrio m S u ↔ u ∈ S ∧ Matches m u ∧ u.prio = a.prio := fun u =>
    ⟨fun ⟨hin, hm, hall⟩ => ⟨hin, hm, Nat.le_antisymm (hle u hin hm) (hall a haS ha)⟩,
      fun ⟨hin, hm, hp⟩ => ⟨hin, hm, fun v hv hmv => hp ▸ hle v hv hmv⟩⟩
  cases hstr : (ms && a.isStr) with
  | false =>
    -- no most-specific string has the top priority, so the second clause of `Survives` is void
    have hns : ∀ u, TopPrio m S u → (ms && u.isStr) = false := fun u hTu => by
      rcases hF u hTu.1 hTu.2.1 with rfl | hb
      · exact hstr
      · exact (hb.in_group (hw u hTu.1) hstr ((hT u).mp hTu).2.2).1
    rw [if_neg Bool.false_ne_true, ← hT]
    refine ⟨fun hs => hs.1, fun hTt => ⟨hTt, fun hms => ?_⟩⟩
    subst hms
    exact ⟨fun hs' => absurd (hns t hTt) (by rw [Bool.true_and, hs']; decide),
      fun _ u _ hTu => hns u hTu⟩
  | true =>
    obtain ⟨rfl, hastr⟩ := Bool.and_eq_true_iff.mp hstr
    have hTa : TopPrio m S a := (hT a).mpr ⟨haS, ha, rfl⟩
    rw [if_pos rfl]
    constructor
    · rintro ⟨hTt, hcond⟩
      obtain ⟨h3, h4⟩ := hcond rfl
      obtain ⟨hin, hm, hp⟩ := (hT t).mp hTt
      refine ⟨hin, hm, (hF t hin hm).resolve_right fun hb => ?_⟩
      -- `t` sorts after the string `a` of its priority: it is a regex, or shorter, or later
      have hb := before_same_prio hb hp
      cases htstr : t.isStr with
      | true =>
        obtain ⟨hle, hidx⟩ := h3 htstr a haS hTa hastr
        rcases hb with hb | hb
        · omega
        · have := hidx hb.1; omega
      | false => exact absurd (h4 htstr a haS hTa) (by rw [hastr]; decide)
    · rintro ⟨_, _, rfl⟩
      refine ⟨hTa, fun _ => ⟨fun _ u hu hTu _ => ?_, fun hn => absurd hn (by rw [hastr]; decide)⟩⟩
      rcases hF u hu hTu.2.1 with rfl | hb
      · exact ⟨Nat.le_refl _, fun _ => Nat.le_refl _⟩
      · rcases before_same_prio hb ((hT u).mp hTu).2.2 with hb | hb
        · exact ⟨Nat.le_of_lt hb, fun he => by omega⟩
        · exact ⟨Nat.le_of_eq hb.1.symm, fun _ => Nat.le_of_lt hb.2⟩

theorem survives_iff_headGroup {ms : Bool} {m : Nat → Option Nat} {S : List TermDesc} (h : WF ms S) (t : TermDesc) :
    Survives ms m S t ↔ t ∈ headGroup ms (matching m S) := by
  have hL : Sorted ms (matching m S) := h.sorted.filter _
  cases hL' : matching m S with
  | nil =>
    exact ⟨fun h => absurd (mem_matching.mpr ⟨h.1.1, h.1.2.1⟩) (hL' ▸ List.not_mem_nil),
      fun h => absurd h List.not_mem_nil⟩
  | cons a rest =>
    have hmem : ∀ u, u ∈ a :: rest ↔ u ∈ S ∧ Matches m u := fun u => hL' ▸ mem_matching
    rw [hL'] at hL
    have ha := (hmem a).mp List.mem_cons_self
    rw [survives_iff_head ha.1 ha.2
      (fun u hu hmu => (List.mem_cons.mp ((hmem u).mpr ⟨hu, hmu⟩)).imp_right (hL.1 u)) h.wft]
    simp only [headGroup]
    cases ms && a.isStr with
    | true =>
      exact ⟨fun h => List.mem_singleton.mpr h.2.2,
        fun h => (List.mem_singleton.mp h).symm ▸ ⟨ha.1, ha.2, rfl⟩⟩
    | false =>
      rw [if_neg Bool.false_ne_true, if_neg Bool.false_ne_true, List.mem_filter, hmem, beq_iff_eq,
        and_assoc]

theorem iter_survivors {ms : Bool} {m : Nat → Option Nat} {S : List TermDesc} (h : WF ms S) (t : TermDesc) (l : Nat) :
    (t, l) ∈ iter m false (withFlags ms S) ↔ (Survives ms m S t ∧ m t.idx = some l) := by
  rw [iter_eq m h, mem_sel, survives_iff_headGroup h]

theorem forall_mem_iter {ms : Bool} {m : Nat → Option Nat} {S : List TermDesc} (h : WF ms S)
    (P : TermDesc × Nat → Prop) :
    (∀ u ∈ iter m false (withFlags ms S), P u) ↔
      ∀ u lu, Survives ms m S u → m u.idx = some lu → P (u, lu) :=
  ⟨fun hP u lu hsu hmu => hP (u, lu) ((iter_survivors h u lu).mpr ⟨hsu, hmu⟩),
    fun hP u hu =>
      have ⟨hsu, hmu⟩ := (iter_survivors h u.1 u.2).mp hu
      hP u.1 u.2 hsu hmu⟩

theorem iter_eq_nil_iff {ms : Bool} {m : Nat → Option Nat} {S : List TermDesc} (h : WF ms S) :
    iter m false (withFlags ms S) = [] ↔ ∀ u, ¬ Survives ms m S u :=
  (List.eq_nil_iff_forall_not_mem.trans (forall_mem_iter h (fun _ => False))).trans
    ⟨fun hn u hsu => have ⟨lu, hmu⟩ := Option.isSome_iff_exists.mp hsu.1.2.1; hn u lu hsu hmu,
      fun hn u _ hsu _ => hn u hsu⟩

theorem headGroup_idx_lt {ms : Bool} {L : List TermDesc} (h : WF ms L) :
    (headGroup ms L).Pairwise (fun a b => a.idx < b.idx) := by
  cases L with
  | nil => exact List.Pairwise.nil
  | cons a rest =>
    simp only [headGroup]
    cases hstr : (ms && a.isStr) with
    | true => exact List.pairwise_singleton _ _
    | false =>
      rw [if_neg Bool.false_ne_true]
      refine (((sorted_iff_pairwise ms _).mp h.sorted).filter _).imp_of_mem fun {x y} hx hy hxy => ?_
      obtain ⟨hxin, hxp⟩ := List.mem_filter.mp hx
      obtain ⟨hyin, hyp⟩ := List.mem_filter.mp hy
      have hxs : (ms && x.isStr) = false := by
        rcases List.mem_cons.mp hxin with rfl | hin
        · exact hstr
        · exact (Before.in_group (h.sorted.1 x hin) (h.wft x hxin) hstr (beq_iff_eq.mp hxp)).1
      exact (hxy.in_group (h.wft y hyin) hxs ((beq_iff_eq.mp hyp).trans (beq_iff_eq.mp hxp).symm)).2

theorem iter_idx_increasing {ms : Bool} (m : Nat → Option Nat) {S : List TermDesc} (h : WF ms S) :
    (iter m false (withFlags ms S)).Pairwise (fun a b => a.1.idx < b.1.idx) :=
  iter_eq m h ▸ pairwise_sel (headGroup_idx_lt (h.filter _))

end Rustemo.Lex
