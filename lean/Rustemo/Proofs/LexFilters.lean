import Rustemo.Proofs.Lex
import Rustemo.Proofs.ListFacts
import Rustemo.Model.LR
/-!
Both parsers act on `glrKeep longest false toks`: GLR follows all of it, LR (and GLR with grammar order) its first token.
The iterator's list is strictly increasing in the grammar index and the longest-match filter keeps a sublist, so that first
token is the one that comes first in the grammar (`lrPick_iff_first`).
-/
namespace Rustemo.Lex

theorem mem_longest (toks : List (TermDesc × Nat)) (t : TermDesc × Nat) :
    t ∈ toks.filter (fun t => t.2 == maxLen' toks) ↔ (t ∈ toks ∧ ∀ u ∈ toks, u.2 ≤ t.2) :=
  mem_filter_foldl_max (fun t : TermDesc × Nat => t.2)

theorem lrPick_eq_head (longest : Bool) (toks : List (TermDesc × Nat)) :
    lrPick longest toks = (glrKeep longest false toks).head? := by
  cases longest <;> rfl

theorem glrKeep_order_eq (longest : Bool) (toks : List (TermDesc × Nat)) :
    glrKeep longest true toks = (glrKeep longest false toks).take 1 := by
  cases longest <;> rfl

theorem glrKeep_sublist (longest : Bool) (toks : List (TermDesc × Nat)) :
    (glrKeep longest false toks).Sublist toks := by
  cases longest
  · exact List.Sublist.refl _
  · exact List.filter_sublist

theorem glrKeep_spec (longest : Bool) (toks : List (TermDesc × Nat)) (t : TermDesc × Nat) :
    t ∈ glrKeep longest false toks ↔ (t ∈ toks ∧ (longest = true → ∀ u ∈ toks, u.2 ≤ t.2)) := by
  cases longest
  · exact ⟨fun h => ⟨h, fun h => nomatch h⟩, fun h => h.1⟩
  · exact (mem_longest toks t).trans (and_congr_right fun _ => ⟨fun h _ => h, fun h => h rfl⟩)

theorem glrKeep_eq_nil (longest : Bool) (toks : List (TermDesc × Nat)) :
    glrKeep longest false toks = [] ↔ toks = [] := by
  refine ⟨fun h => ?_, fun h => by subst h; cases longest <;> rfl⟩
  cases toks with
  | nil => rfl
  | cons x xs =>
    -- a token of maximal length passes the filter
    obtain ⟨u, hu, hmax⟩ := exists_max (·.2) (x :: xs) (List.cons_ne_nil x xs)
    have : u ∈ glrKeep longest false (x :: xs) := (glrKeep_spec longest _ u).mpr ⟨hu, fun _ => hmax⟩
    rw [h] at this
    exact absurd this List.not_mem_nil

theorem lrPick_spec (longest : Bool) (toks : List (TermDesc × Nat)) :
    (∀ t, lrPick longest toks = some t → t ∈ toks ∧ (longest = true → ∀ u ∈ toks, u.2 ≤ t.2)) ∧
    (lrPick longest toks = none ↔ toks = []) := by
  rw [lrPick_eq_head, List.head?_eq_none_iff, glrKeep_eq_nil]
  exact ⟨fun t h => (glrKeep_spec longest toks t).mp (List.mem_of_head? h), Iff.rfl⟩

theorem glrKeep_order_eq_lrPick (longest : Bool) (toks : List (TermDesc × Nat)) :
    glrKeep longest true toks = (lrPick longest toks).toList := by
  rw [glrKeep_order_eq, lrPick_eq_head]
  cases glrKeep longest false toks <;> rfl

theorem lrPick_iff_first (longest : Bool) (toks : List (TermDesc × Nat)) (a : TermDesc × Nat)
    (hp : toks.Pairwise (fun x y => x.1.idx < y.1.idx)) :
    lrPick longest toks = some a ↔
      (a ∈ toks ∧ (longest = true → ∀ u ∈ toks, u.2 ≤ a.2) ∧
       ∀ b ∈ toks, (longest = true → b.2 = a.2) → a.1.idx ≤ b.1.idx) := by
  rw [lrPick_eq_head, head?_iff_min (fun x => x.1.idx) (hp.sublist (glrKeep_sublist longest toks)),
    glrKeep_spec, and_assoc]
  -- given that `a` passes the filter, `b` passes it iff it is as long as `a`
  refine and_congr_right (fun ha => and_congr_right (fun hmax => ?_))
  refine forall_congr' (fun b => ?_)
  rw [glrKeep_spec]
  constructor
  · exact fun h hb hlen => h ⟨hb, fun hl u hu => hlen hl ▸ hmax hl u hu⟩
  · exact fun h hb => h hb.1 (fun hl => Nat.le_antisymm (hmax hl b hb.1) (hb.2 hl a ha))

theorem tokenIterAux_eq_iter (env : Rustemo.Env) (pos : Rustemo.Pos) :
    ∀ (L : List (TermDesc × Bool)) (b : Bool),
      (Rustemo.tokenIterAux env pos b (L.map fun (t, f) => (t.idx, f))).map (fun tk => (tk.kind, tk.val.2)) =
      (iter (fun k => env.recog k pos.pos) b L).map (fun (t, l) => (t.idx, l))
  | [], _ => rfl
  | (t, f) :: rest, b => by
    cases hm : env.recog t.idx pos.pos with
    | some l =>
      rw [iter_cons_some (m := fun k => env.recog k pos.pos) hm]
      simp only [List.map_cons, Rustemo.tokenIterAux, hm]
      cases f
      · exact congrArg _ (tokenIterAux_eq_iter env pos rest true)
      · rfl
    | none =>
      rw [iter_cons_none (m := fun k => env.recog k pos.pos) hm]
      simp only [List.map_cons, Rustemo.tokenIterAux, hm]
      cases f && b
      · exact tokenIterAux_eq_iter env pos rest b
      · rfl

end Rustemo.Lex
