import Rustemo.Model.LexTok
import Rustemo.Model.Core
import Rustemo.Proofs.StringLexer
import Rustemo.Proofs.CertSound
/-!
C01 on bytes.  For single-character terminals (`SingleChar`, what `Cert.singleCharLexer` checks) the lexing lemma `nt_spec`: in a
state `s` at byte offset `pos`, `nextTokenMain` offers exactly the terminal whose character is the next byte (STOP at the end of
the input) if that terminal has a non-empty cell in `s`, and otherwise reports the error "expected (terminals with a non-empty
cell in `s`)" at `pos` — which is `tstep`'s lookup of the cell of the next token.
-/

namespace Rustemo

structure SingleChar (g : Grammar) (t : Table) : Prop where
  noLayout : t.layoutState = none
  nterms_pos : 1 ≤ g.nterms
  byte : ∀ k, k < g.nterms → k ≠ 0 → ∃ b, g.termByte k = some b
  distinct : ∀ k j, k < g.nterms → j < g.nterms → k ≠ 0 → j ≠ 0 → g.termByte k = g.termByte j → k = j
  cells_lt : ∀ s a, g.nterms ≤ a → t.cell s a = []
  sorted_ne : ∀ s, s < t.states.size → t.sorted s ≠ []
  sorted_cell : ∀ s a, a ∈ (t.sorted s).map (·.1) ↔ t.cell s a ≠ []
  noShiftStop : ∀ s s', Action.shift s' ∉ t.cell s 0
  start_range : 0 < t.states.size
  shift_range : ∀ s a s', Action.shift s' ∈ t.cell s a → s' < t.states.size
  goto_range : ∀ s A s', t.goto g s A = some s' → s' < t.states.size

theorem cell_ne_nil_lt {t : Table} {s a : Nat} (h : t.cell s a ≠ []) : s < t.states.size := by
  obtain ⟨act, hact⟩ := List.exists_mem_of_ne_nil _ h
  obtain ⟨st, hst, _⟩ := mem_cell hact
  exact lt_size_of_getElem? hst

theorem Cert.singleCharLexer_sound (g : Grammar) (t : Table) (h : Cert.singleCharLexer g t = true) :
    SingleChar g t := by
  unfold Cert.singleCharLexer at h
  simp only [Bool.and_eq_true, decide_eq_true_eq] at h
  obtain ⟨⟨⟨⟨⟨⟨⟨hL, hN⟩, hB⟩, hD⟩, hS⟩, hStop⟩, hR0⟩, hR⟩ := h
  rw [List.all_eq_true] at hB hD
  simp only [forStates_iff, forCells_iff, forGotos_iff, forall_action, Bool.and_eq_true, decide_eq_true_eq,
    implies_true, and_true] at hR
  have hstate : ∀ (s : Nat) (st : State), t.states[s]? = some st →
      st.actions.size ≤ g.nterms ∧ st.sorted ≠ [] ∧ st.sortedIsCells = true := by
    intro s st hst
    have := forStates_iff.mp hS _ _ hst
    simp only [Bool.and_eq_true, decide_eq_true_eq, Bool.not_eq_true', List.isEmpty_eq_false_iff] at this
    exact ⟨this.1.1, this.1.2, this.2⟩
  refine ⟨by simpa using hL, hN, ?_, ?_, ?_, ?_, ?_, noShiftStop_sound t hStop, hR0, ?_, ?_⟩
  · intro k hk hk0
    have := hB k (List.mem_range.mpr hk)
    simp only [Bool.or_eq_true, beq_iff_eq, hk0, false_or] at this
    exact Option.isSome_iff_exists.mp this
  · intro k j hk hj hk0 hj0 he
    have := hD k (List.mem_range.mpr hk)
    rw [List.all_eq_true] at this
    have := this j (List.mem_range.mpr hj)
    simp only [Bool.or_eq_true, beq_iff_eq, hk0, hj0, false_or, bne_iff_ne, ne_eq] at this
    rcases this with h1 | h1
    · exact h1
    · exact absurd he h1
  · intro s a ha
    unfold Table.cell
    split
    · rename_i st hst
      have hsz := (hstate s st hst).1
      simp [Array.getD_eq_getD_getElem?, Array.getElem?_eq_none (show st.actions.size ≤ a by omega)]
    · rfl
  · intro s hs
    have hst : t.states[s]? = some t.states[s] := Array.getElem?_eq_getElem hs
    rw [sorted_eq hst]
    exact (hstate s _ hst).2.1
  · intro s a
    unfold Table.sorted Table.cell
    split
    · rename_i st hst
      have hc := (hstate s st hst).2.2
      unfold State.sortedIsCells at hc
      simp only [Bool.and_eq_true, List.all_eq_true, Bool.not_eq_true', List.isEmpty_eq_false_iff,
        Bool.or_eq_true, List.isEmpty_iff, List.contains_iff_mem] at hc
      obtain ⟨h1, h2⟩ := hc
      constructor
      · intro hm
        rw [List.mem_map] at hm
        obtain ⟨e, he, rfl⟩ := hm
        exact h1 e he
      · intro hne
        rcases Nat.lt_or_ge a st.actions.size with h' | h'
        · rcases h2 a (List.mem_range.mpr h') with h3 | h3
          · exact absurd h3 hne
          · exact h3
        · simp [Array.getD_eq_getD_getElem?, Array.getElem?_eq_none h'] at hne
    · simp
  · intro s a s' hm
    obtain ⟨st, hst, hm'⟩ := mem_cell hm
    exact (hR s st hst).1 a s' hm'
  · intro s A s' hm
    obtain ⟨_, st, hst, hm'⟩ := goto_eq_some hm
    exact (hR s st hst).2 _ s' hm'

theorem isCharOf_iff {g : Grammar} {b k : Nat} : g.isCharOf b k = true ↔ k ≠ 0 ∧ g.termByte k = some b := by
  simp only [Grammar.isCharOf, Bool.and_eq_true, bne_iff_ne, ne_eq, beq_iff_eq]

theorem charToTerm_spec (g : Grammar) (b : Nat) :
    (charToTerm g b = g.nterms ∧ ∀ k, k < g.nterms → g.isCharOf b k = false) ∨
    (charToTerm g b < g.nterms ∧ g.isCharOf b (charToTerm g b) = true) := by
  unfold charToTerm
  cases hf : (List.range g.nterms).find? (g.isCharOf b) with
  | none =>
    left
    refine ⟨rfl, ?_⟩
    intro k hk
    rw [List.find?_eq_none] at hf
    simpa using hf k (List.mem_range.mpr hk)
  | some k =>
    right
    have h1 := List.find?_some hf
    have h2 := List.mem_of_find?_eq_some hf
    exact ⟨List.mem_range.mp h2, h1⟩

theorem charToTerm_ne_zero {g : Grammar} {t : Table} (hc : SingleChar g t) (b : Nat) : charToTerm g b ≠ 0 := by
  rcases charToTerm_spec g b with ⟨h, _⟩ | ⟨_, h⟩
  · have := hc.nterms_pos; omega
  · exact (isCharOf_iff.mp h).1

theorem charToTerm_eq_iff {g : Grammar} {t : Table} (hc : SingleChar g t) (b k : Nat) (hk : k < g.nterms)
    (hk0 : k ≠ 0) : charToTerm g b = k ↔ g.termByte k = some b := by
  constructor
  · intro h
    rcases charToTerm_spec g b with ⟨h1, _⟩ | ⟨_, h1⟩
    · omega
    · exact (isCharOf_iff.mp (h ▸ h1)).2
  · intro h
    rcases charToTerm_spec g b with ⟨_, h1⟩ | ⟨h0, h1⟩
    · exact absurd (isCharOf_iff.mpr ⟨hk0, h⟩) (by rw [h1 k hk]; nofun)
    · obtain ⟨h10, h1b⟩ := isCharOf_iff.mp h1
      exact hc.distinct _ _ h0 hk h10 hk0 (by rw [h1b, h])

def toksFrom (g : Grammar) (input : List Nat) (pos : Nat) : List Nat :=
  (input.drop pos).map (charToTerm g)

/-- STOP is empty, every other token is one byte -/
def tokLen (input : List Nat) (pos : Nat) : Nat := if input.length ≤ pos then 0 else 1

theorem tokLen_of_lt {input : List Nat} {pos : Nat} (h : pos < input.length) : tokLen input pos = 1 :=
  if_neg (Nat.not_le.mpr h)

theorem tokEnd_pos (input : List Nat) (p : Pos) :
    (posAfter (sliceOf input (p.pos, tokLen input p.pos)) p).pos = p.pos + tokLen input p.pos := by
  rw [posAfter_pos, sliceOf, List.length_take, List.length_drop, Nat.min_eq_left]
  unfold tokLen
  split
  · exact Nat.zero_le _
  · rename_i h
    exact Nat.sub_pos_of_lt (Nat.lt_of_not_le h)

theorem toksFrom_nil {g : Grammar} {input : List Nat} {pos : Nat} (h : input.length ≤ pos) :
    toksFrom g input pos = [] := by
  unfold toksFrom; rw [List.drop_eq_nil_of_le h]; rfl

theorem toksFrom_cons {g : Grammar} {input : List Nat} {pos : Nat} (h : pos < input.length) :
    toksFrom g input pos = charToTerm g input[pos] :: toksFrom g input (pos + 1) := by
  unfold toksFrom
  rw [List.drop_eq_getElem_cons h]
  rfl

theorem charRecog_eq {g : Grammar} {t : Table} (hc : SingleChar g t) (input : List Nat) (pos k : Nat)
    (hk : k < g.nterms) :
    charRecog g input k pos =
      if k = lookahead (toksFrom g input pos) then some (tokLen input pos) else none := by
  rcases Nat.lt_or_ge pos input.length with hp | hp
  · rw [toksFrom_cons hp]
    show _ = if k = charToTerm g input[pos] then _ else _
    have hget : input[pos]? = some input[pos] := List.getElem?_eq_getElem hp
    have hnle : ¬ input.length ≤ pos := by omega
    by_cases hk0 : k = 0
    · subst hk0
      rw [if_neg (Ne.symm (charToTerm_ne_zero hc _))]
      simp [charRecog, hnle]
    · obtain ⟨b, hb⟩ := hc.byte k hk hk0
      have hiff := charToTerm_eq_iff hc input[pos] k hk hk0
      simp only [charRecog, hk0, ↓reduceIte, hb, hget, Option.some.injEq, tokLen, hnle]
      by_cases h : k = charToTerm g input[pos]
      · rw [if_pos h, if_pos (Option.some.inj ((hiff.mp h.symm).symm.trans hb))]
      · rw [if_neg h, if_neg fun (he : input[pos] = b) => h (hiff.mpr (he ▸ hb)).symm]
  · rw [toksFrom_nil hp]
    show _ = if k = 0 then _ else _
    by_cases hk0 : k = 0
    · subst hk0
      simp [charRecog, hp, tokLen]
    · obtain ⟨b, hb⟩ := hc.byte k hk hk0
      have : input[pos]? = none := List.getElem?_eq_none hp
      simp [charRecog, hk0, hb, this]

def tokAt (env : Env) (pos : Pos) (a : Nat) : Tok :=
  ⟨a, (pos.pos, tokLen env.input pos.pos),
    ⟨pos, posAfter (sliceOf env.input (pos.pos, tokLen env.input pos.pos)) pos⟩⟩

theorem iter_ne_nil (env : Env) (pos : Pos) :
    ∀ (L : List (Nat × Bool)), (∃ e ∈ L, env.recog e.1 pos.pos ≠ none) →
      tokenIterAux env pos false L ≠ [] := by
  intro L
  induction L with
  | nil => intro ⟨e, he, _⟩; simp at he
  | cons e rest ih =>
    intro ⟨e', he', hne⟩
    obtain ⟨k, fin⟩ := e
    unfold tokenIterAux
    cases hk : env.recog k pos.pos with
    | some l => simp
    | none =>
      simp only [Bool.and_false, Bool.false_eq_true, ↓reduceIte]
      apply ih
      simp only [List.mem_cons] at he'
      rcases he' with rfl | he'
      · exact absurd hk hne
      · exact ⟨e', he', hne⟩

theorem tokenIter_sorted (env : Env)
    (hrec : ∀ k pos, k < env.g.nterms → pos ≤ env.input.length → env.recog k pos = charRecog env.g env.input k pos)
    (hc : SingleChar env.g env.t) (s : Nat) (pos : Pos) (hle : pos.pos ≤ env.input.length) (a : Nat)
    (ha : a = lookahead (toksFrom env.g env.input pos.pos)) :
    (∀ x ∈ tokenIter env pos (env.t.sorted s), x = tokAt env pos a) ∧
    (tokenIter env pos (env.t.sorted s) = [] ↔ env.t.cell s a = []) := by
  -- a listed terminal has a cell, so it is a terminal and its recognizer is `charRecog`
  have hspec : ∀ e ∈ env.t.sorted s,
      env.recog e.1 pos.pos = if e.1 = a then some (tokLen env.input pos.pos) else none := by
    intro e hmem
    have hne := (hc.sorted_cell s e.1).mp (List.mem_map_of_mem hmem)
    have hlt : e.1 < env.g.nterms := Nat.lt_of_not_le fun h => hne (hc.cells_lt s e.1 h)
    rw [hrec _ _ hlt hle, ha]
    exact charRecog_eq hc env.input pos.pos e.1 hlt
  have hpre := iter_prefix env pos (env.t.sorted s) false
  refine ⟨?_, ?_, ?_⟩
  · intro x hx
    obtain ⟨e, hmem, hf⟩ := List.mem_filterMap.mp (hpre.subset hx)
    rw [hspec e hmem] at hf
    split at hf
    · rename_i hea
      rw [← hea]
      exact (Option.some.inj hf).symm
    · cases hf
  · intro hnil
    apply Decidable.byContradiction
    intro hcell
    obtain ⟨e, hmem, hea⟩ := List.mem_map.mp ((hc.sorted_cell s a).mpr hcell)
    exact iter_ne_nil env pos _ ⟨e, hmem, by rw [hspec e hmem, if_pos hea]; simp⟩ hnil
  · intro hcell
    have hnone : ∀ e ∈ env.t.sorted s, env.recog e.1 pos.pos = none := fun e hmem => by
      exact (hspec e hmem).trans
        (if_neg fun hea : e.1 = a => (hc.sorted_cell s a).mp (hea ▸ List.mem_map_of_mem hmem) hcell)
    rwa [List.filterMap_eq_nil_iff.mpr fun e hmem => by rw [hnone e hmem]; rfl, List.prefix_nil] at hpre

theorem filter_maxLen_all_eq (tk : Tok) (toks : List Tok) (h : ∀ x ∈ toks, x = tk) :
    toks.filter (fun t => t.val.2 == maxLen toks) = toks := by
  rw [List.filter_eq_self]
  intro y hy
  obtain ⟨u, hu, hmax⟩ := exists_foldl_max (fun t : Tok => t.val.2) (List.ne_nil_of_mem hy)
  rw [beq_iff_eq, maxLen, ← hmax, h u hu, h y hy]

theorem pickToken_all_eq (longest : Bool) (tk : Tok) (toks : List Tok) (hne : toks ≠ [])
    (h : ∀ x ∈ toks, x = tk) : pickToken longest toks = some tk := by
  unfold pickToken
  rw [filter_maxLen_all_eq tk toks h, ite_self]
  cases toks with
  | nil => exact absurd rfl hne
  | cons x rest => rw [h x List.mem_cons_self]; rfl

/-- the environments the simulation is about: the default string lexer with the recognizers of a single-character grammar (on
    every terminal and every offset up to the end of the input: all the lexer ever asks for); whitespace skipping off, or on
    with nothing to skip.  `charEnvOk` (Model/LexTok.lean) decides it. -/
structure CharEnv (env : Env) : Prop where
  recog : ∀ k pos, k < env.g.nterms → pos ≤ env.input.length →
    env.recog k pos = charRecog env.g env.input k pos
  custom : env.custom = none
  skip : env.skipWs = false ∨ noWsBytes env.input = true

theorem charEnvOk_sound (env : Env) (h : charEnvOk env = true) : CharEnv env := by
  unfold charEnvOk at h
  simp only [Bool.and_eq_true, List.all_eq_true, List.mem_range, beq_iff_eq, Bool.or_eq_true,
    Bool.not_eq_true', Option.isNone_iff_eq_none] at h
  obtain ⟨⟨h1, h2⟩, h3⟩ := h
  exact ⟨fun k pos hk hp => h1 k hk pos (by omega), h2, h3⟩

structure CharEnvWs (env : Env) : Prop where
  recog : ∀ k pos, k < env.g.nterms → pos ≤ env.input.length →
    env.recog k pos = charRecog env.g env.input k pos
  custom : env.custom = none

-- trap: `fun_cases wsCharLen` declares auxiliary constants where it is first used, and two modules that each declare them
-- cannot be imported together: every module that uses it imports Proofs/StringLexer.lean, which does
theorem wsCharLen_zero (bs : List Nat) (h : ∀ b ∈ bs, wsStart b = false) : wsCharLen bs = 0 := by
  -- the numbered branches find a character (first byte 09–0D/20, C2, E1, E2 80, E2 81, E3)
  fun_cases wsCharLen bs
  case case2 hb =>
    have := h _ List.mem_cons_self
    simp only [wsStart, Bool.or_eq_false_iff, Bool.and_eq_false_iff, decide_eq_false_iff_not,
      beq_eq_false_iff_ne] at this
    omega
  case case3 => exact absurd (h _ List.mem_cons_self) (by decide)
  case case6 => exact absurd (h _ List.mem_cons_self) (by decide)
  case case8 => exact absurd (h _ List.mem_cons_self) (by decide)
  case case10 => exact absurd (h _ List.mem_cons_self) (by decide)
  case case12 => exact absurd (h _ List.mem_cons_self) (by decide)
  all_goals rfl

theorem wsPrefixLen_noWs {input : List Nat} (h : noWsBytes input = true) (p : Nat) :
    wsPrefixLen (input.drop p).length (input.drop p) = 0 := by
  cases hl : (input.drop p).length with
  | zero => rfl
  | succ n =>
    unfold wsPrefixLen
    have : wsCharLen (input.drop p) = 0 := by
      apply wsCharLen_zero
      intro b hb
      unfold noWsBytes at h
      rw [List.all_eq_true] at h
      simpa using h b (List.mem_of_mem_drop hb)
    simp [this]

theorem lexPos_noskip (env : Env) (h : env.skipWs = false ∨ noWsBytes env.input = true) (p : Pos) :
    lexPos env p = p := by
  rw [lexPos_eq, wsAt]
  rcases h with h | h
  · rw [h]; exact posAfter_nil p
  · rw [wsPrefixLen_noWs h, ite_self]; exact posAfter_nil p

theorem nt_spec (env : Env) (he : CharEnv env) (hc : SingleChar env.g env.t) (fuel : Nat) (ctx : Ctx)
    (hle : ctx.pos.pos ≤ env.input.length) (hs : ctx.state < env.t.states.size)
    (a : Nat) (ha : a = lookahead (toksFrom env.g env.input ctx.pos.pos)) :
    nextTokenMain env false fuel ctx = ({ ctx with lay := layAfter env ctx },
      if env.t.cell ctx.state a = [] then .err (.expected ctx.pos ((env.t.sorted ctx.state).map (·.1)))
      else .ok (tokAt env ctx.pos a)) := by
  obtain ⟨hall, hnil⟩ := tokenIter_sorted env he.recog hc ctx.state ctx.pos hle a ha
  rw [nextTokenMain_eq_base env hc.noLayout, nextTokenBase_string env he.custom, lexPos_noskip env he.skip]
  by_cases hcell : env.t.cell ctx.state a = []
  · rw [hnil.mpr hcell, if_pos hcell]
    simp only [pickToken, List.filter_nil, List.head?_nil, ite_self]
    rcases noToken_spec env false { ctx with lay := layAfter env ctx } with ⟨h, _⟩ | ⟨h, _⟩ | ⟨_, h⟩
    · cases h
    · exact absurd h (hc.sorted_ne _ hs)
    · exact h
  · rw [pickToken_all_eq env.longest _ _ (mt hnil.mp hcell) hall, if_neg hcell]

end Rustemo
