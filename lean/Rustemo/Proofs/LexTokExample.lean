import Rustemo.Model.LexTok
import Rustemo.Props.Example
import Rustemo.Proofs.ViableExample
/-! Concrete single-character environments for the non-vacuity `example`s of the byte/token theorems:
the two example grammars with their terminal records (string recognizers `'a'`, … as the real compiler
dumps them) and byte inputs lexed by `charRecog`. -/
namespace Rustemo.Example3

def mkTerm (name : String) (r : Option Recog) : Terminal := ⟨name, 10, .none, r, false, true⟩

/-- `S: 'a' S | EMPTY` with its terminals -/
def g1 : Grammar :=
  { Example.g with terms := #[mkTerm "STOP" none, mkTerm "Ta" (some (.str "a"))] }

/-- `S: 'a' A 'c' | 'b' A 'd'; A: 'x'` with its terminals -/
def g2 : Grammar :=
  { Example2.g with
    terms := #[mkTerm "STOP" none, mkTerm "Ta" (some (.str "a")), mkTerm "Tb" (some (.str "b")),
               mkTerm "Tc" (some (.str "c")), mkTerm "Td" (some (.str "d")), mkTerm "Tx" (some (.str "x"))] }

/-- the default string lexer on `input`, whitespace skipping as given -/
def envOf (g : Grammar) (t : Table) (input : List Nat) (skipWs : Bool) : Env :=
  { g := g, t := t, input := input, recog := charRecog g input, skipWs := skipWs }

/-- "axc" -/
def axc : List Nat := [97, 120, 99]
/-- "axd" -/
def axd : List Nat := [97, 120, 100]
/-- "a?c": `?` is no terminal's character -/
def aqc : List Nat := [97, 63, 99]

/-- error outcome as data (for `decide`): byte offset and expected kinds -/
def errOf : Outcome ParseResult → Option (Nat × List Nat)
  | .err (.expected p ks) => some (p.pos, ks)
  | _ => none

end Rustemo.Example3
