import Rustemo.Proofs.LexTok
import Rustemo.Proofs.LRSound
import Rustemo.Proofs.TLR
/-!
C01 on bytes: on single-character terminals the byte-level LR parser is the token-level one.  `Sim c tc`: the same state stack,
the lexer stands at the byte offset of the first remaining token, and the token ahead is that token, already known to have a
non-empty cell.  `step` then does to its stacks what `tstep` does (`step_core`) and afterwards lexes the next token against the new top state
(`Ready`), succeeding iff `tstep` would not report an error next (`nt_spec`).  The byte-level loop lexes at the end of an
iteration, the token-level one at the beginning of the next: an error shows one unit of fuel earlier at the byte level, hence
the two token-level results (`fuel`, `fuel + 1`) in `Agree`.
-/

namespace Rustemo

structure Sim (env : Env) (c : Cfg) (tc : TCfg) : Prop where
  states : c.stack.map (·.state) = tc.c.stack.map (·.1) ++ [0]
  res : c.res.length = tc.c.stack.length
  cstate : c.ctx.state = topOf 0 tc.c.stack
  le : c.ctx.pos.pos ≤ env.input.length
  rest : tc.rest = toksFrom env.g env.input c.ctx.pos.pos
  tok : c.tok = tokAt env c.ctx.pos (lookahead tc.rest)
  cell : env.t.cell (topOf 0 tc.c.stack) (lookahead tc.rest) ≠ []

/-- `Sim` without the token ahead: the byte-level loop is about to lex in `ctx` -/
structure Ready (env : Env) (stack : List StackItem) (res : List Tree) (ctx : Ctx) (tc : TCfg) : Prop where
  same : SameStates 0 stack res tc.c.stack
  cstate : ctx.state = topOf 0 tc.c.stack
  range : ctx.state < env.t.states.size
  le : ctx.pos.pos ≤ env.input.length
  rest : tc.rest = toksFrom env.g env.input ctx.pos.pos

theorem act_sim (env : Env) (hc : SingleChar env.g env.t) (nt : Ctx → Ctx × Outcome Tok)
    (c : Cfg) (tc : TCfg) (hsim : Sim env c tc) :
    match tstep env.g env.t tc with
    | .next tc' =>
      ∃ hist stack res slice keep ctx1, step env nt c = liftTok hist stack res slice (nt ctx1) keep ∧
        Ready env stack res ctx1 tc'
    | .accept _ => ∃ ctx r, step env nt c = .done ctx r
    | .panic _ => ∃ ctx m, step env nt c = .stop ctx (.panic m)
    | .error _ _ => False := by
  obtain ⟨hstates, hres, -, hle, hrest, htok, hcell⟩ := hsim
  have hss : SameStates 0 c.stack c.res tc.c.stack := ⟨hstates, hres⟩
  have hkind : c.tok.kind = lookahead tc.rest := by rw [htok]; rfl
  have hcore := step_core env nt Tree.tok Tree.mk hss
  unfold tstep
  rw [← hkind] at hcell
  simp only [← hkind, if_neg hcell, cstep]
  generalize step env nt c = S, cstepWith env.g env.t 0 Tree.tok Tree.mk tc.c c.tok.kind = K at hcore
  cases hcore with
  | noAction h0 => exact absurd h0 hcell
  | shift s' acts hc' =>
    dsimp only
    cases hr : tc.rest with
    | nil =>
      have hm : Action.shift s' ∈ env.t.cell (topOf 0 tc.c.stack) c.tok.kind := hc' ▸ List.mem_cons_self
      rw [hkind, hr] at hm
      exact absurd hm (hc.noShiftStop _ s')
    | cons a rest' =>
      have hlt : c.ctx.pos.pos < env.input.length := by
        rcases Nat.lt_or_ge c.ctx.pos.pos env.input.length with h | h
        · exact h
        · rw [hr, toksFrom_nil h] at hrest; cases hrest
      rw [hr, toksFrom_cons hlt] at hrest
      have hpos : (posAfter (sliceOf env.input c.tok.val) c.ctx.pos).pos = c.ctx.pos.pos + 1 := by
        rw [htok]; exact (tokEnd_pos _ _).trans (by rw [tokLen_of_lt hlt])
      exact ⟨_, _, _, _, _, _, rfl, hss.push s' _ _ _, rfl,
        hc.shift_range _ _ s' (hc' ▸ List.mem_cons_self), hpos ▸ hlt, hpos ▸ (List.cons.inj hrest).2⟩
  | reduce p len s' pr acts _ hlen _ hgoto =>
    exact ⟨_, _, _, _, _, _, rfl, (hss.drop hlen).push s' _ _ _, rfl,
      hc.goto_range _ _ s' hgoto, hle, hrest⟩
  | accept => exact ⟨_, _, rfl⟩
  | panic => exact ⟨_, _, rfl⟩

theorem liftTok_ok (hist : List Tok) (stack : List StackItem) (res : List Tree) (slice : Option Slice) (ctx : Ctx)
    (tk : Tok) (keep : Option (Option Slice × Nat)) :
    ∃ ctx', liftTok hist stack res slice (ctx, .ok tk) keep = .next ⟨stack, res, slice, ctx', tk, hist⟩ ∧
      ctx'.pos = ctx.pos ∧ ctx'.state = ctx.state := by
  cases keep with
  | none => exact ⟨ctx, rfl, rfl, rfl⟩
  | some lp => exact ⟨_, rfl, rfl, rfl⟩

/-- `r1`, `r2`: the token-level results for the same fuel and for one more unit -/
def Agree (t : Table) (len : Nat) (o : Outcome ParseResult) (r1 r2 : TResult) : Prop :=
  match o with
  | .ok _ => ∃ tr, r1 = .accept tr
  | .err e => ∃ k s p, e = .expected p ((t.sorted s).map (·.1)) ∧ p.pos + k = len ∧
      r2 = .error k s ∧ (r1 = .fuel ∨ r1 = .error k s)
  | .panic _ => ∃ m, r1 = .panic m
  | .fuel => r1 = .fuel ∧ ∀ k s, r2 ≠ .error k s

/-- agreement from a lexer call on: the call that ends an iteration (then `ih` is the induction hypothesis of the
    loop) or the one that precedes the first -/
theorem lexed_agree (env : Env) (he : CharEnv env) (hc : SingleChar env.g env.t) (fuel n : Nat)
    (ih : ∀ c tc, Sim env c tc →
      Agree env.t env.input.length (runLoop env (nextTokenMain env false fuel) n c).2
        (trun env.g env.t n tc) (trun env.g env.t (n+1) tc))
    (hist : List Tok) (stack : List StackItem) (res : List Tree) (slice : Option Slice)
    (keep : Option (Option Slice × Nat)) (ctx1 : Ctx) (tc' : TCfg) (hr : Ready env stack res ctx1 tc') :
    Agree env.t env.input.length
      (match liftTok hist stack res slice (nextTokenMain env false fuel ctx1) keep with
        | .next c' => runLoop env (nextTokenMain env false fuel) n c'
        | .done ctx r => (ctx, .ok r)
        | .stop ctx o => (ctx, o)).2
      (trun env.g env.t n tc') (trun env.g env.t (n+1) tc') := by
  obtain ⟨hsame, hstate, hrange, hle, hrest⟩ := hr
  rw [nt_spec env he hc fuel ctx1 hle hrange (lookahead tc'.rest) (by rw [hrest])]
  by_cases hcell : env.t.cell (topOf 0 tc'.c.stack) (lookahead tc'.rest) = []
  · have he' : tstep env.g env.t tc' = _ := tstep_error_iff.mpr ⟨rfl, rfl, hcell⟩
    rw [if_pos (hstate ▸ hcell), hstate]
    refine ⟨tc'.rest.length, topOf 0 tc'.c.stack, ctx1.pos, rfl, ?_, ?_, ?_⟩
    · rw [hrest, toksFrom, List.length_map, List.length_drop]
      exact Nat.add_sub_of_le hle
    · simp only [trun, he']
    · cases n with
      | zero => left; rfl
      | succ n => right; simp only [trun, he']
  · obtain ⟨ctx'', hl, hpos', hst'⟩ := liftTok_ok hist stack res slice { ctx1 with lay := layAfter env ctx1 }
      (tokAt env ctx1.pos (lookahead tc'.rest)) keep
    have hp : ctx1.pos = ctx''.pos := hpos'.symm
    rw [if_neg (hstate ▸ hcell), hl]
    rw [hp] at hle hrest ⊢
    exact ih _ tc' ⟨hsame.states, hsame.res, hst'.trans hstate, hle, hrest, rfl, hcell⟩

theorem run_sim (env : Env) (he : CharEnv env) (hc : SingleChar env.g env.t) (fuel : Nat) :
    ∀ (n : Nat) (c : Cfg) (tc : TCfg), Sim env c tc →
      Agree env.t env.input.length (runLoop env (nextTokenMain env false fuel) n c).2
        (trun env.g env.t n tc) (trun env.g env.t (n+1) tc) := by
  intro n
  induction n with
  | zero =>
    -- no token-level error next: the token ahead has a cell
    intro c tc hsim
    refine ⟨rfl, fun k s h => hsim.cell ?_⟩
    exact (tstep_error_iff.mp (trun_one_error h)).2.2
  | succ n ih =>
    intro c tc hsim
    have hs := act_sim env hc (nextTokenMain env false fuel) c tc hsim
    cases h : tstep env.g env.t tc with
    | next tc' =>
      rw [h] at hs
      obtain ⟨hist, stack, res, slice, keep, ctx1, hstep, hr⟩ := hs
      have e1 : trun env.g env.t (n+1) tc = trun env.g env.t n tc' := by
        simp only [trun, h]
      have e2 : trun env.g env.t (n+1+1) tc = trun env.g env.t (n+1) tc' := by
        rw [trun]; simp only [h]
      have := lexed_agree env he hc fuel n ih hist stack res slice keep ctx1 tc' hr
      rw [← hstep] at this
      rw [e1, e2]
      exact this
    | accept tr =>
      rw [h] at hs
      obtain ⟨ctx, r, hstep⟩ := hs
      simp only [runLoop, hstep, Agree]
      exact ⟨tr, by simp only [trun, h]⟩
    | panic m =>
      rw [h] at hs
      obtain ⟨ctx, m', hstep⟩ := hs
      simp only [runLoop, hstep, Agree]
      exact ⟨m, by simp only [trun, h]⟩
    | error k' s' => rw [h] at hs; exact absurd hs id

def tokensOf (g : Grammar) (input : List Nat) : List Nat := input.map (charToTerm g)

theorem toksFrom_zero (g : Grammar) (input : List Nat) : toksFrom g input 0 = tokensOf g input := by
  simp [toksFrom, tokensOf]

theorem tokensOf_ne_zero {g : Grammar} {t : Table} (hc : SingleChar g t) (input : List Nat) :
    ∀ x ∈ tokensOf g input, x ≠ 0 := by
  intro x hx
  unfold tokensOf at hx
  rw [List.mem_map] at hx
  obtain ⟨b, _, rfl⟩ := hx
  exact charToTerm_ne_zero hc b

theorem agree_ok_iff {t : Table} {len : Nat} {o : Outcome ParseResult} {r1 r2 : TResult}
    (h : Agree t len o r1 r2) : (∃ r, o = .ok r) ↔ ∃ tr, r1 = .accept tr := by
  constructor
  · intro ⟨r, hr⟩; subst hr; exact h
  · intro ⟨tr, htr⟩
    subst htr
    cases o with
    | ok r => exact ⟨r, rfl⟩
    | err e =>
      obtain ⟨k, s, p, _, _, _, h4⟩ := h
      rcases h4 with h4 | h4 <;> simp at h4
    | panic m => obtain ⟨m', hm⟩ := h; simp at hm
    | fuel => simp [Agree] at h

end Rustemo
