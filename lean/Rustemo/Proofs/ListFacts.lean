/-!
Facts about `List`, `Array`, `Option` and `Bool` that mention nothing of the model and that Lean core does not have
in this form.
-/
namespace Rustemo

theorem lt_size_of_getElem? {α} {a : Array α} {i : Nat} {x : α} (h : a[i]? = some x) : i < a.size :=
  (Array.getElem?_eq_some_iff.mp h).1

theorem lt_length_of_getElem? {α} {l : List α} {i : Nat} {x : α} (h : l[i]? = some x) : i < l.length :=
  (List.getElem?_eq_some_iff.mp h).1

theorem getElem?_append_of_some {α} {l m : List α} {i : Nat} {x : α} (h : l[i]? = some x) : (l ++ m)[i]? = some x :=
  (List.getElem?_append_left (lt_length_of_getElem? h)).trans h

theorem getElem?_toList_map {α β : Type} (f : α → β) (xs : Array α) {i : Nat} (hi : i < xs.size) :
    (xs.toList.map f)[i]? = some (f xs[i]) := by
  rw [List.getElem?_map, Array.getElem?_toList, Array.getElem?_eq_getElem hi]; rfl

theorem getD_of_getElem? {α} {a : Array α} {i : Nat} {x : α} (h : a[i]? = some x) (d : α) : a.getD i d = x := by
  rw [Array.getD_eq_getD_getElem?, h]; rfl

theorem lt_size_of_getD_ne {α} {a : Array α} {i : Nat} {d : α} (h : a.getD i d ≠ d) :
    i < a.size :=
  Nat.lt_of_not_le fun hle => h (by simp [Array.getD, Nat.not_lt.mpr hle])

theorem getD_mem_toList {α} {a : Array α} {i : Nat} {d : α} (h : a.getD i d ≠ d) : a.getD i d ∈ a.toList := by
  have hlt := lt_size_of_getD_ne h
  rw [Array.getD, dif_pos hlt]
  exact Array.mem_toList_iff.mpr (Array.getElem_mem hlt)

theorem mem_toList_iff_getD {α} {a : Array α} {d x : α} (hx : x ≠ d) : x ∈ a.toList ↔ ∃ i, a.getD i d = x := by
  constructor
  · intro h
    obtain ⟨i, hi, hget⟩ := List.getElem_of_mem h
    simp only [Array.length_toList] at hi
    exact ⟨i, getD_of_getElem? (by rw [Array.getElem?_eq_getElem hi]; simpa using hget) d⟩
  · rintro ⟨i, rfl⟩
    exact getD_mem_toList hx

theorem not_getElem?_empty {α} {i : Nat} {x : α} (h : (#[] : Array α)[i]? = some x) : False := by
  simp at h

theorem getElem?_push_of_some {α} {a : Array α} {i : Nat} {x : α} (h : a[i]? = some x) (y : α) :
    (a.push y)[i]? = some x := by
  rw [Array.getElem?_push, if_neg (Nat.ne_of_lt (lt_size_of_getElem? h))]; exact h

theorem get_upd {α} {a : Array α} {i j : Nat} {x x' : α} (hi : a[i]? = some x) :
    (a.setIfInBounds i x')[j]? = if i = j then some x' else a[j]? := by
  rw [Array.getElem?_setIfInBounds]
  by_cases h : i = j
  · rw [if_pos h, if_pos h, if_pos (lt_size_of_getElem? hi)]
  · rw [if_neg h, if_neg h]

theorem get_upd_self {α} {a : Array α} {i : Nat} {x x' : α} (hi : a[i]? = some x) :
    (a.setIfInBounds i x')[i]? = some x' := by
  rw [get_upd hi, if_pos rfl]

theorem setIfInBounds_same {α} {a : Array α} {i : Nat} {x : α} (h : a[i]? = some x) : a.setIfInBounds i x = a := by
  apply Array.ext_getElem?
  intro j
  rw [get_upd h]
  by_cases hij : i = j
  · rw [if_pos hij, ← hij, h]
  · rw [if_neg hij]

theorem get_upd_cases {α} {a : Array α} {i j : Nat} {x' xj : α}
    (hj : (a.setIfInBounds i x')[j]? = some xj) : (j = i ∧ xj = x') ∨ (j ≠ i ∧ a[j]? = some xj) := by
  rw [Array.getElem?_setIfInBounds] at hj
  split at hj
  · rename_i h
    split at hj
    · exact .inl ⟨h.symm, (Option.some.inj hj).symm⟩
    · cases hj
  · rename_i h; exact .inr ⟨fun e => h e.symm, hj⟩

theorem get_push_cases {α} {a : Array α} {j : Nat} {x xj : α}
    (hj : (a.push x)[j]? = some xj) : (j = a.size ∧ xj = x) ∨ (j < a.size ∧ a[j]? = some xj) := by
  rw [Array.getElem?_push] at hj
  split at hj
  · rename_i h; exact .inl ⟨h, (Option.some.inj hj).symm⟩
  · exact .inr ⟨lt_size_of_getElem? hj, hj⟩

theorem forall_upd {α} {P : α → Prop} {a : Array α} (h : ∀ (i : Nat) (x : α), a[i]? = some x → P x)
    {i : Nat} {x' : α} (hp : P x') : ∀ (j : Nat) (xj : α), (a.setIfInBounds i x')[j]? = some xj → P xj := by
  intro j xj hj
  rcases get_upd_cases hj with ⟨_, rfl⟩ | ⟨_, hj⟩
  · exact hp
  · exact h j xj hj

theorem forall_push {α} {P : α → Prop} {a : Array α} (h : ∀ (i : Nat) (x : α), a[i]? = some x → P x)
    {x' : α} (hp : P x') : ∀ (j : Nat) (xj : α), (a.push x')[j]? = some xj → P xj := by
  intro j xj hj
  rcases get_push_cases hj with ⟨_, rfl⟩ | ⟨_, hj⟩
  · exact hp
  · exact h j xj hj

theorem drop_eq_cons_iff {α} {l r : List α} {i : Nat} {x : α} :
    l.drop i = x :: r ↔ l[i]? = some x ∧ l.drop (i + 1) = r := by
  rw [← List.head?_drop, ← List.tail_drop]
  cases l.drop i with
  | nil => exact ⟨nofun, nofun⟩
  | cons y ys => rw [List.head?_cons, List.tail_cons, List.cons.injEq, Option.some.injEq]

theorem cons_prefix_drop {α} {x : α} {xs l : List α} {d : Nat} (h : x :: xs <+: l.drop d) :
    l[d]? = some x ∧ xs <+: l.drop (d+1) := by
  obtain ⟨t, ht⟩ := h
  obtain ⟨h0, h1⟩ := drop_eq_cons_iff.mp ht.symm
  exact ⟨h0, t, h1.symm⟩

theorem drop_prefix_drop {α} {a b : List α} (h : a <+: b) (k : Nat) : a.drop k <+: b.drop k := by
  obtain ⟨t, ht⟩ := h
  rw [← ht]
  by_cases hk : k ≤ a.length
  · rw [List.drop_append_of_le_length hk]; exact List.prefix_append _ _
  · have : a.drop k = [] := List.drop_eq_nil_of_le (Nat.le_of_lt (Nat.not_le.mp hk))
    rw [this]; exact List.nil_prefix

theorem take_drop_prefix {α} (l : List α) (k i j : Nat) :
    (l.take i).drop k <+: (l.take j).drop k ∨ (l.take j).drop k <+: (l.take i).drop k := by
  rcases Nat.le_total i j with h | h
  · exact Or.inl (drop_prefix_drop (List.take_prefix_take_left h) k)
  · exact Or.inr (drop_prefix_drop (List.take_prefix_take_left h) k)

theorem getElem?_of_take {α : Type} {l : List α} {n i : Nat} {x : α} (h : (l.take n)[i]? = some x) : l[i]? = some x := by
  rw [List.getElem?_take] at h
  split at h
  · exact h
  · cases h

theorem first_diff {α : Type} (a b : List α) (h : ¬ (a <+: b ∨ b <+: a)) :
    ∃ (i : Nat) (x y : α), a[i]? = some x ∧ b[i]? = some y ∧ x ≠ y ∧ a.take i = b.take i := by
  induction a generalizing b with
  | nil => exact absurd (Or.inl List.nil_prefix) h
  | cons a as ih =>
    cases b with
    | nil => exact absurd (Or.inr List.nil_prefix) h
    | cons b bs =>
      by_cases hab : a = b
      · subst hab
        obtain ⟨i, x, y, h1, h2, h3, h4⟩ := ih bs fun hc => h <| hc.imp
          (fun hc => List.cons_prefix_cons.mpr ⟨rfl, hc⟩) (fun hc => List.cons_prefix_cons.mpr ⟨rfl, hc⟩)
        exact ⟨i + 1, x, y, h1, h2, h3, by rw [List.take_succ_cons, List.take_succ_cons, h4]⟩
      · exact ⟨0, a, b, rfl, rfl, hab, rfl⟩

theorem head_append_singleton {α} (l m : List α) (b : α) :
    ((l ++ m) ++ [b]).head? = (l ++ [((m ++ [b]).head?).getD b]).head? := by
  cases l with
  | nil => cases m <;> simp
  | cons x xs => simp

theorem foldl_max_eq_max? {α} (f : α → Nat) (l : List α) (init : Nat) :
    (init :: l.map f).max? = some (l.foldl (fun acc t => max acc (f t)) init) := by
  rw [List.max?_cons', List.foldl_map]

theorem foldl_max_spec {α} (f : α → Nat) (l : List α) (init : Nat) :
    init ≤ l.foldl (fun acc t => max acc (f t)) init ∧
    (∀ u ∈ l, f u ≤ l.foldl (fun acc t => max acc (f t)) init) ∧
    (l.foldl (fun acc t => max acc (f t)) init = init ∨
      ∃ u ∈ l, f u = l.foldl (fun acc t => max acc (f t)) init) := by
  obtain ⟨hm, hle⟩ := List.max?_eq_some_iff.mp (foldl_max_eq_max? f l init)
  refine ⟨hle _ List.mem_cons_self, fun u hu => hle _ (List.mem_cons_of_mem _ (List.mem_map_of_mem hu)), ?_⟩
  rcases List.mem_cons.mp hm with h | h
  · exact .inl h
  · obtain ⟨u, hu, e⟩ := List.mem_map.mp h
    exact .inr ⟨u, hu, e⟩

theorem exists_foldl_max {α} (f : α → Nat) {l : List α} (h : l ≠ []) :
    ∃ u ∈ l, f u = l.foldl (fun acc t => max acc (f t)) 0 := by
  rcases (foldl_max_spec f l 0).2.2 with h0 | h0
  · obtain ⟨x, hx⟩ := List.exists_mem_of_ne_nil _ h
    exact ⟨x, hx, Nat.le_antisymm ((foldl_max_spec f l 0).2.1 x hx) (Nat.le_trans (Nat.le_of_eq h0) (Nat.zero_le _))⟩
  · exact h0

theorem exists_max {α} (k : α → Nat) (S : List α) (h : S ≠ []) : ∃ x ∈ S, ∀ y ∈ S, k y ≤ k x := by
  obtain ⟨x, hx, e⟩ := exists_foldl_max k h
  exact ⟨x, hx, fun y hy => e ▸ (foldl_max_spec k S 0).2.1 y hy⟩

theorem mem_filter_foldl_max {α} (f : α → Nat) {l : List α} {t : α} :
    t ∈ l.filter (fun t => f t == l.foldl (fun acc t => max acc (f t)) 0) ↔ (t ∈ l ∧ ∀ u ∈ l, f u ≤ f t) := by
  rw [List.mem_filter, beq_iff_eq]
  have hle := (foldl_max_spec f l 0).2.1
  refine and_congr_right (fun hin => ⟨fun heq u hu => heq ▸ hle u hu, fun hmax => ?_⟩)
  obtain ⟨u, hu, h⟩ := exists_foldl_max f (List.ne_nil_of_mem hin)
  exact Nat.le_antisymm (hle t hin) (h ▸ hmax u hu)

theorem head?_iff_min {α : Type} (f : α → Nat) {L : List α} {a : α}
    (hp : L.Pairwise (fun x y => f x < f y)) :
    L.head? = some a ↔ (a ∈ L ∧ ∀ b ∈ L, f a ≤ f b) := by
  cases L with
  | nil => exact ⟨fun h => (nomatch h), fun h => absurd h.1 List.not_mem_nil⟩
  | cons x xs =>
    have hx := (List.pairwise_cons.mp hp).1
    rw [List.head?_cons, Option.some.injEq]
    constructor
    · rintro rfl
      refine ⟨List.mem_cons_self, fun b hb => ?_⟩
      rcases List.mem_cons.mp hb with rfl | h
      · exact Nat.le_refl _
      · exact Nat.le_of_lt (hx b h)
    · rintro ⟨ha, hmin⟩
      rcases List.mem_cons.mp ha with rfl | h
      · rfl
      · exact absurd (hmin x List.mem_cons_self) (Nat.not_le_of_lt (hx a h))

theorem all_of_uniform {α} {p : α → Bool} {l : List α} {x0 : α} {b : Bool} (hx : x0 ∈ l)
    (h : ∀ x ∈ l, p x = b) : l.all p = b := by
  cases b
  · exact List.all_eq_false.mpr ⟨x0, hx, by simp [h x0 hx]⟩
  · exact List.all_eq_true.mpr h

theorem filter_of_uniform {α} {p : α → Bool} {l : List α} {b : Bool} (h : ∀ x ∈ l, p x = b) :
    l.filter p = if b then l else [] := by
  cases b
  · exact List.filter_eq_nil_iff.mpr (fun x hx => by simp [h x hx])
  · exact List.filter_eq_self.mpr h

theorem filterMap_filter {α β} (f : α → Option β) (p : α → Bool) :
    ∀ (l : List α), (∀ x ∈ l, f x ≠ none → p x = true) → l.filterMap f = (l.filter p).filterMap f := by
  intro l
  induction l with
  | nil => exact fun _ => rfl
  | cons x xs ih =>
    intro h
    have ih := ih (fun y hy => h y (List.mem_cons_of_mem _ hy))
    rw [List.filterMap_cons, List.filter_cons]
    cases hf : f x with
    | none =>
      by_cases hp : p x = true
      · rw [if_pos hp, List.filterMap_cons, hf]; exact ih
      · rw [if_neg hp]; exact ih
    | some b =>
      have hp := h x List.mem_cons_self (by rw [hf]; simp)
      rw [if_pos hp, List.filterMap_cons, hf, ih]

theorem flatMap_congr {α β : Type} {f h : α → List β} {l : List α} (hs : ∀ a ∈ l, f a = h a) :
    l.flatMap f = l.flatMap h :=
  congrArg List.flatten (List.map_congr_left hs)

theorem eq_singleton_of_mem {α} {l : List α} {a : α} (hl : l.length ≤ 1) (ha : a ∈ l) : l = [a] := by
  match l, hl, ha with
  | [b], _, ha => simp at ha; subst ha; rfl
  | _ :: _ :: _, hl, _ => simp at hl

theorem find?_eq_some_of_unique {α : Type} (p : α → Bool) (x0 : α) (l : List α)
    (hm : x0 ∈ l) (hp : p x0 = true) (H : ∀ x ∈ l, p x = true → x = x0) : l.find? p = some x0 := by
  cases h : l.find? p with
  | none => exact absurd hp (List.find?_eq_none.mp h x0 hm)
  | some y => rw [H y (List.mem_of_find?_eq_some h) (List.find?_some h)]

theorem eq_of_nodup_map {α β} (f : α → β) {l : List α} (hn : (l.map f).Nodup) {a b : α}
    (ha : a ∈ l) (hb : b ∈ l) (e : f a = f b) : a = b :=
  have hp : l.Pairwise (fun x y => f x ≠ f y) := List.pairwise_map.mp hn
  List.Pairwise.forall_of_forall_of_flip (R := fun x y => f x = f y → x = y) (fun _ _ _ => rfl)
    (hp.imp fun h e => absurd e h) (hp.imp fun h e => absurd e.symm h) ha hb e

section
variable {α : Type} [BEq α] [LawfulBEq α] {l : List α}

theorem idxOf_getElem? (hn : l.Nodup) {i : Nat} {x : α} (h : l[i]? = some x) : l.idxOf x = i := by
  obtain ⟨hi, rfl⟩ := List.getElem?_eq_some_iff.mp h
  exact hn.idxOf_getElem i hi

theorem idxOf_append_left (m : List α) {x : α} (hx : x ∈ l) : (l ++ m).idxOf x = l.idxOf x := by
  rw [List.idxOf_append]; simp [hx]

theorem mem_of_idxOf_lt {v u : α} (h : l.idxOf v < l.idxOf u) : v ∈ l :=
  List.idxOf_lt_length_iff.mp (Nat.lt_of_lt_of_le h List.idxOf_le_length)

end

theorem idxOf_filter_range (P : Nat → Bool) (n p : Nat) (hlt : p < n) (hp : P p = true) :
    ((List.range n).filter P).idxOf p = ((List.range p).filter P).length := by
  -- `range n` is `range p`, then `p`, then larger numbers
  obtain ⟨k, rfl⟩ : ∃ k, n = p + 1 + k := ⟨n - (p + 1), by omega⟩
  have hnot : p ∉ (List.range p).filter P := fun h => by simpa using (List.mem_filter.mp h).1
  simp [List.range_add, List.range_succ, List.filter_append, List.idxOf_append, hp, hnot]

theorem mem_zipIdx_filter {α : Type} {l : List α} {keep : α × Nat → Bool} {x : α × Nat} :
    x ∈ l.zipIdx.filter keep ↔ l[x.2]? = some x.1 ∧ keep x = true := by
  rw [List.mem_filter, List.mem_zipIdx_iff_getElem?]

theorem zipIdx_filter_snd_inj {α : Type} (l : List α) (keep : α × Nat → Bool) :
    ∀ x ∈ l.zipIdx.filter keep, ∀ y ∈ l.zipIdx.filter keep, x.2 = y.2 → x = y := by
  intro x hx y hy h
  have h1 := (mem_zipIdx_filter.mp hx).1
  rw [h, (mem_zipIdx_filter.mp hy).1] at h1
  exact Prod.ext (Option.some.inj h1).symm h

theorem mem_of_find?_fst {κ ν : Type} [BEq κ] [LawfulBEq κ] {l : List (κ × ν)} {k : κ} {v : ν}
    (h : (l.find? (fun e => e.1 == k)).map (·.2) = some v) : (k, v) ∈ l := by
  obtain ⟨e, he, rfl⟩ := Option.map_eq_some_iff.mp h
  have hk := List.find?_some he
  rw [← eq_of_beq hk]
  exact List.mem_of_find?_eq_some he

theorem find?_fst_none {κ ν : Type} [BEq κ] [LawfulBEq κ] {l : List (κ × ν)} {k : κ}
    (h : (l.find? (fun e => e.1 == k)).map (·.2) = none) : ∀ x ∈ l, x.1 ≠ k := fun x hx heq =>
  absurd (beq_iff_eq.mpr heq) (List.find?_eq_none.mp (Option.map_eq_none_iff.mp h) x hx)

/-! ## `Ins`, `GetOrIns`: `insert` and `entry(k).or_insert(v)` of `BTreeMap` (modelled by sorted association lists) as relations

Where the new entry goes is decided by the order of the keys, which no proof needs: `Ins` forgets it. -/

section
variable {κ ν : Type} {k : κ} {v : ν} {l l' : List (κ × ν)} {x : κ × ν}

inductive Ins (k : κ) (v : ν) : List (κ × ν) → List (κ × ν) → Prop
  | here (l : List (κ × ν)) : Ins k v l ((k, v) :: l)
  | repl (v' : ν) (l : List (κ × ν)) : Ins k v ((k, v') :: l) ((k, v) :: l)
  | skip (y : κ × ν) (l l' : List (κ × ν)) : y.1 ≠ k → Ins k v l l' → Ins k v (y :: l) (y :: l')

theorem Ins.self (h : Ins k v l l') : (k, v) ∈ l' := by
  induction h with
  | here | repl => exact List.mem_cons_self
  | skip _ _ _ _ _ ih => exact List.mem_cons_of_mem _ ih

theorem Ins.mem (h : Ins k v l l') (hx : x ∈ l') : x = (k, v) ∨ x ∈ l := by
  induction h with
  | here => exact List.mem_cons.mp hx
  | repl => exact (List.mem_cons.mp hx).imp_right (List.mem_cons_of_mem _)
  | skip _ _ _ _ _ ih =>
    rcases List.mem_cons.mp hx with h1 | h1
    · exact Or.inr (h1 ▸ List.mem_cons_self)
    · exact (ih h1).imp_right (List.mem_cons_of_mem _)

theorem Ins.old (h : Ins k v l l') (hx : x ∈ l) (hne : x.1 ≠ k) : x ∈ l' := by
  induction h with
  | here => exact List.mem_cons_of_mem _ hx
  | repl =>
    rcases List.mem_cons.mp hx with h1 | h1
    · exact absurd (h1 ▸ rfl) hne
    · exact List.mem_cons_of_mem _ h1
  | skip _ _ _ _ _ ih =>
    rcases List.mem_cons.mp hx with h1 | h1
    · exact h1 ▸ List.mem_cons_self
    · exact List.mem_cons_of_mem _ (ih h1)

theorem Ins.pairwise (h : Ins k v l l') (hp : l.Pairwise (fun x y => x.1 ≠ y.1)) (hne : ∀ x ∈ l, x.1 ≠ k) :
    l'.Pairwise (fun x y => x.1 ≠ y.1) := by
  induction h with
  | here => exact List.pairwise_cons.mpr ⟨fun y hy => (hne y hy).symm, hp⟩
  | repl => exact absurd rfl (hne _ List.mem_cons_self)
  | skip _ _ _ hy hi ih =>
    have hp' := List.pairwise_cons.mp hp
    refine List.pairwise_cons.mpr ⟨fun z hz => ?_, ih hp'.2 fun x hx => hne x (List.mem_cons_of_mem _ hx)⟩
    rcases hi.mem hz with h1 | h1
    · exact h1 ▸ hy
    · exact hp'.1 z h1

inductive GetOrIns (k : κ) (v : ν) : Bool → List (κ × ν) → List (κ × ν) → Prop
  | found (l : List (κ × ν)) : (k, v) ∈ l → GetOrIns k v false l l
  | added (l l' : List (κ × ν)) : (∀ x ∈ l, x.1 ≠ k) → Ins k v l l' → GetOrIns k v true l l'

variable {new : Bool}

theorem GetOrIns.self (h : GetOrIns k v new l l') : (k, v) ∈ l' := by
  cases h with
  | found _ h => exact h
  | added _ _ _ h => exact h.self

theorem GetOrIns.old (h : GetOrIns k v new l l') (hx : x ∈ l) : x ∈ l' := by
  cases h with
  | found => exact hx
  | added _ _ hk h => exact h.old hx (hk x hx)

theorem GetOrIns.mem (h : GetOrIns k v new l l') (hx : x ∈ l') : x ∈ l ∨ (new = true ∧ x = (k, v)) := by
  cases h with
  | found => exact Or.inl hx
  | added _ _ _ h => exact (h.mem hx).symm.imp_right fun e => ⟨rfl, e⟩

theorem GetOrIns.was (h : GetOrIns k v false l l') : (k, v) ∈ l := by
  cases h with
  | found _ h => exact h

theorem GetOrIns.fresh (h : GetOrIns k v true l l') : ∀ x ∈ l, x.1 ≠ k := by
  cases h with
  | added _ _ h _ => exact h

theorem GetOrIns.pairwise (h : GetOrIns k v new l l') (hp : l.Pairwise (fun x y => x.1 ≠ y.1)) :
    l'.Pairwise (fun x y => x.1 ≠ y.1) := by
  cases h with
  | found => exact hp
  | added _ _ hk h => exact h.pairwise hp hk

end

theorem bnot_or_iff {a c : Bool} : (!a || c) = true ↔ (a = true → c = true) := by cases a <;> simp

theorem or_bnot_iff {a c : Bool} : (c || !a) = true ↔ (a = true → c = true) := by cases a <;> simp

theorem bne_or_iff {α : Type} [BEq α] [LawfulBEq α] {a b : α} {c : Bool} :
    (a != b || c) = true ↔ (a = b → c = true) := by
  rw [bne, bnot_or_iff, beq_iff_eq]

end Rustemo

/-! ## `All2`: lists related elementwise

In `Front` because the statements about the grammar front end name it; the GLR forest uses it too. -/

namespace Rustemo.Front

inductive All2 {α β : Type} (R : α → β → Prop) : List α → List β → Prop
  | nil : All2 R [] []
  | cons {a : α} {b : β} {l : List α} {l' : List β} : R a b → All2 R l l' → All2 R (a :: l) (b :: l')

theorem All2.imp {α β : Type} {R S : α → β → Prop} (hi : ∀ a b, R a b → S a b) {l : List α} {l' : List β}
    (h : All2 R l l') : All2 S l l' := by
  induction h with
  | nil => exact .nil
  | cons hr _ ih => exact .cons (hi _ _ hr) ih

theorem All2.mem_right {α β : Type} {R : α → β → Prop} {l : List α} {l' : List β} (h : All2 R l l') :
    ∀ b, b ∈ l' → ∃ a, a ∈ l ∧ R a b := by
  induction h with
  | nil => exact fun _ hb => nomatch hb
  | cons hr _ ih =>
    intro b hb
    rcases List.mem_cons.mp hb with rfl | hb
    · exact ⟨_, List.mem_cons_self, hr⟩
    · obtain ⟨a, ha, hab⟩ := ih b hb
      exact ⟨a, List.mem_cons_of_mem _ ha, hab⟩

theorem All2.mem_left {α β : Type} {R : α → β → Prop} {l : List α} {l' : List β} (h : All2 R l l') (a : α)
    (ha : a ∈ l) : ∃ b, b ∈ l' ∧ R a b := by
  induction h with
  | nil => cases ha
  | cons hr _ ih =>
    rcases List.mem_cons.mp ha with rfl | ha
    · exact ⟨_, List.mem_cons_self, hr⟩
    · obtain ⟨b, hb, r⟩ := ih ha
      exact ⟨b, List.mem_cons_of_mem _ hb, r⟩

theorem All2.snoc {α β : Type} {R : α → β → Prop} {l : List α} {l' : List β} {a : α} {b : β}
    (h : All2 R l l') (r : R a b) : All2 R (l ++ [a]) (l' ++ [b]) := by
  induction h with
  | nil => exact .cons r .nil
  | cons hr _ ih => exact .cons hr ih

theorem All2.comp {α : Type} {R S T : α → α → Prop} {l1 l2 l3 : List α} (h12 : All2 R l1 l2) (h23 : All2 S l2 l3)
    (hc : ∀ a b c, R a b → S b c → T a c) : All2 T l1 l3 := by
  induction h12 generalizing l3 with
  | nil =>
    cases h23
    exact .nil
  | cons hab _ ih =>
    cases h23 with
    | cons hbc t2 => exact .cons (hc _ _ _ hab hbc) (ih t2)

theorem All2.length_eq {α β : Type} {R : α → β → Prop} {l : List α} {l' : List β} (h : All2 R l l') :
    l.length = l'.length := by
  induction h with
  | nil => rfl
  | cons _ _ ih => exact congrArg (· + 1) ih

theorem All2.get_right {α β : Type} {R : α → β → Prop} {l : List α} {l' : List β} (h : All2 R l l') :
    ∀ (i : Nat) b, l'[i]? = some b → ∃ a, l[i]? = some a ∧ R a b := by
  induction h with
  | nil => exact fun _ _ hb => nomatch hb
  | cons hr _ ih =>
    intro i b hb
    cases i with
    | zero =>
      cases hb
      exact ⟨_, rfl, hr⟩
    | succ i => exact ih i b hb

theorem All2.get_left {α β : Type} {R : α → β → Prop} {l : List α} {l' : List β} (h : All2 R l l') :
    ∀ (i : Nat) a, l[i]? = some a → ∃ b, l'[i]? = some b ∧ R a b := by
  induction h with
  | nil => exact fun _ _ ha => nomatch ha
  | cons hr _ ih =>
    intro i a ha
    cases i with
    | zero =>
      cases ha
      exact ⟨_, rfl, hr⟩
    | succ i => exact ih i a ha

theorem All2.refl {α : Type} {T : α → α → Prop} (h : ∀ a, T a a) : ∀ l, All2 T l l
  | [] => .nil
  | a :: l => .cons (h a) (All2.refl h l)

theorem All2.map_left {α β γ : Type} {R : γ → β → Prop} (f : α → γ) {as : List α} {bs : List β} :
    All2 R (as.map f) bs ↔ All2 (fun a b => R (f a) b) as bs := by
  induction as generalizing bs with
  | nil => exact ⟨fun h => by cases h; exact .nil, fun h => by cases h; exact .nil⟩
  | cons a as ih =>
    constructor
    · intro h
      cases h with
      | cons hr ht => exact .cons hr (ih.mp ht)
    · intro h
      cases h with
      | cons hr ht => exact .cons hr (ih.mpr ht)

end Rustemo.Front
