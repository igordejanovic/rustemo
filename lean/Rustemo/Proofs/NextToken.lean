import Rustemo.Proofs.LRLoop
/-!
What `next_token` answers, read off the model once: the ways `noToken`, `nextTokenBase` and `nextTokenMain` (`NtMain`)
return, with the equations for the branches that are used as rewrites, and what holds of every call with no hypothesis on
lexer, table or input: state and span are kept and the position only advances (`Ctx.Fwd`), partial parsing only adds
answers (`NtExt`), `noToken` and `nextTokenBase` never answer `.fuel` (`nextTokenMain` can, through the Layout sub-parse:
`NtMain.layFail`).
-/

namespace Rustemo

theorem skip_fwd (env : Env) (ctx : Ctx) : ctx.Fwd (skip env ctx) := by
  unfold skip
  simp only
  split
  · exact ⟨rfl, rfl, _, rfl⟩
  · exact ⟨rfl, rfl, .refl _⟩

theorem lexNext_fwd (env : Env) (ctx : Ctx) (exp : List (Nat × Bool)) : ctx.Fwd (lexNext env ctx exp).1 := by
  unfold lexNext
  split
  · exact ⟨rfl, rfl, .refl _⟩
  · simp only
    split
    · exact skip_fwd env ctx
    · exact ⟨rfl, rfl, .refl _⟩

theorem noToken_spec (env : Env) (pp : Bool) (ctx : Ctx) :
    (pp = true ∧ noToken env pp ctx = (ctx, .ok ⟨0, (ctx.pos.pos, 0), ctx.span⟩)) ∨
    (env.t.sorted ctx.state = [] ∧ noToken env pp ctx = (ctx, .panic "error_expected:expected[0]")) ∨
    ((env.t.sorted ctx.state).map (·.1) ≠ [] ∧
      noToken env pp ctx = (ctx, .err (.expected ctx.pos ((env.t.sorted ctx.state).map (·.1))))) := by
  unfold noToken
  simp only
  split
  · rename_i hpp
    exact .inl ⟨(Bool.and_eq_true_iff.mp hpp).1, rfl⟩
  · split
    · rename_i h; exact .inr (.inl ⟨List.map_eq_nil_iff.mp h, rfl⟩)
    · rename_i h; exact .inr (.inr ⟨fun e => h e, rfl⟩)

theorem noToken_ctx (env : Env) (pp : Bool) (ctx : Ctx) : (noToken env pp ctx).1 = ctx := by
  rcases noToken_spec env pp ctx with ⟨_, h⟩ | ⟨_, h⟩ | ⟨_, h⟩ <;> rw [h]

theorem noToken_fwd {env : Env} {pp : Bool} {c0 ctx' : Ctx} {o : Outcome Tok}
    (h : noToken env pp c0 = (ctx', o)) : c0.Fwd ctx' := by
  have := noToken_ctx env pp c0; rw [h] at this; subst this; exact .refl _

theorem noToken_eq_ok (env : Env) (pp : Bool) (ctx ctx' : Ctx) (tk : Tok)
    (h : noToken env pp ctx = (ctx', .ok tk)) : ctx' = ctx ∧ tk.kind = 0 ∧ pp = true := by
  rcases noToken_spec env pp ctx with ⟨hpp, e⟩ | ⟨_, e⟩ | ⟨_, e⟩ <;> rw [e] at h <;> cases h
  exact ⟨rfl, rfl, hpp⟩

theorem nextTokenBase_eq (env : Env) (pp : Bool) (ctx : Ctx) :
    nextTokenBase env pp ctx =
      match pickToken env.longest (lexNext env ctx (env.t.sorted ctx.state)).2 with
      | some tk => ((lexNext env ctx (env.t.sorted ctx.state)).1, .ok tk)
      | none => noToken env pp (lexNext env ctx (env.t.sorted ctx.state)).1 := rfl

theorem nextTokenBase_eq_cases {env : Env} {pp : Bool} {ctx ctx' : Ctx} {o : Outcome Tok}
    (h : nextTokenBase env pp ctx = (ctx', o)) :
    (∃ tk, pickToken env.longest (lexNext env ctx (env.t.sorted ctx.state)).2 = some tk ∧
      ctx' = (lexNext env ctx (env.t.sorted ctx.state)).1 ∧ o = .ok tk) ∨
    noToken env pp (lexNext env ctx (env.t.sorted ctx.state)).1 = (ctx', o) := by
  rw [nextTokenBase_eq] at h
  split at h
  · next tk hp => cases h; exact .inl ⟨tk, hp, rfl, rfl⟩
  · exact .inr h

theorem nextTokenBase_ctx (env : Env) (pp : Bool) (ctx : Ctx) :
    (nextTokenBase env pp ctx).1 = (lexNext env ctx (env.t.sorted ctx.state)).1 := by
  rw [nextTokenBase_eq]
  split
  · rfl
  · exact noToken_ctx env pp _

theorem nextTokenBase_fwd (env : Env) (pp : Bool) (ctx : Ctx) : ctx.Fwd (nextTokenBase env pp ctx).1 :=
  nextTokenBase_ctx env pp ctx ▸ lexNext_fwd env ctx _

inductive NtMain (env : Env) (pp : Bool) (fuel : Nat) (ctx1 : Ctx) (toks : List Tok) :
    Ctx → Outcome Tok → Prop where
  | tok (tk : Tok) (hpick : pickToken env.longest toks = some tk) : NtMain env pp fuel ctx1 toks ctx1 (.ok tk)
  | noLayout (ctx' : Ctx) (o : Outcome Tok) (hl : env.t.layoutState = none)
      (hn : noToken env pp ctx1 = (ctx', o)) (hpick : pickToken env.longest toks = none) :
      NtMain env pp fuel ctx1 toks ctx' o
  | skipped (ls : Nat) (cx : Ctx) (pr : ParseResult) (off len : Nat) (ctx' : Ctx) (o : Outcome Tok)
      (hl : env.t.layoutState = some ls) (hlp : layoutParse env ls ctx1 fuel = (cx, .ok pr))
      (hslice : pr.slice = some (off, len)) (hlen : len > 0)
      (hn : nextTokenBase env pp { cx with state := ctx1.state, span := ctx1.span, lay := some (off, len) } =
        (ctx', o)) (hpick : pickToken env.longest toks = none) : NtMain env pp fuel ctx1 toks ctx' o
  | back (ls : Nat) (cx : Ctx) (r : Outcome ParseResult) (ctx' : Ctx) (o : Outcome Tok)
      (hl : env.t.layoutState = some ls) (hlp : layoutParse env ls ctx1 fuel = (cx, r))
      (hn : noToken env pp { cx with state := ctx1.state, span := ctx1.span, pos := ctx1.pos } = (ctx', o)) :
      NtMain env pp fuel ctx1 toks ctx' o
  | layFail (ls : Nat) (cx : Ctx) (r : Outcome ParseResult) (o : Outcome Tok)
      (hl : env.t.layoutState = some ls) (hlp : layoutParse env ls ctx1 fuel = (cx, r))
      (hf : r.FailsAs o) (hne : ∀ e, r ≠ .err e) :
      NtMain env pp fuel ctx1 toks { cx with state := ctx1.state, span := ctx1.span } o

theorem nextTokenMain_eq_cases {env : Env} {pp : Bool} {fuel : Nat} {ctx ctx' : Ctx} {o : Outcome Tok}
    (h : nextTokenMain env pp fuel ctx = (ctx', o)) :
    NtMain env pp fuel (lexNext env ctx (env.t.sorted ctx.state)).1
      (lexNext env ctx (env.t.sorted ctx.state)).2 ctx' o := by
  unfold nextTokenMain at h
  generalize lexNext env ctx (env.t.sorted ctx.state) = lx at h ⊢
  obtain ⟨ctx1, toks⟩ := lx
  simp only at h ⊢
  split at h
  · rename_i tk hpick
    injection h with h1 h2
    subst h1 h2
    exact .tok tk hpick
  · rename_i hpick
    split at h
    · rename_i hl
      exact .noLayout ctx' o hl h hpick
    · rename_i ls hl
      generalize hlp : layoutParse env ls ctx1 fuel = lp at h
      obtain ⟨cx, r⟩ := lp
      simp only at h
      split at h
      · rename_i pr
        split at h
        · rename_i off len hslice
          split at h
          · rename_i hlen
            exact .skipped ls cx pr off len ctx' o hl hlp hslice hlen h hpick
          · exact .back ls cx _ ctx' o hl hlp h
        · exact .back ls cx _ ctx' o hl hlp h
      · exact .back ls cx _ ctx' o hl hlp h
      all_goals
        injection h with h1 h2
        subst h1 h2
        exact .layFail ls cx _ _ hl hlp (by constructor) (by simp)

theorem nextTokenBase_tok {env : Env} {pp : Bool} {ctx : Ctx} {tk : Tok}
    (hpick : pickToken env.longest (lexNext env ctx (env.t.sorted ctx.state)).2 = some tk) :
    nextTokenBase env pp ctx = ((lexNext env ctx (env.t.sorted ctx.state)).1, .ok tk) := by
  rw [nextTokenBase_eq, hpick]

theorem nextTokenMain_tok {env : Env} {pp : Bool} {fuel : Nat} {ctx : Ctx} {tk : Tok}
    (hpick : pickToken env.longest (lexNext env ctx (env.t.sorted ctx.state)).2 = some tk) :
    nextTokenMain env pp fuel ctx = ((lexNext env ctx (env.t.sorted ctx.state)).1, .ok tk) := by
  unfold nextTokenMain
  generalize lexNext env ctx (env.t.sorted ctx.state) = lx at hpick ⊢
  obtain ⟨ctx1, toks⟩ := lx
  simp only at hpick ⊢
  simp only [hpick]

theorem nextTokenMain_eq_base (env : Env) (hl : env.t.layoutState = none) (pp : Bool) (fuel : Nat) :
    nextTokenMain env pp fuel = nextTokenBase env pp := by
  funext ctx
  unfold nextTokenMain nextTokenBase
  generalize lexNext env ctx (env.t.sorted ctx.state) = lx
  obtain ⟨ctx1, toks⟩ := lx
  simp only
  split
  · rfl
  · rw [hl]

theorem nextTokenMain_skipped {env : Env} {pp : Bool} {fuel : Nat} {ctx ctx1 cx : Ctx} {toks : List Tok}
    {ls off len : Nat} {pr : ParseResult}
    (hlx : lexNext env ctx (env.t.sorted ctx.state) = (ctx1, toks))
    (hpick : pickToken env.longest toks = none) (hl : env.t.layoutState = some ls)
    (hlp : layoutParse env ls ctx1 fuel = (cx, .ok pr)) (hslice : pr.slice = some (off, len))
    (hlen : len > 0) :
    nextTokenMain env pp fuel ctx =
      nextTokenBase env pp { cx with state := ctx1.state, span := ctx1.span, lay := some (off, len) } := by
  unfold nextTokenMain
  rw [hlx]
  simp only [hpick, hl, hlp, hslice, hlen, ↓reduceIte]

theorem layoutParse_eq (env : Env) (ls : Nat) (ctx : Ctx) (fuel : Nat) :
    layoutParse env ls ctx fuel = parseWith env (nextTokenBase env true) ls { ctx with state := ls } fuel := rfl

theorem layoutParse_after (env : Env) (ls : Nat) (ctx : Ctx) (fuel : Nat) :
    ctx.pos.After (layoutParse env ls ctx fuel).1.pos :=
  parseWith_after env _ (fun c => (nextTokenBase_fwd env true c).2.2) ls { ctx with state := ls } fuel

/-- `nextTokenMain_eq_cases` of the value itself -/
theorem nextTokenMain_cases (env : Env) (pp : Bool) (fuel : Nat) (ctx : Ctx) :
    NtMain env pp fuel (lexNext env ctx (env.t.sorted ctx.state)).1 (lexNext env ctx (env.t.sorted ctx.state)).2
      (nextTokenMain env pp fuel ctx).1 (nextTokenMain env pp fuel ctx).2 :=
  nextTokenMain_eq_cases (Prod.eta _).symm

theorem nextTokenMain_fwd (env : Env) (pp : Bool) (fuel : Nat) (ctx : Ctx) :
    ctx.Fwd (nextTokenMain env pp fuel ctx).1 := by
  have hinv := nextTokenMain_cases env pp fuel ctx
  have h1 : ctx.Fwd (lexNext env ctx (env.t.sorted ctx.state)).1 := lexNext_fwd env ctx _
  generalize (nextTokenMain env pp fuel ctx).1 = ctx', (nextTokenMain env pp fuel ctx).2 = o at hinv
  generalize lexNext env ctx (env.t.sorted ctx.state) = lx at hinv h1
  obtain ⟨ctx1, toks⟩ := lx
  have hlay : ∀ {ls cx r} (l : Option Slice), layoutParse env ls ctx1 fuel = (cx, r) →
      ctx1.Fwd { cx with state := ctx1.state, span := ctx1.span, lay := l } := fun {ls cx r} l hl =>
    ⟨rfl, rfl, by have := layoutParse_after env ls ctx1 fuel; rwa [hl] at this⟩
  cases hinv with
  | tok => exact h1
  | noLayout _ _ _ hn => exact h1.trans (noToken_fwd hn)
  | skipped ls cx pr off len _ _ hl hlp hslice hlen hn =>
    have := nextTokenBase_fwd env pp { cx with state := ctx1.state, span := ctx1.span, lay := some (off, len) }
    rw [hn] at this
    exact (h1.trans (hlay _ hlp)).trans this
  | back ls cx r _ _ hl hlp hn =>
    exact h1.trans (Ctx.Fwd.trans (b := { cx with state := ctx1.state, span := ctx1.span, pos := ctx1.pos })
      ⟨rfl, rfl, .refl _⟩ (noToken_fwd hn))
  | layFail ls cx r _ hl hlp hf hne => exact h1.trans (hlay cx.lay hlp)

theorem noToken_no_fuel (env : Env) (pp : Bool) (ctx : Ctx) : (noToken env pp ctx).2 ≠ .fuel := by
  rcases noToken_spec env pp ctx with ⟨_, h⟩ | ⟨_, h⟩ | ⟨_, h⟩ <;> rw [h] <;> nofun

theorem ntBase_no_fuel (env : Env) (pp : Bool) (ctx : Ctx) : (nextTokenBase env pp ctx).2 ≠ .fuel := by
  rw [nextTokenBase_eq]
  split
  · nofun
  · exact noToken_no_fuel env pp _

def NtExt (nt1 nt2 : Ctx → Ctx × Outcome Tok) : Prop :=
  ∀ ctx ctx' tk, nt1 ctx = (ctx', .ok tk) → nt2 ctx = (ctx', .ok tk)

theorem noToken_false_not_ok (env : Env) (ctx ctx' : Ctx) (tk : Tok) :
    noToken env false ctx ≠ (ctx', .ok tk) :=
  fun h => Bool.false_ne_true (noToken_eq_ok env false ctx ctx' tk h).2.2

theorem ntBase_partial_ext (env : Env) : NtExt (nextTokenBase env false) (nextTokenBase env true) := by
  intro ctx ctx' tk h
  rcases nextTokenBase_eq_cases h with ⟨tk', hpick, rfl, htk⟩ | h
  · exact Outcome.ok.inj htk ▸ nextTokenBase_tok hpick
  · exact absurd h (noToken_false_not_ok env _ _ _)

theorem ntMain_partial_ext (env : Env) (fuel : Nat) :
    NtExt (nextTokenMain env false fuel) (nextTokenMain env true fuel) := by
  intro ctx ctx' tk h
  have hinv := nextTokenMain_eq_cases h
  cases hinv with
  | tok _ hpick => exact nextTokenMain_tok hpick
  | noLayout _ _ _ hn => exact absurd hn (noToken_false_not_ok env _ _ _)
  | skipped ls cx pr off len _ _ hl hlp hslice hlen hn hpick =>
    rw [nextTokenMain_skipped rfl hpick hl hlp hslice hlen]
    exact ntBase_partial_ext env _ _ _ hn
  | back _ _ _ _ _ _ _ hn => exact absurd hn (noToken_false_not_ok env _ _ _)
  | layFail _ _ _ _ _ _ hf _ => exact absurd rfl (hf.not_ok tk)

end Rustemo
