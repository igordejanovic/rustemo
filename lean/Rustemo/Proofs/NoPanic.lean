import Rustemo.Proofs.LRSound
import Rustemo.Proofs.CertSound
/-!
C15, LR half.  Every `unwrap` / index / `split_off` of `lr/parser.rs`, `lr/builder.rs` and `error.rs` that the model
marks as `.panic site` is unreachable when the table passes the structural certificate and `Cert.total` (`Total`), for
any lexer that does not panic itself and leaves the state alone (`NtGood`).  The string lexer is such a lexer; under a
Layout rule it runs the LR loop on the layout automaton, whose safety is the hypothesis `Glr.LayoutSafe` (the GLR
engine's lexer asks the same).
-/

namespace Rustemo

def NotPanic {α} : Outcome α → Prop
  | .panic _ => False
  | _ => True

theorem NotPanic.ne_panic {α} {o : Outcome α} (h : NotPanic o) (site : String) : o ≠ .panic site :=
  fun e => by rw [e] at h; exact h

theorem Outcome.FailsAs.notPanic {α β : Type} {o' : Outcome α} {o : Outcome β} (h : o'.FailsAs o)
    (hn : NotPanic o') : NotPanic o := by
  cases h with
  | ofErr e => trivial
  | ofPanic s => exact hn
  | ofFuel => trivial

def NtGood (t : Table) (nt : Ctx → Ctx × Outcome Tok) : Prop :=
  ∀ ctx, ctx.state < t.states.size → NotPanic (nt ctx).2 ∧ (nt ctx).1.state = ctx.state

def StepNotPanic : StepOut → Prop
  | .stop _ o => NotPanic o
  | _ => True

theorem liftTok_notPanic {hist : List Tok} {stack : List StackItem} {res : List Tree}
    {slice : Option Slice} {r : Ctx × Outcome Tok} {k : Option (Option Slice × Nat)}
    (h : NotPanic r.2) : StepNotPanic (liftTok hist stack res slice r k) := by
  have hl := liftTok_spec hist stack res slice r k
  generalize liftTok hist stack res slice r k = out at hl
  cases out with
  | next | done => trivial
  | stop ctx o => exact hl.2.notPanic h

/-- a reduce entry finds the symbols before its dot on the stack and a goto below them (`path_lemma`, `Total`), an
    accept entry finds a tree; the states alone are looked at (`PathInv'`), so right-nulled tables (the engine's nested
    layout parser) are covered -/
theorem cstepWith_no_panic {g : Grammar} {t : Table} {autos : List Auto} (hs : StructuralRN g t autos)
    {au : Auto} (hin : au ∈ autos) (ht : Total g t au.start)
    (leafOf : Nat → Tree) (nodeOf : Nat → List Tree → Tree) {c : CCfg} {a : Nat}
    (hc : PathInv' g t au.start c.stack) (hne : t.cell (topOf au.start c.stack) a ≠ []) (m : String) :
    cstepWith g t au.start leafOf nodeOf c a ≠ .panic m := by
  cases hcell : t.cell (topOf au.start c.stack) a with
  | nil => exact absurd hcell hne
  | cons act acts =>
    have hmem : act ∈ t.cell (topOf au.start c.stack) a := hcell ▸ List.mem_cons_self
    cases act with
    | shift s' => rw [cstepWith_shift hcell]; nofun
    | reduce p len =>
      obtain ⟨hitem, pr, hpr, _, _⟩ := hs.reduce_item _ _ _ _ hmem
      obtain ⟨hlen, h0, _⟩ := path_lemma hs hin len c.stack p hc hitem
      obtain ⟨s', hgoto⟩ := ht.goto_total _ p pr h0 hpr (ht.no_reduce_aug _ _ _ _ hmem)
      rw [cstepWith_reduce hcell hlen hpr hgoto]; nofun
    | accept =>
      obtain ⟨au', _, _, _, _, hitem⟩ := hs.accept_item _ _ hmem
      obtain ⟨hlen, _⟩ := path_lemma hs hin 1 c.stack au'.aug hc hitem
      cases hst : c.stack with
      | nil => rw [hst] at hlen; exact absurd hlen (Nat.not_succ_le_zero 0)
      | cons e below => rw [cstepWith_accept hcell hst]; nofun

theorem step_no_panic (env : Env) (nt : Ctx → Ctx × Outcome Tok) {autos : List Auto}
    (hs : StructuralRN env.g env.t autos) {au : Auto} (hin : au ∈ autos) (ht : Total env.g env.t au.start)
    (hnt : NtGood env.t nt) (c : Cfg) (hf : FInv au.start c) (hc : PathInv' env.g env.t au.start c.abs.stack) :
    StepNotPanic (step env nt c) := by
  have hcore := step_core env nt Tree.tok Tree.mk (cc := c.abs) hf.sameStates
  have hnp := cstepWith_no_panic hs hin ht Tree.tok Tree.mk (a := c.tok.kind) hc
  generalize step env nt c = out, cstepWith env.g env.t au.start Tree.tok Tree.mk c.abs c.tok.kind = k at hcore hnp
  cases hcore with
  | noAction | accept => trivial
  | shift s' acts hcell => exact liftTok_notPanic (hnt _ (ht.shift_range _ _ s' (hcell ▸ List.mem_cons_self))).1
  | reduce p len s' pr acts hcell hlen hpr hgoto => exact liftTok_notPanic (hnt _ (ht.goto_range _ _ _ hgoto)).1
  | panic m m' hne => exact absurd rfl (hnp hne m')

/-- `CertInv` with the states alone: what the no-panic argument carries along a run, also of a right-nulled table -/
def StateInv (env : Env) (start : Nat) (c : Cfg) : Prop := FInv start c ∧ PathInv' env.g env.t start c.abs.stack

theorem stateInv_init (env : Env) (start : Nat) (sp : Span) (ctx : Ctx) (tk : Tok) :
    StateInv env start ⟨[⟨start, sp⟩], [], none, ctx, tk, []⟩ :=
  ⟨⟨by simp, by simp⟩, by simp [Cfg.abs, absStack, PathInvP]⟩

theorem step_stateInv (env : Env) (nt : Ctx → Ctx × Outcome Tok) {autos : List Auto}
    (hs : StructuralRN env.g env.t autos) {start : Nat} (c c' : Cfg) (h : StateInv env start c)
    (hstep : step env nt c = .next c') : StateInv env start c' := by
  obtain ⟨hf', leafOf, nodeOf, _, hcs⟩ := step_refines env nt start c c' h.1 hstep
  exact ⟨hf', cstep_preserves' hs h.2 hcs⟩

theorem parseWith_no_panic (env : Env) (nt : Ctx → Ctx × Outcome Tok) {autos : List Auto}
    (hs : StructuralRN env.g env.t autos) {au : Auto} (hin : au ∈ autos) (ht : Total env.g env.t au.start)
    (hnt : NtGood env.t nt) (ctx0 : Ctx) (h0 : ctx0.state < env.t.states.size) (fuel : Nat) :
    NotPanic (parseWith env nt au.start ctx0 fuel).2 := by
  generalize hres : parseWith env nt au.start ctx0 fuel = res
  obtain ⟨ctx, o⟩ := res
  rcases parseWith_end env nt _ (step_stateInv env nt hs) hres (fun _ _ _ => stateInv_init ..) with
    ⟨_, c, ⟨hf, hc⟩, hend⟩ | ⟨o', hnt1, hfail⟩
  · cases hend with
    | fuel => trivial
    | done _ => trivial
    | stop h =>
      have := step_no_panic env nt hs hin ht hnt c hf hc
      rw [h] at this
      exact this
  · have := (hnt ctx0 h0).1
    rw [hnt1] at this
    exact hfail.notPanic this

/-- no certificate and no invariant is involved, only the ranges `Cert.total` checks -/
theorem step_ctx_state (env : Env) (nt : Ctx → Ctx × Outcome Tok) {start : Nat} {c c' : Cfg}
    (ht : Total env.g env.t start) (hnt : NtGood env.t nt) (hstep : step env nt c = .next c') :
    c'.ctx.state < env.t.states.size := by
  cases step_eq_next env nt c c' hstep with
  | shift state s' acts ctx1 tk htop hcell hnt1 hc' =>
    have hrange := ht.shift_range state c.tok.kind s' (by rw [hcell]; exact List.mem_cons_self)
    have hst := (hnt (shiftCtx env c s') hrange).2
    rw [hnt1] at hst
    subst hc'
    show ctx1.state < _
    rw [hst]; exact hrange
  | reduce p len s' pr ctx1 tk hr hrlen hnt1 hc' =>
    obtain ⟨_, hgoto⟩ := hr.goto
    have hrange := ht.goto_range _ _ _ hgoto
    have hst := (hnt (reduceCtx c s') hrange).2
    rw [hnt1] at hst
    subst hc'
    show ctx1.state < _
    rw [hst]; exact hrange

theorem step_state_range (env : Env) (nt : Ctx → Ctx × Outcome Tok) (autos : List Auto) (au : Auto) (hin : au ∈ autos) (start : Nat) (hstart : start = au.start) (c c' : Cfg)
    (hs : Structural env.g env.t autos) (ht : Total env.g env.t start)
    (hnt : NtGood env.t nt) (hf : FInv start c) (hc : CInv env.g env.t start c.abs)
    (hstep : step env nt c = .next c') : c'.ctx.state < env.t.states.size :=
  step_ctx_state env nt ht hnt hstep

/-- `expected[0]` of the error message exists: no state has an empty row -/
theorem noToken_good (env : Env) {start : Nat} (ht : Total env.g env.t start) (pp : Bool) (ctx : Ctx)
    (hlt : ctx.state < env.t.states.size) : NotPanic (noToken env pp ctx).2 := by
  rcases noToken_spec env pp ctx with ⟨_, h⟩ | ⟨hnil, _⟩ | ⟨_, h⟩
  · rw [h]; trivial
  · exact absurd hnil (ht.sorted_lt hlt)
  · rw [h]; trivial

theorem ntGood_base (env : Env) {start : Nat} (ht : Total env.g env.t start) (pp : Bool) :
    NtGood env.t (nextTokenBase env pp) := by
  intro ctx hctx
  refine ⟨?_, (nextTokenBase_fwd env pp ctx).1⟩
  rw [nextTokenBase_eq]
  split
  · trivial
  · exact noToken_good env ht pp _ (by rw [(lexNext_fwd env ctx (env.t.sorted ctx.state)).1]; exact hctx)

namespace Glr

/-- the layout parser of the table never panics: a hypothesis of the no-panic theorems, LR and GLR, void without a
    Layout rule and otherwise discharged by `layoutSafe_of_rn` from the path facts of the structural certificate and
    `Cert.glrLayout` -/
def LayoutSafe (env : Env) : Prop :=
  ∀ ls, env.t.layoutState = some ls → ∀ ctx fuel, NotPanic (layoutParse env ls ctx fuel).2

theorem layoutSafe_of_rn (env : Env) (hs : StructuralRN env.g env.t (autosOf env.g env.t))
    (hlay : Cert.glrLayout env.g env.t = true) : LayoutSafe env := by
  intro ls hls ctx fuel
  obtain ⟨⟨au, hau, rfl⟩, hTl⟩ := Cert.glrLayout_sound hlay ls hls
  unfold layoutParse
  exact parseWith_no_panic env _ hs hau hTl (ntGood_base env hTl true) _ hTl.start_ok fuel

end Glr

theorem ntGood_main (env : Env) (ht : Total env.g env.t 0) (hlay : Glr.LayoutSafe env)
    (pp : Bool) (fuel : Nat) : NtGood env.t (nextTokenMain env pp fuel) := by
  intro ctx hctx
  refine ⟨?_, (nextTokenMain_fwd env pp fuel ctx).1⟩
  have hstate := (lexNext_fwd env ctx (env.t.sorted ctx.state)).1
  have hinv := nextTokenMain_cases env pp fuel ctx
  generalize (nextTokenMain env pp fuel ctx).1 = ctx', (nextTokenMain env pp fuel ctx).2 = o at hinv ⊢
  generalize lexNext env ctx (env.t.sorted ctx.state) = lx at hinv hstate
  obtain ⟨ctx1, toks⟩ := lx
  have hlt : ctx1.state < env.t.states.size := hstate ▸ hctx
  have hno : ∀ c0 : Ctx, c0.state = ctx1.state → noToken env pp c0 = (ctx', o) → NotPanic o := by
    intro c0 h0 hn
    have h1 := noToken_good env ht pp c0 (h0 ▸ hlt)
    rwa [hn] at h1
  cases hinv with
  | tok _ _ => trivial
  | noLayout _ _ _ hn => exact hno ctx1 rfl hn
  | skipped ls cx pr off len _ _ hl hlp hslice hlen hn =>
    have := ntGood_base env ht pp { cx with state := ctx1.state, span := ctx1.span, lay := some (off, len) } hlt
    rw [hn] at this
    exact this.1
  | back ls cx r _ _ hl hlp hn =>
    exact hno { cx with state := ctx1.state, span := ctx1.span, pos := ctx1.pos } rfl hn
  | layFail ls cx r _ hl hlp hf hne =>
    have hlp' := hlay ls hl ctx1 fuel
    rw [hlp] at hlp'
    exact hf.notPanic hlp'

theorem parse_no_panic (env : Env) (hs : StructuralRN env.g env.t (autosOf env.g env.t)) (ht : Total env.g env.t 0)
    (hlay : Glr.LayoutSafe env) (pp : Bool) (fuel : Nat) : NotPanic (parse env pp fuel).2 :=
  parseWith_no_panic env _ hs (mem_autosOf_main _ _) ht (ntGood_main env ht hlay pp fuel) {} ht.start_ok fuel

end Rustemo
