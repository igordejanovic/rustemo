import Rustemo.Model.LR
/-!
Positions: the arithmetic of `posAfter`; `posOf` with its closed form `Pos.spec` (`posOf_spec`); `Pos.After`; and `Ctx.Fwd`,
all that a call of `next_token` does to a context: state and span are kept and the position only advances.
-/

namespace Rustemo

theorem lastNl_lt : ∀ (l : List Nat) (i : Nat), lastNl l = some i → i < l.length
  | [], i, h => by simp [lastNl] at h
  | b :: rest, i, h => by
    unfold lastNl at h
    split at h
    · rename_i j hj
      have := lastNl_lt rest j hj
      injection h with h; subst h
      simp; omega
    · split at h
      · injection h with h; subst h; simp
      · simp at h

theorem lastNl_append (a b : List Nat) :
    lastNl (a ++ b) = match lastNl b with
      | some i => some (a.length + i)
      | none => lastNl a := by
  induction a with
  | nil => cases h : lastNl b <;> simp [h, lastNl]
  | cons x xs ih =>
    simp only [List.cons_append, lastNl]
    rw [ih]
    cases hb : lastNl b with
    | some i => simp only [List.length_cons, Option.some.injEq]; omega
    | none =>
      simp only

theorem posAfter_nil (p : Pos) : posAfter [] p = p := by
  simp [posAfter, lastNl]

theorem posAfter_append (s u : List Nat) (p : Pos) :
    posAfter (s ++ u) p = posAfter u (posAfter s p) := by
  unfold posAfter
  simp only [List.count_append, List.length_append, lastNl_append, Pos.mk.injEq]
  refine ⟨(Nat.add_assoc _ _ _).symm, (Nat.add_assoc _ _ _).symm, ?_⟩
  cases hu : lastNl u with
  | some i =>
    have := lastNl_lt u i hu
    simp only
    omega
  | none =>
    cases hs : lastNl s with
    | some j =>
      have := lastNl_lt s j hs
      simp only
      omega
    | none => exact (Nat.add_assoc _ _ _).symm

theorem posAfter_pos (bytes : List Nat) (p : Pos) : (posAfter bytes p).pos = p.pos + bytes.length := rfl

def lineStart (s : List Nat) : Nat :=
  match lastNl s with
  | some i => i + 1
  | none => 0

/-- the position the property prescribes for byte offset `off` of `input` -/
def Pos.spec (input : List Nat) (off : Nat) : Pos :=
  ⟨off, 1 + (input.take off).count 10, off - lineStart (input.take off)⟩

/-- the position the runtime computes for offset `off`: `position_after` of the prefix -/
def posOf (input : List Nat) (off : Nat) : Pos := posAfter (input.take off) Pos.start

theorem posOf_spec (input : List Nat) (off : Nat) (h : off ≤ input.length) :
    posOf input off = Pos.spec input off := by
  unfold posOf posAfter Pos.spec lineStart Pos.start
  have hl : (input.take off).length = off := by rw [List.length_take]; omega
  cases hs : lastNl (input.take off) with
  | some i => simp only [Pos.mk.injEq, hl]; refine ⟨by omega, trivial, by omega⟩
  | none => simp only [Pos.mk.injEq, hl]; refine ⟨by omega, trivial, by omega⟩

theorem posOf_pos (input : List Nat) (off : Nat) (h : off ≤ input.length) :
    (posOf input off).pos = off := by
  rw [posOf_spec input off h]; rfl

theorem posAfter_slice (input : List Nat) (off len : Nat) :
    posAfter (sliceOf input (off, len)) (posOf input off) = posOf input (off + len) := by
  unfold posOf sliceOf
  rw [← posAfter_append]
  congr 1
  simp only
  rw [← List.take_add]

/-- all that the lexer and a shift do to a position is `position_after` of some bytes, so every order that `posAfter`
    respects holds between the start and the end of a run -/
def Pos.After (p q : Pos) : Prop := ∃ bs, q = posAfter bs p

theorem Pos.After.refl (p : Pos) : p.After p := ⟨[], (posAfter_nil p).symm⟩

theorem Pos.After.trans {p q r : Pos} : p.After q → q.After r → p.After r
  | ⟨a, ha⟩, ⟨b, hb⟩ => ⟨a ++ b, by rw [posAfter_append, ← ha, hb]⟩

theorem Pos.After.le {p q : Pos} : p.After q → p.pos ≤ q.pos
  | ⟨_, h⟩ => h ▸ Nat.le_add_right _ _

/-- all that `next_token` does to state, span and position -/
def Ctx.Fwd (a b : Ctx) : Prop := b.state = a.state ∧ b.span = a.span ∧ a.pos.After b.pos

theorem Ctx.Fwd.refl (a : Ctx) : a.Fwd a := ⟨rfl, rfl, .refl _⟩

theorem Ctx.Fwd.trans {a b c : Ctx} (h1 : a.Fwd b) (h2 : b.Fwd c) : a.Fwd c :=
  ⟨h2.1.trans h1.1, h2.2.1.trans h1.2.1, h1.2.2.trans h2.2.2⟩

theorem Ctx.Fwd.le {a b : Ctx} (h : a.Fwd b) : a.pos.pos ≤ b.pos.pos := h.2.2.le

end Rustemo
