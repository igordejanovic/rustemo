import Rustemo.Model.Regen
import Rustemo.Proofs.ListFacts
/-!
Group by group `emit` writes the entries the specification calls missing (`emit_eq_spec`, under `NeededOk` and the variant's
precondition), so `regen v e n = e ++ missing e n`.  Idempotence needs no precondition: after one run every group finds its guard
defined (`emit_nil_after`).  The settings part follows `force` through the builder calls (`Keeps`).
-/
namespace Rustemo.Regen

def SetOp.isForce : SetOp → Bool
  | .force _ => true
  | _ => false

theorem typeNames_append (a b : List Item) : typeNames (a ++ b) = typeNames a ++ typeNames b := by
  simp [typeNames]

theorem fnNames_append (a b : List Item) : fnNames (a ++ b) = fnNames a ++ fnNames b := by
  simp [fnNames]

theorem isFn_of_isType {k : Kind} (h : k.isType = true) : k.isFn = false := by
  cases k <;> simp_all [Kind.isType, Kind.isFn]

theorem isType_of_isFn {k : Kind} (h : k.isFn = true) : k.isType = false := by
  cases k <;> simp_all [Kind.isType, Kind.isFn]

theorem definedIn_of_isType {i : Item} (tn fn : List String) (h : i.kind.isType = true) :
    i.definedIn tn fn = decide (i.name ∈ tn) := by
  simp [Item.definedIn, h, isFn_of_isType h]

theorem definedIn_of_isFn {i : Item} (tn fn : List String) (h : i.kind.isFn = true) :
    i.definedIn tn fn = decide (i.name ∈ fn) := by
  simp [Item.definedIn, h, isType_of_isFn h]

theorem ok_nt {g : String} {is : List Item} :
    (Group.nt g is).ok = true ↔ (∀ i ∈ is, i.kind.isType = true) ∧ ∃ i ∈ is, i.name = g := by
  simp [Group.ok]

theorem mem_typeNames {l : List Item} {s : String} :
    s ∈ typeNames l ↔ ∃ i ∈ l, i.kind.isType = true ∧ i.name = s := by
  simp [typeNames, and_assoc]

theorem mem_fnNames {l : List Item} {s : String} :
    s ∈ fnNames l ↔ ∃ i ∈ l, i.kind.isFn = true ∧ i.name = s := by
  simp [fnNames, and_assoc]

theorem typeNames_sublist {a b : List Item} (h : a.Sublist b) : (typeNames a).Sublist (typeNames b) :=
  (h.filter _).map _

theorem fnNames_sublist {a b : List Item} (h : a.Sublist b) : (fnNames a).Sublist (fnNames b) :=
  (h.filter _).map _

theorem spec_nt (tn fn : List String) (g : String) (is : List Item) :
    (((is.map (fun i => (⟨some g, i⟩ : Entry))).filter (Entry.isMissing tn fn)).map (·.item))
      = is.filter (fun i => Entry.isMissing tn fn ⟨some g, i⟩) := by
  simp [List.filter_map, Function.comp_def]

theorem emit_eq_spec (v : Variant) (tn fn : List String) (g : Group) (hok : g.ok = true)
    (hpre : v = .asIs → g.closed tn = true) :
    g.emit v tn fn = ((g.entries).filter (Entry.isMissing tn fn)).map (·.item) := by
  cases g with
  | ty i =>
    have ht : i.kind.isType = true := hok
    by_cases h : i.name ∈ tn <;>
      simp [Group.emit, Group.entries, Entry.isMissing, definedIn_of_isType tn fn ht, guardFree, h]
  | act i =>
    have hf : i.kind.isFn = true := hok
    by_cases h : i.name ∈ fn <;>
      simp [Group.emit, Group.entries, Entry.isMissing, definedIn_of_isFn tn fn hf, guardFree, h]
  | nt g is =>
    have hall := (ok_nt.mp hok).1
    simp only [Group.entries, spec_nt, Group.emit]
    by_cases hg : g ∈ tn
    · simp [hg, Entry.isMissing, guardFree]
    · -- with the guard free, a type item of the group is missing iff its own name is undefined
      have hmiss : ∀ i ∈ is, Entry.isMissing tn fn ⟨some g, i⟩ = !decide (i.name ∈ tn) := fun i hi => by
        simp [Entry.isMissing, definedIn_of_isType tn fn (hall i hi), guardFree, hg]
      rw [if_neg hg, List.filter_congr hmiss]
      cases v with
      | asIs =>
        have hc := hpre rfl
        simp only [Group.closed, hg, decide_false, Bool.false_or, List.all_eq_true] at hc
        exact (List.filter_eq_self.mpr hc).symm
      | fixed => exact List.filter_congr fun i hi => by simp [hall i hi]

theorem gen_eq_missing (v : Variant) (e : List Item) (n : List Group)
    (hok : NeededOk n) (hpre : v.Pre e n) :
    gen v (typeNames e) (fnNames e) n = missing e n := by
  unfold gen missing
  rw [List.filter_flatMap, List.map_flatMap]
  exact flatMap_congr fun g hg => emit_eq_spec v _ _ g (hok g hg) (fun hv => by subst hv; exact hpre g hg)

theorem regen_eq (v : Variant) (e : List Item) (n : List Group) (hok : NeededOk n) (hpre : v.Pre e n) :
    regen v e n = e ++ missing e n :=
  congrArg (e ++ ·) (gen_eq_missing v e n hok hpre)

theorem entries_items (g : Group) : g.entries.map (·.item) = g.items := by
  cases g <;> simp [Group.entries, Group.items, Function.comp_def]

theorem missing_sublist (e : List Item) (n : List Group) : (missing e n).Sublist (allItems n) := by
  have h : allItems n = (n.flatMap Group.entries).map (·.item) := by
    rw [List.map_flatMap]
    exact (flatMap_congr fun g _ => entries_items g).symm
  rw [h]
  exact List.filter_sublist.map _

theorem missing_fresh (e : List Item) (n : List Group) :
    ∀ x ∈ missing e n, x.definedIn (typeNames e) (fnNames e) = false := by
  intro x hx
  simp only [missing, List.mem_map, List.mem_filter] at hx
  obtain ⟨en, ⟨_, hm⟩, rfl⟩ := hx
  simp only [Entry.isMissing, Bool.and_eq_true, Bool.not_eq_true'] at hm
  exact hm.1

theorem nodup_names_append {q : Item → Bool} {a b : List Item}
    (ha : ((a.filter q).map (·.name)).Nodup) (hb : ((b.filter q).map (·.name)).Nodup)
    (hnew : ∀ x ∈ b, q x = true → x.name ∉ (a.filter q).map (·.name)) :
    (((a ++ b).filter q).map (·.name)).Nodup := by
  rw [List.filter_append, List.map_append, List.nodup_append]
  refine ⟨ha, hb, fun n hna m hmb hnm => ?_⟩
  obtain ⟨x, hx, rfl⟩ := List.mem_map.mp hmb
  exact hnew x (List.mem_filter.mp hx).1 (List.mem_filter.mp hx).2 (hnm ▸ hna)

theorem nodup_append_missing (e : List Item) (n : List Group)
    (hn : NoDupNames (allItems n)) (he : NoDupNames e) : NoDupNames (e ++ missing e n) := by
  have hfresh := missing_fresh e n
  have hsub := missing_sublist e n
  exact ⟨nodup_names_append he.1 ((typeNames_sublist hsub).nodup hn.1) fun x hx hq hmem => by
      simpa [definedIn_of_isType _ _ hq, typeNames, hmem] using hfresh x hx,
    nodup_names_append he.2 ((fnNames_sublist hsub).nodup hn.2) fun x hx hq hmem => by
      simpa [definedIn_of_isFn _ _ hq, fnNames, hmem] using hfresh x hx⟩

theorem emit_nil_after (v : Variant) (tn fn : List String) (n : List Group) (g : Group)
    (hg : g ∈ n) (hok : g.ok = true) :
    g.emit v (tn ++ typeNames (gen v tn fn n)) (fn ++ fnNames (gen v tn fn n)) = [] := by
  have hsub : ∀ x ∈ g.emit v tn fn, x ∈ gen v tn fn n := fun x hx =>
    List.mem_flatMap.mpr ⟨g, hg, hx⟩
  cases g with
  | ty i =>
    by_cases h : i.name ∈ tn
    · simp [Group.emit, h]
    · simp [Group.emit, mem_typeNames.mpr ⟨i, hsub i (by simp [Group.emit, h]), hok, rfl⟩]
  | act i =>
    by_cases h : i.name ∈ fn
    · simp [Group.emit, h]
    · simp [Group.emit, mem_fnNames.mpr ⟨i, hsub i (by simp [Group.emit, h]), hok, rfl⟩]
  | nt g is =>
    by_cases h : g ∈ tn
    · simp [Group.emit, h]
    · obtain ⟨hall, i, hi, hname⟩ := ok_nt.mp hok
      have hmem : i ∈ (Group.nt g is).emit v tn fn := by
        simp only [Group.emit, h, if_false]
        cases v with
        | asIs => simpa [ownFilter] using hi
        | fixed =>
          simp only [ownFilter, List.mem_filter]
          exact ⟨hi, by simp [hname, h]⟩
      simp [Group.emit, mem_typeNames.mpr ⟨i, hsub i hmem, hall i hi, hname⟩]

theorem gen_regen_nil (v : Variant) (e : List Item) (n : List Group) (hok : NeededOk n) :
    gen v (typeNames (regen v e n)) (fnNames (regen v e n)) n = [] := by
  simp only [regen, typeNames_append, fnNames_append]
  generalize htn : typeNames e = tn
  generalize hfn : fnNames e = fn
  simp only [gen]
  apply List.flatMap_eq_nil_iff.mpr
  intro g hg
  exact emit_nil_after v tn fn n g hg (hok g hg)

theorem regen_idem (v : Variant) (e : List Item) (n : List Group) (hok : NeededOk n) :
    regen v (regen v e n) n = regen v e n := by
  have h := gen_regen_nil v e n hok
  generalize regen v e n = r at h
  simp [regen, h]

theorem emit_of_free (v : Variant) (tn fn : List String) (g : Group) (hok : g.ok = true)
    (hfree : ∀ x ∈ g.items, x.definedIn tn fn = false) : g.emit v tn fn = g.items := by
  cases g with
  | ty i =>
    have := hfree i (by simp [Group.items])
    rw [definedIn_of_isType tn fn hok, decide_eq_false_iff_not] at this
    simp [Group.emit, Group.items, this]
  | act i =>
    have := hfree i (by simp [Group.items])
    rw [definedIn_of_isFn tn fn hok, decide_eq_false_iff_not] at this
    simp [Group.emit, Group.items, this]
  | nt g is =>
    obtain ⟨hall, i, hi, hname⟩ := ok_nt.mp hok
    have hnot : ∀ x ∈ is, x.name ∉ tn := fun x hx => by
      have := hfree x hx
      rwa [definedIn_of_isType tn fn (hall x hx), decide_eq_false_iff_not] at this
    have hg : g ∉ tn := hname ▸ hnot i hi
    simp only [Group.emit, if_neg hg, Group.items]
    cases v with
    | asIs => rfl
    | fixed => exact List.filter_eq_self.mpr fun x hx => by simp [hnot x hx]

theorem gen_of_free (v : Variant) (tn fn : List String) (n : List Group) (hok : NeededOk n)
    (hfree : ∀ x ∈ allItems n, x.definedIn tn fn = false) : gen v tn fn n = allItems n :=
  flatMap_congr fun g hg =>
    emit_of_free v tn fn g (hok g hg) fun x hx => hfree x (List.mem_flatMap.mpr ⟨g, hg, hx⟩)

theorem cfgOf_append (a b : List SetOp) : cfgOf (a ++ b) = b.foldl SetOp.apply (cfgOf a) := by
  simp [cfgOf, List.foldl_append]

/-- What a builder call other than `.force(b)` leaves alone (`settings.rs`): `force_explicit`, the `force` that was given
    explicitly, and a `force` that is off. -/
structure Keeps (c c' : Cfg) : Prop where
  expl : c'.forceExplicit = c.forceExplicit
  force : c.forceExplicit = true → c'.force = c.force
  off : c.force = false → c'.force = false

theorem Keeps.refl (c : Cfg) : Keeps c c := ⟨rfl, fun _ => rfl, id⟩

theorem Keeps.trans {a b c : Cfg} (h : Keeps a b) (k : Keeps b c) : Keeps a c :=
  ⟨k.expl.trans h.expl, fun he => (k.force (h.expl.trans he)).trans (h.force he), fun hf => k.off (h.off hf)⟩

theorem apply_nonforce (c : Cfg) {op : SetOp} (h : op.isForce = false) : Keeps c (SetOp.apply c op) := by
  cases op with
  | force b => simp [SetOp.isForce] at h
  | actions b => exact ⟨rfl, fun _ => rfl, id⟩
  | actionsInSourceTree => cases he : c.forceExplicit <;> constructor <;> simp [SetOp.apply, he]
  | inSourceTree => cases he : c.forceExplicit <;> constructor <;> simp [SetOp.apply, he]

theorem foldl_nonforce (ops : List SetOp) (c : Cfg) (hops : ∀ op ∈ ops, op.isForce = false) :
    Keeps c (ops.foldl SetOp.apply c) := by
  induction ops generalizing c with
  | nil => exact .refl c
  | cons op t ih =>
    exact (apply_nonforce c (hops op (by simp))).trans (ih _ fun o ho => hops o (by simp [ho]))

end Rustemo.Regen
