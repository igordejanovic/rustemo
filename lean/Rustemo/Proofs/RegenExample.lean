import Rustemo.Model.Regen
/-!
# Concrete actions files used by the counterexample and non-vacuity statements of C18

Grammar (witness of finding F17, reproduced against the real compiler by `tools/props/c18.py`):

    S: Ka A Num;   A: x=Num y=Id | EMPTY;   terminals  Ka: 'a';  Num: /\d+/;  Id: /[a-z]+/;

The default builder generates for `A` the group `struct ANoO {..}` + `type A = Option<ANoO>;`,
guarded by the single name `A`.
-/
namespace Rustemo.Regen.Example

def hdr : List Item :=
  [⟨.other, "", "use rustemo :: Token as RustemoToken ;"⟩,
   ⟨.other, "", "use super :: g :: { TokenKind , Context } ;"⟩,
   ⟨.type, "Input", "pub type Input = str ;"⟩,
   ⟨.type, "Ctx", "pub type Ctx < 'i > = Context < 'i , Input > ;"⟩,
   ⟨.type, "Token", "pub type Token < 'i > = RustemoToken < 'i , Input , TokenKind > ;"⟩]

def numT : Item := ⟨.type, "Num", "pub type Num = String ;"⟩
def numF : Item := ⟨.fn, "num", "pub fn num (_ctx : & Ctx , token : Token) -> Num { token . value . into () }"⟩
def idT : Item := ⟨.type, "Id", "pub type Id = String ;"⟩
def idF : Item := ⟨.fn, "id", "pub fn id (_ctx : & Ctx , token : Token) -> Id { token . value . into () }"⟩
def sS : Item := ⟨.struct, "S", "pub struct S { pub a : A , pub num : Num }"⟩
def sC1 : Item := ⟨.fn, "s_c1", "pub fn s_c1 (_ctx : & Ctx , a : A , num : Num) -> S { S { a , num } }"⟩
def aNoO : Item := ⟨.struct, "ANoO", "pub struct ANoO { pub x : Num , pub y : Id }"⟩
def aAlias : Item := ⟨.type, "A", "pub type A = Option < ANoO > ;"⟩
def aC1 : Item := ⟨.fn, "a_c1", "pub fn a_c1 (_ctx : & Ctx , x : Num , y : Id) -> A { Some (ANoO { x , y }) }"⟩
def aEmpty : Item := ⟨.fn, "a_empty", "pub fn a_empty (_ctx : & Ctx) -> A { None }"⟩

/-- what the generator wants for the grammar above -/
def needed : List Group :=
  [.ty numT, .act numF, .ty idT, .act idF, .nt "S" [sS], .act sC1,
   .nt "A" [aNoO, aAlias], .act aC1, .act aEmpty]

/-- the pristine file -/
def pristine : List Item := hdr ++ allItems needed

/-- user edit 1 (F17): only the alias `type A = Option<ANoO>;` deleted -/
def aliasDeleted : List Item := pristine.filter (fun i => i != aAlias)

/-- user edit 2: body of `a_c1` rewritten, helper struct + import added, `num` and the whole group
    of `A` deleted -/
def userEdited : List Item :=
  [⟨.other, "", "use std :: collections :: HashMap ;"⟩] ++ hdr ++
  [numT, idT, idF, ⟨.struct, "UserStruct", "pub struct UserStruct { pub a : u8 }"⟩, sS, sC1,
   ⟨.fn, "a_c1", "pub fn a_c1 (_ctx : & Ctx , x : Num , y : Id) -> A { todo ! () }"⟩, aEmpty]

/-- user edit 3 (tutorial style): all types of `A` replaced by the user's own `type A = f32;` -/
def retyped : List Item :=
  hdr ++ [numT, numF, idT, idF, sS, sC1, ⟨.type, "A", "pub type A = f32 ;"⟩, aC1, aEmpty]

end Rustemo.Regen.Example
