import Rustemo.Proofs.ResolveRule
/-!
A cell is `[sh] ++ (tops rkey S).map Red.act` or `(tops rkey S).map Red.act`: the shift while no reduction has beaten it,
then the reductions of maximal rank among those, `S`, that met the REDUCE/REDUCE part.  Without a shift every reduction
meets it; with a shift all but those that lose to the shift WHILE IT IS STILL IN THE CELL (`eff`), where the documented rule
settles every reduction against the shift (`survOf`): the two agree on the maximal ones under `NoMixed` (`tops_eff`).
-/
namespace Rustemo.Resolve

def preOf (cfg : Cfg) (info : Nat → PInfo) (ta : Assoc) (shp : Nat) (sh : Action) (P : List Red) :
    List Action :=
  if P.all (fun r => dSR cfg info ta shp r != .reduce) then [sh] else []

def survOf (cfg : Cfg) (info : Nat → PInfo) (ta : Assoc) (shp : Nat) (P : List Red) : List Red :=
  P.filter (fun r => dSR cfg info ta shp r != .shift)

/-- the reductions that meet the REDUCE/REDUCE part of a cell that starts with a shift: once one of
    them has removed the shift, all that follow -/
def eff (cfg : Cfg) (info : Nat → PInfo) (ta : Assoc) (shp : Nat) : List Red → List Red
  | [] => []
  | r :: rs =>
    match dSR cfg info ta shp r with
    | .shift => eff cfg info ta shp rs
    | .reduce => r :: rs
    | .both => r :: eff cfg info ta shp rs

def invCell (cfg : Cfg) (info : Nat → PInfo) (ta : Assoc) (shp : Nat) (sh : Action) (P : List Red) :
    List Action :=
  preOf cfg info ta shp sh P ++ (tops (rkey cfg info) (survOf cfg info ta shp P)).map Red.act

variable {fx : Fixes} {cfg : Cfg} {info : Nat → PInfo} {ta : Assoc} {sp : Option Nat} {shp : Nat}
  {sh : Action} {r : Red}

theorem doc_cell_shift (P : List Red) :
    Doc.resolveCell cfg ta (some (sh, shp)) (P.map (candOf info)) = invCell cfg info ta shp sh P := by
  have hs : (P.map (candOf info)).filter (fun c => Doc.srOf cfg ta shp c != .shift) =
      (survOf cfg info ta shp P).map (candOf info) := by
    rw [List.filter_map]; rfl
  have ha : (P.map (candOf info)).all (fun c => Doc.srOf cfg ta shp c != .reduce) =
      P.all (fun r => dSR cfg info ta shp r != .reduce) := by
    rw [List.all_map]; rfl
  unfold Doc.resolveCell invCell preOf
  simp only [hs, ha, doc_rr_tops]

theorem docSR_reduce_le {i : PInfo} (h : docSR cfg i ta shp = .reduce) : shp ≤ i.prio := by
  by_cases hlt : i.prio < shp
  · unfold docSR at h
    rw [Nat.compare_eq_lt.mpr hlt] at h
    simp [Doc.resolveSR] at h
  · omega

theorem PosOk.sub {S T : List Red} (h : PosOk info T) (hs : ∀ x ∈ S, x ∈ T) : PosOk info S :=
  fun x hx => h x (hs x hx)

theorem NoMixed.mono {P Q : List Red} (hm : NoMixed cfg info ta shp P) (h : ∀ x ∈ Q, x ∈ P) :
    NoMixed cfg info ta shp Q :=
  fun ⟨p, hp, hd⟩ x hx => hm ⟨p, h p hp, hd⟩ x (h x hx)

theorem addReduce_tops {S : List Red} (hpos : PosOk info S)
    (hrr : RROk fx cfg info S r) :
    addReduce fx cfg info ta sp r ((tops (rkey cfg info) S).map Red.act) =
      .ok ((tops (rkey cfg info) (S ++ [r])).map Red.act) := by
  rw [addReduce_reds]
  exact congrArg Outcome.ok (rrStep_tops (pre := []) nofun hpos hrr)

theorem cell_reds (reds : List Red) : ∀ S : List Red, PosOk info (S ++ reds) →
    (fx.emptyRR = true ∨ (S ++ reds).Pairwise fun a b => ¬ N1 cfg info a b) →
    cell fx cfg info ta sp ((tops (rkey cfg info) S).map Red.act) (reds.map .red) =
      .ok ((tops (rkey cfg info) (S ++ reds)).map Red.act) := by
  induction reds with
  | nil => intro S _ _; rw [List.append_nil]; rfl
  | cons r rs ih =>
    intro S hpos hrr
    rw [List.map_cons, cell_cons_red, addReduce_tops (hpos.sub fun _ => List.mem_append_left _)
      (hrr.imp_right fun h x hx => (List.pairwise_append.mp h).2.2 x hx r List.mem_cons_self)]
    exact (ih (S ++ [r]) (by rwa [List.append_assoc]) (by rwa [List.append_assoc])).trans
      (by rw [List.append_assoc]; rfl)

theorem preOf_cons (r : Red) (P : List Red) :
    preOf cfg info ta shp sh (r :: P) =
      if dSR cfg info ta shp r != .reduce then preOf cfg info ta shp sh P else [] := by
  unfold preOf
  rw [List.all_cons]
  cases (dSR cfg info ta shp r != Keep.reduce) <;> rfl

theorem cell_shift (h1 : fx.termAssoc = true) (h2 : fx.noAssert = true) (h3 : fx.emptyRR = true)
    (hsh : isShiftLike sh = true) (hp : shiftPrio sp sh = some shp) (reds : List Red) :
    ∀ S : List Red, PosOk info (S ++ reds) →
    cell fx cfg info ta sp (sh :: (tops (rkey cfg info) S).map Red.act) (reds.map .red) =
      .ok (preOf cfg info ta shp sh reds ++
        (tops (rkey cfg info) (S ++ eff cfg info ta shp reds)).map Red.act) := by
  induction reds with
  | nil => intro S _; rw [eff, List.append_nil]; rfl
  | cons r rs ih =>
    intro S hpos
    have hS : PosOk info S := hpos.sub fun _ => List.mem_append_left _
    have hpos' : PosOk info (S ++ [r] ++ rs) := by rwa [List.append_assoc]
    rw [List.map_cons, cell_cons_red, addReduce_shift_class hsh hp (.inl h1) _ (.inl h2), preOf_cons, eff]
    show cell fx cfg info ta sp (keepS sh _ _ (dSR cfg info ta shp r)) _ = _
    cases dSR cfg info ta shp r with
    | shift =>
      exact ih S (hpos.sub fun x hx => (List.mem_append.mp hx).elim (List.mem_append_left _)
        fun h => List.mem_append_right _ (List.mem_cons_of_mem _ h))
    | reduce =>
      exact (congrArg (cell fx cfg info ta sp · _) (rrStep_tops (pre := []) nofun hS (.inl h3))).trans
        ((cell_reds rs _ hpos' (.inl h3)).trans (by rw [List.append_assoc]; rfl))
    | both =>
      exact (congrArg (cell fx cfg info ta sp · _) (rrStep_tops (pre := [sh]) (by simpa using hsh) hS (.inl h3))).trans
        ((ih _ hpos').trans (by rw [List.append_assoc]; rfl))

/-- under `NoMixed` a reduction that lost to a shift no longer there lost by priority, so it lies below the reduction that
    removed the shift -/
theorem tops_eff (P : List Red) : ∀ S : List Red, (∀ x ∈ S, (dSR cfg info ta shp x != .shift) = true) →
    NoMixed cfg info ta shp P →
    tops (rkey cfg info) (S ++ eff cfg info ta shp P) =
      tops (rkey cfg info) (S ++ survOf cfg info ta shp P) := by
  induction P with
  | nil => intro _ _ _; rfl
  | cons r rs ih =>
    intro S hS hmix
    have hmix' := hmix.mono (Q := rs) fun _ => List.mem_cons_of_mem _
    have hsnoc := fun hr => ih (S ++ [r]) (fun x hx => (List.mem_append.mp hx).elim (hS x)
      fun h => List.mem_singleton.mp h ▸ hr) hmix'
    simp only [List.append_assoc, List.singleton_append] at hsnoc
    unfold eff survOf
    rw [List.filter_cons]
    cases hd : dSR cfg info ta shp r
    · exact ih S hS hmix'
    · have hf : (S ++ r :: rs).filter (fun x => dSR cfg info ta shp x != .shift) =
          S ++ r :: survOf cfg info ta shp rs := by
        rw [List.filter_append, List.filter_eq_self.mpr hS, List.filter_cons, hd]; rfl
      refine ((tops_filter_of_lt (y := r) (List.mem_append_right _ List.mem_cons_self) (by rw [hd]; rfl)
        fun x hx hq => ?_).symm.trans (congrArg _ hf))
      have hxr : x ∈ r :: rs := (List.mem_append.mp hx).resolve_left fun h => by rw [hS x h] at hq; cases hq
      exact rkey_lt (Nat.lt_of_lt_of_le (hmix ⟨r, List.mem_cons_self, hd⟩ x hxr (by simpa using hq))
        (docSR_reduce_le hd))
    · exact hsnoc (by rw [hd]; rfl)

theorem cell_eq_invCell (h1 : fx.termAssoc = true) (h2 : fx.noAssert = true) (h3 : fx.emptyRR = true)
    (hsh : isShiftLike sh = true) (hp : shiftPrio sp sh = some shp) (reds : List Red)
    (hpos : PosOk info reds) (hmix : NoMixed cfg info ta shp reds) :
    cell fx cfg info ta sp [sh] (reds.map .red) = .ok (invCell cfg info ta shp sh reds) :=
  (cell_shift h1 h2 h3 hsh hp reds [] hpos).trans
    (congrArg (fun T => Outcome.ok (preOf cfg info ta shp sh reds ++ T.map Red.act)) (tops_eff reds [] nofun hmix))

theorem invCell_perm {P Q : List Red} (h : P.Perm Q) :
    (invCell cfg info ta shp sh P).Perm (invCell cfg info ta shp sh Q) := by
  unfold invCell preOf survOf
  rw [h.all_eq]
  exact List.Perm.append_left _ ((tops_perm (h.filter _)).map _)

end Rustemo.Resolve
