import Rustemo.Proofs.ResolveStep
/-!
The REDUCE/REDUCE part of the code never looks at a single reduction of the cell: it asks `all <`, `all >`, `all EMPTY`.  On a
cell whose reductions form one class (one priority and, in LR, one emptiness) it therefore is the documented pairwise rule
against any member of the class (`rrStep_class`).  Incrementally it keeps the reductions of maximal rank, the documented rule
keeps those no other candidate beats: both are `tops`, the maximal elements of a list under a key, and these form one class.
-/
namespace Rustemo.Resolve

variable {fx : Fixes} {cfg : Cfg} {info : Nat → PInfo} {ta : Assoc} {sp : Option Nat} {shp : Nat}
  {sh : Action} {r : Red}

def SR.toKeep : SR → Keep
  | .keepShift => .shift
  | .override _ => .reduce
  | .both => .both

theorem preferShift_eq (cfg : Cfg) (i : PInfo) :
    preferShift cfg i = if i.len == 0 then cfg.pse && !i.nopse else cfg.ps && !i.nops := by
  unfold preferShift
  cases i.len == 0 <;> simp

/-- the SHIFT/REDUCE decision stays off the two terminal-level arms of the `match`, which are swapped without C05-fix-1 (F1) -/
def TermAssocOk (fx : Fixes) (ta : Assoc) (o : Ordering) : Prop :=
  fx.termAssoc = true ∨ ta = .none ∨ o ≠ .eq

theorem srDecide_doc {i : PInfo} {shp : Nat} (hta : TermAssocOk fx ta (compare i.prio shp)) :
    (srDecide fx cfg i ta (compare i.prio shp)).toKeep = docSR cfg i ta shp := by
  unfold docSR
  revert hta
  generalize compare i.prio shp = o
  intro hta
  cases o
  · rfl
  · simp only [srDecide, assocArms, Doc.resolveSR]
    cases ta
    · -- no terminal associativity: both versions of the arms read the production's
      cases hpa : i.assoc
      case none =>
        have : (if fx.termAssoc = true then assocArmsFixed .none .none
            else assocArmsToday .none .none) = none := by cases fx.termAssoc <;> rfl
        simp only [this, srOfAssoc, preferShift_eq, if_true]
        cases (if (i.len == 0) = true then cfg.pse && !i.nopse else cfg.ps && !i.nops) <;> rfl
      all_goals cases fx.termAssoc <;> rfl
    all_goals
      have : fx.termAssoc = true := by simpa [TermAssocOk] using hta
      rw [if_pos this]
      cases i.assoc <;> rfl
  · rfl

def keepL {α} (K : List α) (new : α) : Keep2 → List α
  | .first => K
  | .second => [new]
  | .both => K ++ [new]

theorem map_keepL {α β} (f : α → β) (K : List α) (n : α) (d : Keep2) :
    (keepL K n d).map f = keepL (K.map f) (f n) d := by
  cases d <;> simp [keepL]

theorem keepRR_eq_keepL (a b : Action) (d : Keep2) : keepRR a b d = keepL [a] b d := by
  cases d <;> rfl

def Keep2.ofOrd : Ordering → Keep2
  | .gt => .first
  | .lt => .second
  | .eq => .both

theorem ofOrd_beq_first (a b : Nat) : (Keep2.ofOrd (compare a b) == .first) = decide (b < a) := by
  rcases Nat.lt_trichotomy a b with h | h | h
  · rw [Nat.compare_eq_lt.mpr h, decide_eq_false (Nat.lt_asymm h)]; rfl
  · rw [Nat.compare_eq_eq.mpr h, decide_eq_false (h ▸ Nat.lt_irrefl _)]; rfl
  · rw [Nat.compare_eq_gt.mpr h, decide_eq_true h]; rfl

/-- LR only: non-empty before EMPTY -/
def bonus (glr empty : Bool) : Nat := if !glr && !empty then 1 else 0

theorem bonus_le (glr e : Bool) : bonus glr e ≤ 1 := by unfold bonus; split <;> decide

theorem rank_lt {p q b1 b2 : Nat} (h : p < q) (h1 : b1 ≤ 1) : 2 * p + b1 < 2 * q + b2 := by omega

/-- `2 * p + b` with `b ≤ 1` is ordered lexicographically -/
theorem compare_rank {p q b1 b2 : Nat} (h1 : b1 ≤ 1) (h2 : b2 ≤ 1) :
    compare (2 * p + b1) (2 * q + b2) = (compare p q).then (compare b1 b2) := by
  rcases Nat.lt_trichotomy p q with h | rfl | h
  · rw [Nat.compare_eq_lt.mpr h, Nat.compare_eq_lt.mpr (rank_lt h h1)]; rfl
  · rw [Nat.compare_eq_eq.mpr rfl, Ordering.eq_then]
    simp only [Nat.compare_eq_ite_lt (2 * p + _), Nat.compare_eq_ite_lt b1, Nat.add_lt_add_iff_left]
  · rw [Nat.compare_eq_gt.mpr h, Nat.compare_eq_gt.mpr (rank_lt h h2)]; rfl

theorem resolveRR_rank (glr : Bool) (p q : Nat) (e1 e2 : Bool) :
    Doc.resolveRR glr (compare p q) e1 e2 =
      .ofOrd (compare (2 * p + bonus glr e1) (2 * q + bonus glr e2)) := by
  rw [compare_rank (bonus_le ..) (bonus_le ..)]
  cases compare p q <;> cases glr <;> cases e1 <;> cases e2 <;> rfl

variable {α : Type}

def tops (k : α → Nat) (S : List α) : List α :=
  S.filter (fun x => S.all (fun y => decide (k y ≤ k x)))

theorem tops_nil (k : α → Nat) : tops k [] = [] := rfl

theorem tops_snoc (k : α → Nat) (S : List α) (r : α) :
    tops k (S ++ [r]) =
      (tops k S).filter (fun x => decide (k r ≤ k x)) ++
        (if S.all (fun y => decide (k y ≤ k r)) then [r] else []) := by
  simp only [tops, List.filter_append, List.all_append, List.all_cons, List.all_nil, Bool.and_true,
    List.filter_filter, List.filter_cons, List.filter_nil, Nat.le_refl, decide_true]
  congr 1
  apply List.filter_congr
  intro x _
  rw [Bool.and_comm]

theorem mem_tops {k : α → Nat} {S : List α} {x : α} :
    x ∈ tops k S ↔ x ∈ S ∧ ∀ y ∈ S, k y ≤ k x := by
  simp [tops, List.mem_filter, List.all_eq_true]

theorem tops_key_eq {k : α → Nat} {S : List α} {x y : α} (hx : x ∈ tops k S) (hy : y ∈ tops k S) :
    k x = k y :=
  Nat.le_antisymm ((mem_tops.mp hy).2 x (mem_tops.mp hx).1) ((mem_tops.mp hx).2 y (mem_tops.mp hy).1)

theorem tops_ne_nil {k : α → Nat} {S : List α} (h : S ≠ []) : tops k S ≠ [] := by
  obtain ⟨x, hx, hmax⟩ := exists_max k S h
  exact List.ne_nil_of_mem (mem_tops.mpr ⟨hx, hmax⟩)

theorem tops_eq_nil_iff {k : α → Nat} {S : List α} : tops k S = [] ↔ S = [] := by
  constructor
  · intro h; by_cases hs : S = []
    · exact hs
    · exact absurd h (tops_ne_nil hs)
  · intro h; subst h; rfl

/-- the maximal elements have one key: a new element is compared with any one of them -/
theorem tops_snoc_of_mem {k : α → Nat} {S : List α} {x0 : α} (hx : x0 ∈ tops k S) (r : α) :
    tops k (S ++ [r]) = keepL (tops k S) r (.ofOrd (compare (k x0) (k r))) := by
  obtain ⟨hxS, hmax⟩ := mem_tops.mp hx
  have hf : (tops k S).filter (fun x => decide (k r ≤ k x)) =
      if decide (k r ≤ k x0) then tops k S else [] :=
    filter_of_uniform (fun y hy => by rw [tops_key_eq hy hx])
  have ha : S.all (fun y => decide (k y ≤ k r)) = decide (k x0 ≤ k r) := by
    rw [Bool.eq_iff_iff, List.all_eq_true, decide_eq_true_eq]
    exact ⟨fun h => of_decide_eq_true (h x0 hxS),
      fun h y hy => decide_eq_true (Nat.le_trans (hmax y hy) h)⟩
  rw [tops_snoc, hf, ha]
  rcases Nat.lt_trichotomy (k x0) (k r) with h | h | h
  · rw [Nat.compare_eq_lt.mpr h, decide_eq_false (Nat.not_le.mpr h), decide_eq_true (Nat.le_of_lt h)]
    rfl
  · rw [Nat.compare_eq_eq.mpr h, decide_eq_true (Nat.le_of_eq h.symm), decide_eq_true (Nat.le_of_eq h)]
    rfl
  · rw [Nat.compare_eq_gt.mpr h, decide_eq_true (Nat.le_of_lt h), decide_eq_false (Nat.not_le.mpr h)]
    exact List.append_nil _

theorem tops_filter_of_lt {k : α → Nat} {q : α → Bool} {S : List α} {y : α} (hy : y ∈ S) (hqy : q y = true)
    (h : ∀ x ∈ S, q x = false → k x < k y) : tops k (S.filter q) = tops k S := by
  unfold tops
  rw [List.filter_filter]
  refine List.filter_congr fun x hx => ?_
  rw [Bool.eq_iff_iff]
  simp only [Bool.and_eq_true, List.all_eq_true, decide_eq_true_eq, List.mem_filter]
  constructor
  · rintro ⟨ha, _⟩ z hz
    cases hqz : q z
    · exact Nat.le_trans (Nat.le_of_lt (h z hz hqz)) (ha y ⟨hy, hqy⟩)
    · exact ha z ⟨hz, hqz⟩
  · intro hall
    refine ⟨fun z hz => hall z hz.1, ?_⟩
    cases hqx : q x
    · exact absurd (hall y hy) (Nat.not_le.mpr (h x hx hqx))
    · rfl

theorem tops_perm {k : α → Nat} {S T : List α} (h : S.Perm T) : (tops k S).Perm (tops k T) := by
  unfold tops
  have : (fun x => S.all (fun y => decide (k y ≤ k x))) = (fun x => T.all (fun y => decide (k y ≤ k x))) := by
    funext x; exact h.all_eq
  rw [this]
  exact h.filter _

def rkey (cfg : Cfg) (info : Nat → PInfo) (r : Red) : Nat :=
  2 * (info r.prod).prio + bonus cfg.glr ((info r.prod).len == 0)

theorem rrBeats_key (a b : Red) :
    Doc.rrBeats cfg (candOf info a) (candOf info b) = decide (rkey cfg info b < rkey cfg info a) :=
  (congrArg (· == Keep2.first) (resolveRR_rank ..)).trans (ofOrd_beq_first ..)

theorem rkey_lt {a b : Red} (h : (info a.prod).prio < (info b.prod).prio) :
    rkey cfg info a < rkey cfg info b :=
  rank_lt h (bonus_le ..)

theorem rkey_eq {a b : Red} (h : rkey cfg info a = rkey cfg info b) :
    (info a.prod).prio = (info b.prod).prio ∧
      (cfg.glr = false → ((info a.prod).len == 0) = ((info b.prod).len == 0)) := by
  obtain ⟨hp, hb⟩ := Ordering.then_eq_eq.mp
    ((compare_rank (bonus_le ..) (bonus_le ..)).symm.trans (Nat.compare_eq_eq.mpr h))
  refine ⟨Nat.compare_eq_eq.mp hp, fun hg => ?_⟩
  rw [hg] at hb
  revert hb
  cases ((info a.prod).len == 0) <;> cases ((info b.prod).len == 0) <;> decide

theorem doc_rr_tops (S : List Red) :
    ((S.map (candOf info)).filter (fun c => (S.map (candOf info)).all (fun c' => !Doc.rrBeats cfg c' c))).map (·.act)
      = (tops (rkey cfg info) S).map Red.act := by
  rw [List.filter_map, List.map_map]
  refine congrArg (List.map Red.act) (List.filter_congr fun x _ => ?_)
  rw [Function.comp, List.all_map]
  refine congrArg (S.all ·) (funext fun y => ?_)
  show (!Doc.rrBeats cfg (candOf info y) (candOf info x)) = _
  rw [rrBeats_key, ← decide_not]
  exact decide_eq_decide.mpr Nat.not_lt

theorem filter_shiftLikes {pre : List Action} (hpre : ∀ a ∈ pre, isShiftLike a = true)
    (p : Action → Bool) (hp : ∀ a, isShiftLike a = true → p a = true) : pre.filter p = pre :=
  List.filter_eq_self.mpr (fun a ha => hp a (hpre a ha))

/-- the one case C05-fix-3 is about: LR, two EMPTY reductions of one priority.  As the code sees it: emptiness of the
    reduction in the cell is read off its length, that of the new one off its production. -/
def N1 (cfg : Cfg) (info : Nat → PInfo) (a r : Red) : Prop :=
  cfg.glr = false ∧ (info a.prod).prio = (info r.prod).prio ∧ a.pos = 0 ∧ (info r.prod).len = 0

theorem N1.doc {a : Red} (h : N1 cfg info a r) (hp : (a.pos == 0) = ((info a.prod).len == 0)) :
    cfg.glr = false ∧ (info a.prod).prio = (info r.prod).prio ∧ (info a.prod).len = 0 ∧ (info r.prod).len = 0 :=
  ⟨h.1, h.2.1, beq_iff_eq.mp (hp ▸ beq_iff_eq.mpr h.2.2.1), h.2.2.2⟩

/-- the REDUCE/REDUCE part treats `r` against `S` as documented: with C05-fix-3, or `r` is in case `N1` with none of `S` -/
def RROk (fx : Fixes) (cfg : Cfg) (info : Nat → PInfo) (S : List Red) (r : Red) : Prop :=
  fx.emptyRR = true ∨ ∀ x ∈ S, ¬ N1 cfg info x r

theorem RROk.mono {S T : List Red} (h : RROk fx cfg info S r) (hs : ∀ x ∈ T, x ∈ S) : RROk fx cfg info T r :=
  h.imp_right fun h x hx => h x (hs x hx)

/-- `hrr`: with C05-fix-3 always; without it unless `K` and the new reduction are all EMPTY (case `N1`) -/
theorem rrLR_class {pre K : List Action} (hpre : ∀ a ∈ pre, isShiftLike a = true) {x0 : Action}
    (hx0 : x0 ∈ K) {e : Bool} (hE : ∀ a ∈ K, isEmptyReduce a = e) (n : Nat) (new : Action)
    (hrr : fx.emptyRR = true ∨ ¬ (e = true ∧ n = 0)) :
    rrLR fx n new K (pre ++ K) = pre ++ keepL K new (Doc.resolveRR false .eq e (n == 0)) := by
  have hf : (pre ++ K).filter (fun a => !isEmptyReduce a) = pre ++ if !e then K else [] := by
    rw [List.filter_append, filter_of_uniform (fun a ha => congrArg (!·) (hE a ha)),
      filter_shiftLikes hpre _ (fun a => by cases a <;> simp)]
  have hK := List.ne_nil_of_mem hx0
  simp only [rrLR, hf, all_of_uniform hx0 hE, Doc.resolveRR]
  revert hrr
  cases n <;> cases e <;> cases fx.emptyRR <;> simp [keepL, hK]

/-- the reductions `K` have the priority of `x0` and, in LR, its emptiness: all that the REDUCE/REDUCE part can tell of them -/
structure OneClass (cfg : Cfg) (info : Nat → PInfo) (K : List Red) (x0 : Red) : Prop where
  mem : x0 ∈ K
  prio : ∀ x ∈ K, (info x.prod).prio = (info x0.prod).prio
  empty : cfg.glr = false → ∀ x ∈ K, (x.pos == 0) = (x0.pos == 0)

theorem OneClass.singleton (x : Red) : OneClass cfg info [x] x :=
  ⟨List.mem_cons_self, fun _ h => List.mem_singleton.mp h ▸ rfl, fun _ _ h => List.mem_singleton.mp h ▸ rfl⟩

theorem OneClass.of_tops {S : List Red} {x0 : Red} (hpos : PosOk info S) (hx0 : x0 ∈ tops (rkey cfg info) S) :
    OneClass cfg info (tops (rkey cfg info) S) x0 :=
  have hp := fun x (hx : x ∈ tops (rkey cfg info) S) => hpos x (mem_tops.mp hx).1
  ⟨hx0, fun _ hx => (rkey_eq (tops_key_eq hx hx0)).1,
    fun hg x hx => (hp x hx).trans (((rkey_eq (tops_key_eq hx hx0)).2 hg).trans (hp x0 hx0).symm)⟩

theorem rrStep_class {pre : List Action} (hpre : ∀ a ∈ pre, isShiftLike a = true) {K : List Red}
    {x0 : Red} (hK : OneClass cfg info K x0) (hrr : RROk fx cfg info K r) :
    rrStep fx cfg info r (K.map Red.act) (pre ++ K.map Red.act) =
      pre ++ keepL (K.map Red.act) r.act (docRR cfg info x0.prod x0.pos r) := by
  have hprio : ∀ f : Nat → Bool, ((K.map Red.act).map (actPrio info)).all f = f (info x0.prod).prio :=
    fun f => by
      rw [List.map_map, List.all_map]
      exact all_of_uniform hK.mem (fun x hx => congrArg f (hK.prio x hx))
  have hne : (K.map Red.act).isEmpty = false := by
    rw [List.isEmpty_map]; exact List.isEmpty_eq_false_iff.mpr (List.ne_nil_of_mem hK.mem)
  unfold rrStep docRR
  simp only [hne, Bool.false_eq_true, if_false, hprio, decide_eq_true_eq, gt_iff_lt]
  rcases Nat.lt_trichotomy (info r.prod).prio (info x0.prod).prio with hlt | heq | hgt
  · rw [if_pos hlt, Nat.compare_eq_gt.mpr hlt]; rfl
  · rw [if_neg (heq ▸ Nat.lt_irrefl _), if_neg (heq ▸ Nat.lt_irrefl _), Nat.compare_eq_eq.mpr heq.symm]
    cases hg : cfg.glr
    · exact rrLR_class hpre (List.mem_map_of_mem hK.mem)
        (fun a ha => by obtain ⟨x, hx, rfl⟩ := List.mem_map.mp ha; exact hK.empty hg x hx) _ _
        (hrr.imp_right fun h ⟨a, b⟩ => h x0 hK.mem ⟨hg, heq.symm, beq_iff_eq.mp a, b⟩)
    · exact List.append_assoc _ _ _
  · rw [if_neg (Nat.lt_asymm hgt), if_pos hgt, Nat.compare_eq_lt.mpr hgt, List.filter_append,
      filter_shiftLikes hpre _ (fun a => by cases a <;> simp), filter_notReduce_acts, List.append_nil]; rfl

theorem addReduce_single_reduce {p1 l1 : Nat} (hrr : RROk fx cfg info [⟨p1, l1⟩] r) :
    addReduce fx cfg info ta sp r [.reduce p1 l1] =
      .ok (keepRR (.reduce p1 l1) (.reduce r.prod r.pos) (docRR cfg info p1 l1 r)) :=
  (addReduce_reds [⟨p1, l1⟩]).trans (congrArg Outcome.ok
    ((rrStep_class (pre := []) nofun (.singleton ⟨p1, l1⟩) hrr).trans (keepRR_eq_keepL ..).symm))

theorem rrStep_tops {pre : List Action} (hpre : ∀ a ∈ pre, isShiftLike a = true) {S : List Red}
    (hpos : PosOk info S) (hrr : RROk fx cfg info S r) :
    rrStep fx cfg info r ((tops (rkey cfg info) S).map Red.act)
        (pre ++ (tops (rkey cfg info) S).map Red.act) =
      pre ++ (tops (rkey cfg info) (S ++ [r])).map Red.act := by
  by_cases hS : S = []
  · subst hS; simp [rrStep, tops, Red.act]
  obtain ⟨x0, hx0⟩ := List.exists_mem_of_ne_nil _ (tops_ne_nil (k := rkey cfg info) hS)
  rw [rrStep_class hpre (.of_tops hpos hx0) (hrr.mono fun _ hx => (mem_tops.mp hx).1),
    tops_snoc_of_mem hx0, map_keepL, docRR, hpos x0 (mem_tops.mp hx0).1, resolveRR_rank]
  rfl

def keepS (sh : Action) (K : List Action) (rr : List Action → List Action) : Keep → List Action
  | .shift => sh :: K
  | .reduce => rr K
  | .both => rr (sh :: K)

/-- `hn`: without C05-fix-2 on the shift alone -/
theorem addReduce_shift_class (hsh : isShiftLike sh = true) (hp : shiftPrio sp sh = some shp)
    (hta : TermAssocOk fx ta (compare (info r.prod).prio shp)) (K : List Red) (hn : fx.noAssert = true ∨ K = []) :
    addReduce fx cfg info ta sp r (sh :: K.map Red.act) =
      .ok (keepS sh (K.map Red.act) (rrStep fx cfg info r (K.map Red.act))
        (docSR cfg (info r.prod) ta shp)) := by
  rw [addReduce_shift_reds hsh, hp, ← srDecide_doc hta]
  simp only [withShift]
  cases srDecide fx cfg (info r.prod) ta (compare (info r.prod).prio shp) with
  | keepShift => rfl
  | both => rfl
  | override b =>
    simp only [applySR, overrideShift, SR.toKeep, keepS]
    rcases hn with hn | rfl
    · rw [if_pos hn, List.filter_cons_of_neg (by simp [hsh]), filter_notShiftLike_acts]; rfl
    · cases fx.noAssert <;> simp [hsh, afterOverride]

theorem addReduce_single (hsh : isShiftLike sh = true) (hp : shiftPrio sp sh = some shp)
    (hta : TermAssocOk fx ta (compare (info r.prod).prio shp)) :
    addReduce fx cfg info ta sp r [sh] =
      .ok (keepSR sh (.reduce r.prod r.pos) (docSR cfg (info r.prod) ta shp)) := by
  rw [show [sh] = sh :: ([] : List Red).map Red.act from rfl,
    addReduce_shift_class hsh hp hta [] (.inr rfl)]
  cases docSR cfg (info r.prod) ta shp <;> rfl

end Rustemo.Resolve
