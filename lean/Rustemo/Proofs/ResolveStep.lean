import Rustemo.Model.Resolve
import Rustemo.Proofs.ListFacts
/-!
What the code does, whatever the documented rule says.  One `addReduce` is walked once (`addReduce_holds`), with a
postcondition for the new cell and one for the panic (`Holds`); the other facts about a step are read off that walk.  Along a
history a cell only loses actions or gains the event's (`cell_sublist`) and, with C05-fix-2, never panics (`cell_total`).
The state level, for the table construction: `max_prior_for_term` as a maximum (`maxPrior_eq_some_iff`) and the event of an
item (`evOf_red_iff`, `evOf_accept_iff`).
-/
namespace Rustemo.Resolve

@[simp] theorem isShiftLike_shift (s : Nat) : isShiftLike (.shift s) = true := rfl

@[simp] theorem isShiftLike_accept : isShiftLike .accept = true := rfl

@[simp] theorem isShiftLike_reduce (p l : Nat) : isShiftLike (.reduce p l) = false := rfl

@[simp] theorem isReduce_shift (s : Nat) : isReduce (.shift s) = false := rfl

@[simp] theorem isReduce_accept : isReduce .accept = false := rfl

@[simp] theorem isReduce_reduce (p l : Nat) : isReduce (.reduce p l) = true := rfl

@[simp] theorem isEmptyReduce_shift (s : Nat) : isEmptyReduce (.shift s) = false := rfl

@[simp] theorem isEmptyReduce_accept : isEmptyReduce .accept = false := rfl

@[simp] theorem isEmptyReduce_reduce (p l : Nat) : isEmptyReduce (.reduce p l) = (l == 0) := rfl

variable {fx : Fixes} {cfg : Cfg} {info : Nat → PInfo} {ta : Assoc} {sp : Option Nat}

section

def Shape (new : Action) (cell c : List Action) : Prop := c.Sublist (cell ++ [new])

variable {r : Red} {new : Action} {cell cell0 c : List Action}

theorem Shape.of_sub (h : c.Sublist cell) : Shape new cell c :=
  h.trans (List.sublist_append_left _ _)

theorem Shape.snoc (h : c.Sublist cell) : Shape new cell (c ++ [new]) := h.append_right _

theorem Shape.ite {p : Prop} [Decidable p] {a b : List Action} (ha : Shape new cell a)
    (hb : Shape new cell b) : Shape new cell (if p then a else b) := by
  split <;> assumption

theorem Shape.trans_sub (h : Shape new cell c) (hs : cell.Sublist cell0) : Shape new cell0 c :=
  h.trans (hs.append_right _)

theorem Shape.mem (h : Shape new cell c) {a : Action} (ha : a ∈ c) : a ∈ cell ∨ a = new :=
  (List.mem_append.mp (h.subset ha)).imp_right List.mem_singleton.mp

theorem Shape.shiftLikes_le {p l : Nat} (h : Shape (.reduce p l) cell c) :
    shiftLikes c ≤ shiftLikes cell := by
  have := (h.filter isShiftLike).length_le
  rwa [List.filter_append, List.filter_cons_of_neg (by simp), List.filter_nil, List.append_nil] at this

theorem shape_rrLR (n : Nat) (reduces : List Action) :
    Shape new cell (rrLR fx n new reduces cell) :=
  .ite (.ite (.snoc List.filter_sublist) (.ite (.snoc (.refl _)) (.of_sub (.refl _))))
    (.ite (.snoc List.filter_sublist) (.of_sub List.filter_sublist))

theorem shape_rrStep (reduces : List Action) :
    Shape (.reduce r.prod r.pos) cell (rrStep fx cfg info r reduces cell) :=
  .ite (.snoc (.refl _)) (.ite (.of_sub (.refl _)) (.ite (.snoc List.filter_sublist)
    (.ite (.snoc (.refl _)) (shape_rrLR _ _))))

theorem all_isReduce_filter (cell : List Action) :
    (cell.filter (fun a => !isShiftLike a)).all isReduce = true := by
  simp only [List.all_eq_true, List.mem_filter]
  intro a ⟨_, h⟩
  cases a <;> simp_all

theorem head_shifts (h1 : shiftLikes cell ≤ 1) {sh : Action}
    (hm : sh ∈ cell) (hs : isShiftLike sh = true) : (cell.filter isShiftLike).head? = some sh := by
  have : sh ∈ cell.filter isShiftLike := List.mem_filter.mpr ⟨hm, hs⟩
  rw [eq_singleton_of_mem h1 this]; rfl

theorem head_shifts_mem {sh : Action}
    (h : (cell.filter isShiftLike).head? = some sh) : sh ∈ cell ∧ isShiftLike sh = true :=
  List.mem_filter.mp (List.mem_of_head? h)

theorem shiftPrio_some (h2 : SpOk sp cell) {sh : Action}
    (hm : sh ∈ cell) (hs : isShiftLike sh = true) : ∃ shp, shiftPrio sp sh = some shp := by
  cases sh with
  | accept => exact ⟨10, rfl⟩
  | reduce p l => simp at hs
  | shift s => cases sp with
    | some x => exact ⟨x, rfl⟩
    | none => rcases h2 with h | h
              · exact absurd rfl h
              · exact absurd hm (h s)

/-- Neither the first `assert!` nor the `panic!` is reached, and the test for an empty cell makes
    no difference: on `[]` the REDUCE/REDUCE part pushes the reduction too. -/
theorem addReduce_eq_onShift (h1 : shiftLikes cell ≤ 1) :
    addReduce fx cfg info ta sp r cell =
      onShift fx cfg info ta sp r (cell.filter (fun a => !isShiftLike a)) cell
        (cell.filter isShiftLike).head? := by
  unfold addReduce
  by_cases he : cell.isEmpty = true
  · rw [if_pos he, List.isEmpty_iff.mp he]; rfl
  · rw [if_neg he]
    show (if (cell.filter isShiftLike).length > 1 then _ else _) = _
    rw [if_neg (show ¬ (cell.filter isShiftLike).length > 1 from Nat.not_lt.mpr h1),
      all_isReduce_filter]; rfl

theorem acts_reduce {K : List Red} {a : Action} (ha : a ∈ K.map Red.act) :
    isShiftLike a = false ∧ isReduce a = true := by
  obtain ⟨x, _, rfl⟩ := List.mem_map.mp ha; exact ⟨rfl, rfl⟩

theorem filter_shiftLike_acts (K : List Red) : (K.map Red.act).filter isShiftLike = [] :=
  filter_of_uniform (b := false) fun _ h => (acts_reduce h).1

theorem filter_notShiftLike_acts (K : List Red) :
    (K.map Red.act).filter (fun a => !isShiftLike a) = K.map Red.act :=
  filter_of_uniform (b := true) fun _ h => congrArg (!·) (acts_reduce h).1

theorem filter_notReduce_acts (K : List Red) : (K.map Red.act).filter (fun a => !isReduce a) = [] :=
  filter_of_uniform (b := false) fun _ h => congrArg (!·) (acts_reduce h).2

theorem addReduce_reds (K : List Red) :
    addReduce fx cfg info ta sp r (K.map Red.act) =
      .ok (rrStep fx cfg info r (K.map Red.act) (K.map Red.act)) := by
  rw [addReduce_eq_onShift (h1 := by simp [shiftLikes, filter_shiftLike_acts]),
    filter_shiftLike_acts, filter_notShiftLike_acts]
  rfl

theorem addReduce_shift_reds {sh : Action} (hsh : isShiftLike sh = true) (K : List Red) :
    addReduce fx cfg info ta sp r (sh :: K.map Red.act) =
      withShift fx cfg info ta r (K.map Red.act) (sh :: K.map Red.act) (shiftPrio sp sh) := by
  have hs : (sh :: K.map Red.act).filter isShiftLike = [sh] := by
    rw [List.filter_cons_of_pos hsh, filter_shiftLike_acts]
  have hr : (sh :: K.map Red.act).filter (fun a => !isShiftLike a) = K.map Red.act := by
    rw [List.filter_cons_of_neg (by simp [hsh]), filter_notShiftLike_acts]
  rw [addReduce_eq_onShift (h1 := by simp [shiftLikes, hs]), hs, hr]
  rfl

/-- `Q` for the new cell, `E` for a panic; `err` and `fuel` do not occur.  The GLR proofs (`Glr.SatE A E P o`) and the LR proofs
    (`NotPanic o`) speak of the same type `Outcome`: `Holds o E Q ↔ Glr.SatE E False Q o ∧ o ≠ .fuel` and
    `NotPanic o ↔ Glr.SatE False True (fun _ => True) o`. -/
def Holds (o : Outcome (List Action)) (E : Prop) (Q : List Action → Prop) : Prop :=
  match o with
  | .ok c => Q c
  | .panic _ => E
  | _ => False

section

variable {o : Outcome (List Action)} {Q : List Action → Prop} {E : Prop} {s : String}

theorem Holds.ok (h : Q c) : Holds (.ok c) E Q := h

theorem Holds.panic (h : E) : Holds (.panic s) E Q := h

theorem Holds.of_ok (h : Holds o E Q) (ho : o = .ok c) : Q c := by subst ho; exact h

theorem Holds.of_panic (h : Holds o E Q) (ho : o = .panic s) : E := by subst ho; exact h

theorem Holds.ok_or_panic (h : Holds o E Q) : (∃ c, o = .ok c) ∨ (∃ s, o = .panic s) := by
  cases o with
  | ok c => exact .inl ⟨c, rfl⟩
  | panic s => exact .inr ⟨s, rfl⟩
  | _ => exact h.elim

end

/-- one of the two `assert!(actions.len() == 1)` fires: without C05-fix-2, when the reduction overrides a SHIFT that is not
    alone in the cell -/
def AssertFails (fx : Fixes) (cfg : Cfg) (info : Nat → PInfo) (ta : Assoc) (sp : Option Nat) (r : Red)
    (cell : List Action) : Prop :=
  fx.noAssert = false ∧ Overrides fx cfg info ta sp r cell ∧ 2 ≤ cell.length

/-- every way `addReduce` panics: `assert!(shifts.len() <= 1)`, the two `assert!(actions.len() == 1)` and the index
    `max_prior_for_term[..]` (`¬ SpOk`); the `panic!` is unreachable -/
theorem addReduce_holds (r : Red) :
    Holds (addReduce fx cfg info ta sp r cell)
      (1 < shiftLikes cell ∨ AssertFails fx cfg info ta sp r cell ∨ ¬ SpOk sp cell)
      (fun c => Shape (.reduce r.prod r.pos) cell c ∧ ¬ AssertFails fx cfg info ta sp r cell) := by
  by_cases h : 1 < shiftLikes cell
  · unfold addReduce
    rw [if_neg (fun he => by rw [List.isEmpty_iff.mp he] at h; cases h)]
    show Holds (if 1 < shiftLikes cell then _ else _) _ _
    rw [if_pos h]
    exact .panic (.inl h)
  have h1 := Nat.not_lt.mp h
  rw [addReduce_eq_onShift h1]
  cases hh : (cell.filter isShiftLike).head? with
  | none =>
    exact .ok ⟨shape_rrStep _, by
      rintro ⟨_, ⟨sh, hm, hs, _⟩, _⟩
      cases hh.symm.trans (head_shifts h1 hm hs)⟩
  | some sh =>
    obtain ⟨hm, hs⟩ := head_shifts_mem hh
    show Holds (withShift fx cfg info ta r _ cell (shiftPrio sp sh)) _ _
    cases hp : shiftPrio sp sh with
    | none =>
      exact .panic (.inr (.inr fun h2 => by obtain ⟨_, h⟩ := shiftPrio_some h2 hm hs; cases hp.symm.trans h))
    | some shp =>
      -- `sh` is the only shift-like action, so `Overrides` speaks of the decision against it
      have hov : Overrides fx cfg info ta sp r cell →
          ∃ b, srDecide fx cfg (info r.prod) ta (compare (info r.prod).prio shp) = .override b := by
        rintro ⟨sh', hm', hs', shp', hp', hb⟩
        cases hh.symm.trans (head_shifts h1 hm' hs')
        cases hp.symm.trans hp'
        exact hb
      show Holds (applySR fx cfg info r _ cell (srDecide fx cfg (info r.prod) ta _)) _ _
      cases hd : srDecide fx cfg (info r.prod) ta (compare (info r.prod).prio shp) with
      | keepShift =>
        exact .ok ⟨.of_sub (.refl _), fun h => by obtain ⟨_, e⟩ := hov h.2.1; cases hd.symm.trans e⟩
      | both =>
        exact .ok ⟨shape_rrStep _, fun h => by obtain ⟨_, e⟩ := hov h.2.1; cases hd.symm.trans e⟩
      | override b =>
        show Holds (afterOverride fx cfg info r _ (overrideShift fx b cell)) _ _
        unfold overrideShift
        cases hn : fx.noAssert
        · rw [if_neg Bool.false_ne_true]
          by_cases hl : cell.length = 1
          · rw [if_pos (beq_iff_eq.mpr hl)]
            exact .ok ⟨(shape_rrStep _).trans_sub (List.dropLast_sublist _),
              fun h => Nat.ne_of_gt h.2.2 hl⟩
          · rw [if_neg (fun h => hl (beq_iff_eq.mp h))]
            exact .panic (.inr (.inl ⟨hn, ⟨sh, hm, hs, shp, hp, b, hd⟩,
              Nat.lt_of_le_of_ne (List.length_pos_of_mem hm) (Ne.symm hl)⟩))
        · exact .ok ⟨(shape_rrStep _).trans_sub List.filter_sublist, fun h => Bool.noConfusion (h.1.symm.trans hn)⟩

theorem shape_addReduce (h : addReduce fx cfg info ta sp r cell = .ok c) :
    Shape (.reduce r.prod r.pos) cell c :=
  ((addReduce_holds r).of_ok h).1

theorem addReduce_total (r : Red) (hn : fx.noAssert = true ∨ cell.length ≤ 1)
    (h1 : shiftLikes cell ≤ 1) (h2 : SpOk sp cell) :
    ∃ c, addReduce fx cfg info ta sp r cell = .ok c :=
  (addReduce_holds r).ok_or_panic.resolve_right fun ⟨_, hs⟩ =>
    ((addReduce_holds r).of_panic hs).elim (Nat.not_lt.mpr h1) fun h => h.elim
      (fun hP => hn.elim (fun e => Bool.noConfusion (hP.1.symm.trans e)) (fun e => Nat.not_lt.mpr e hP.2.2))
      (fun h => h h2)

theorem addReduce_panic_iff (r : Red) (h1 : shiftLikes cell ≤ 1) (h2 : SpOk sp cell) :
    (∃ site, addReduce fx cfg info ta sp r cell = .panic site) ↔ AssertFails fx cfg info ta sp r cell :=
  ⟨fun ⟨_, hs⟩ => (((addReduce_holds r).of_panic hs).resolve_left (Nat.not_lt.mpr h1)).resolve_right
      (not_not_intro h2),
    fun hP => (addReduce_holds r).ok_or_panic.resolve_left fun ⟨_, hc⟩ => ((addReduce_holds r).of_ok hc).2 hP⟩

end

theorem accepts_cons_accept (es : List Ev) : accepts (.accept :: es) = accepts es + 1 := by
  simp [accepts, List.filter]

theorem accepts_cons_red (r : Red) (es : List Ev) : accepts (.red r :: es) = accepts es := by
  have : (Ev.red r == Ev.accept) = false := by simp
  simp [accepts, List.filter, this]

theorem shiftLikes_append_accept (c : List Action) : shiftLikes (c ++ [.accept]) = shiftLikes c + 1 := by
  simp [shiftLikes, List.filter_append, List.filter]

theorem cell_nil (fx : Fixes) (cfg : Cfg) (info : Nat → PInfo) (ta : Assoc) (sp : Option Nat)
    (c : List Action) : cell fx cfg info ta sp c [] = .ok c := rfl

theorem cell_cons_red (c : List Action) (r : Red) (es : List Ev) :
    cell fx cfg info ta sp c (.red r :: es) =
      bindO (addReduce fx cfg info ta sp r c) (fun c' => cell fx cfg info ta sp c' es) := rfl

/-- `bindO` is `Glr.obind` (two model definitions of the one bind of `Outcome`) -/
theorem bindO_eq_ok {α β} {x : Outcome α} {f : α → Outcome β} {b : β} (h : bindO x f = .ok b) :
    ∃ a, x = .ok a ∧ f a = .ok b := by
  cases x with
  | ok a => exact ⟨a, rfl, h⟩
  | _ => cases h

def Ev.act : Ev → Action
  | .accept => .accept
  | .red r => r.act

/-- at most one event meets an empty cell: no resolution takes place -/
theorem cell_toList (o : Option Ev) : cell fx cfg info ta sp [] o.toList = .ok (o.toList.map Ev.act) := by
  rcases o with _ | _ | _ <;> rfl

theorem cell_sublist {evs : List Ev} {init c : List Action}
    (h : cell fx cfg info ta sp init evs = .ok c) : c.Sublist (init ++ evs.map Ev.act) := by
  induction evs generalizing init with
  | nil => injection h with h; subst h; exact List.sublist_append_left _ _
  | cons e es ih =>
    rw [List.map_cons, List.append_cons]
    cases e with
    | accept => exact ih h
    | red r =>
      obtain ⟨c1, hs, h⟩ := bindO_eq_ok h
      exact (ih h).trans ((shape_addReduce hs).append_right _)

theorem mem_cell (fx : Fixes) (cfg : Cfg) (info : Nat → PInfo) (ta : Assoc) (sp : Option Nat)
    (evs : List Ev) (init c : List Action) (h : cell fx cfg info ta sp init evs = .ok c)
    (a : Action) (ha : a ∈ c) : a ∈ init ∨ (a = .accept ∧ Ev.accept ∈ evs) ∨
      ∃ r, Ev.red r ∈ evs ∧ a = .reduce r.prod r.pos := by
  refine (List.mem_append.mp ((cell_sublist h).subset ha)).imp_right (fun h => ?_)
  obtain ⟨e, he, rfl⟩ := List.mem_map.mp h
  cases e with
  | accept => exact .inl ⟨rfl, he⟩
  | red r => exact .inr ⟨r, he, rfl⟩

theorem SpOk.step {cell c : List Action} {new : Action} (h : SpOk sp cell)
    (hnew : ∀ s, new ≠ .shift s) (hm : ∀ a ∈ c, a ∈ cell ∨ a = new) : SpOk sp c := by
  rcases h with h | h
  · exact .inl h
  · refine .inr (fun s hs => ?_)
    rcases hm _ hs with h1 | h1
    · exact h s h1
    · exact hnew s h1.symm

/-- the hypotheses in rustemo's terms: `calc_states` and the completed augmented item together contribute at most one
    SHIFT/ACCEPT to a cell, and the state's `max_prior_for_term` has an entry whenever the cell has a SHIFT -/
theorem cell_total (fx : Fixes) (hn : fx.noAssert = true) (cfg : Cfg) (info : Nat → PInfo)
    (ta : Assoc) (sp : Option Nat) (evs : List Ev) : ∀ (init : List Action),
    shiftLikes init + accepts evs ≤ 1 → SpOk sp init →
    ∃ c, cell fx cfg info ta sp init evs = .ok c := by
  induction evs with
  | nil => intro init _ _; exact ⟨init, rfl⟩
  | cons e es ih =>
    intro init h1 h2
    cases e with
    | accept =>
      show ∃ c, cell fx cfg info ta sp (init ++ [.accept]) es = .ok c
      apply ih
      · rw [accepts_cons_accept] at h1; rw [shiftLikes_append_accept]; omega
      · exact h2.step (new := .accept) (fun s => by simp) (fun a ha => by simpa using ha)
    | red r =>
      rw [accepts_cons_red] at h1
      have ⟨c1, hc1⟩ : ∃ c1, addReduce fx cfg info ta sp r init = .ok c1 :=
        addReduce_total r (.inl hn) (by omega) h2
      rw [cell_cons_red, hc1]
      have hsh := shape_addReduce hc1
      exact ih c1 (by have := hsh.shiftLikes_le; omega)
        (h2.step (new := .reduce r.prod r.pos) (fun s => by simp) (fun a ha => hsh.mem ha))

theorem foldl_maxOpt_some (l : List Nat) (a : Nat) :
    l.foldl maxOpt (some a) = some (l.foldl max a) := by
  induction l generalizing a with
  | nil => rfl
  | cons x xs ih => exact ih _

theorem foldl_maxOpt (l : List Nat) : l.foldl maxOpt none = l.max? := by
  cases l with
  | nil => rfl
  | cons a l => exact foldl_maxOpt_some l a

theorem maxPrior_fold_eq (g : Grammar) (t : Nat) (items : List Item) (acc : Option Nat) :
    items.foldl (fun acc it =>
      if nextSym g it == some t then maxOpt acc (infoOf g it.prod).prio else acc) acc =
    ((items.filter (fun it => nextSym g it == some t)).map
      (fun it => (infoOf g it.prod).prio)).foldl maxOpt acc := by
  induction items generalizing acc with
  | nil => rfl
  | cons it its ih =>
    rw [List.foldl_cons, ih, List.filter_cons]
    cases nextSym g it == some t <;> rfl

theorem maxPrior_eq_max (g : Grammar) (items : List Item) (t : Nat) :
    maxPrior g items t = ((items.filter (fun it => nextSym g it == some t)).map
      (fun it => (infoOf g it.prod).prio)).max? :=
  (maxPrior_fold_eq g t items none).trans (foldl_maxOpt _)

theorem maxPrior_eq_none_iff {g : Grammar} {items : List Item} {t : Nat} :
    maxPrior g items t = none ↔ ∀ it ∈ items, nextSym g it ≠ some t := by
  simp only [maxPrior_eq_max, List.max?_eq_none_iff, List.map_eq_nil_iff, List.filter_eq_nil_iff,
    beq_iff_eq, ne_eq]

theorem maxPrior_eq_some_iff {g : Grammar} {items : List Item} {t m : Nat} :
    maxPrior g items t = some m ↔
      (∃ it ∈ items, nextSym g it = some t ∧ (infoOf g it.prod).prio = m) ∧
      ∀ it ∈ items, nextSym g it = some t → (infoOf g it.prod).prio ≤ m := by
  simp only [maxPrior_eq_max, List.max?_eq_some_iff, List.mem_map, List.mem_filter, beq_iff_eq,
    and_assoc]
  exact and_congr_right fun _ => ⟨fun h it hi hn => h _ ⟨it, hi, hn, rfl⟩,
    fun h _ ⟨it, hi, hn, e⟩ => e ▸ h it hi hn⟩

theorem isReducing_cases {g : Grammar} {rn : Option (Array Nat)} {it : Item} {pr : Prod}
    (hp : g.prods[it.prod]? = some pr) (h : isReducing g rn it = true) :
    it.dot = pr.rhs.length ∨ ∃ a l, rn = some a ∧ a[it.prod]? = some l ∧ l ≤ it.dot := by
  unfold isReducing infoOf at h
  rw [hp] at h
  simp only [Bool.or_eq_true, beq_iff_eq] at h
  rcases h with h | h
  · exact .inl h
  · cases rn with
    | none => cases h
    | some a =>
      cases hl : a[it.prod]? with
      | none => simp [hl] at h
      | some l => exact .inr ⟨a, l, rfl, hl, by simpa [hl] using h⟩

theorem evOf_red_iff {g : Grammar} {rn : Option (Array Nat)} {t : Nat} {it : Item} {r : Red} :
    evOf g rn t it = some (.red r) ↔
      isReducing g rn it = true ∧ isAugProd g it.prod = false ∧ t ∈ it.la ∧ ⟨it.prod, it.dot⟩ = r := by
  unfold evOf
  cases isReducing g rn it <;> cases isAugProd g it.prod <;> simp

theorem evOf_accept_iff {g : Grammar} {rn : Option (Array Nat)} {t : Nat} {it : Item} :
    evOf g rn t it = some .accept ↔
      isReducing g rn it = true ∧ isAugProd g it.prod = true ∧ t = 0 ∧ it.dot = (infoOf g it.prod).len := by
  unfold evOf
  cases isReducing g rn it <;> cases isAugProd g it.prod <;> simp

end Rustemo.Resolve
