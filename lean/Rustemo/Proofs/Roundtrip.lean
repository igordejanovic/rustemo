import Rustemo.Proofs.StringLexer
import Rustemo.Proofs.LRSound
import Rustemo.Proofs.CertSound
/-!
C14.  `GInv`: the leaves on the result stack, each preceded by its stored layout, concatenate to the input up to the end `E` of
the last shifted token, and the layout ahead is the input between `E` and the position (what a re-lex after a reduce skips is
merged into it).  `parse_ginv` is the round trip of `parse` (string lexer, `StringEnv`) provided `nextTokenMain` leaves as layout
ahead what it skipped (`NtG`); default whitespace skipping does (`parse_roundtrip`), the Layout rule is Proofs/LayoutParse.lean.
-/

namespace Rustemo

def layBytes (input : List Nat) : Option Slice → List Nat
  | some s => sliceOf input s
  | none => []

mutual
def Tree.flat (input : List Nat) : Tree → List Nat
  | .leaf _ _ v l => layBytes input l ++ sliceOf input v
  | .node _ _ _ cs => TreeList.flat input cs
def TreeList.flat (input : List Nat) : TreeList → List Nat
  | .nil => []
  | .cons t ts => Tree.flat input t ++ TreeList.flat input ts
end

def flatRes (input : List Nat) (res : List Tree) : List Nat :=
  (res.reverse.map (Tree.flat input)).flatten

theorem flatRes_nil (input : List Nat) : flatRes input [] = [] := rfl

theorem flatRes_cons (input : List Nat) (t : Tree) (res : List Tree) :
    flatRes input (t :: res) = flatRes input res ++ t.flat input := by
  simp only [flatRes, List.reverse_cons, List.map_append, List.flatten_append, List.map_cons, List.map_nil,
    List.flatten_cons, List.flatten_nil, List.append_nil]

theorem flat_ofList (input : List Nat) (l : List Tree) :
    (TreeList.ofList l).flat input = (l.map (Tree.flat input)).flatten := by
  induction l with
  | nil => simp [TreeList.ofList, TreeList.flat]
  | cons t ts ih => simp [TreeList.ofList, TreeList.flat, ih]

theorem flatRes_take_drop (input : List Nat) (res : List Tree) (n : Nat) :
    flatRes input res =
      flatRes input (res.drop n) ++ (((res.take n).reverse).map (Tree.flat input)).flatten := by
  unfold flatRes
  have h : res.reverse = (res.drop n).reverse ++ (res.take n).reverse := by
    rw [← List.reverse_append, List.take_append_drop]
  rw [h, List.map_append, List.flatten_append]

def endOf : List Tok → Nat
  | [] => 0
  | tk :: _ => tk.val.1 + tk.val.2

def layOf (E p : Nat) : Option Slice := if E < p then some (E, p - E) else none

theorem layOf_self (E : Nat) : layOf E E = none := if_neg (Nat.lt_irrefl E)

def LayOk (E : Nat) (ctx : Ctx) : Prop := E ≤ ctx.pos.pos ∧ ctx.lay = layOf E ctx.pos.pos

theorem take_append_slice (input : List Nat) (a b : Nat) (hab : a ≤ b) :
    input.take a ++ sliceOf input (a, b - a) = input.take b := by
  unfold sliceOf
  simp only
  have : b = a + (b - a) := by omega
  conv => rhs; rw [this, List.take_add]

theorem slice_append_slice (input : List Nat) (a b c : Nat) (hab : a ≤ b) (hbc : b ≤ c) :
    sliceOf input (a, b - a) ++ sliceOf input (b, c - b) = sliceOf input (a, c - a) := by
  unfold sliceOf
  simp only
  have h1 : c - a = (b - a) + (c - b) := by omega
  rw [h1, List.take_add, List.drop_drop]
  congr 3
  omega

theorem mergeLay_same (l : Option Slice) (p : Nat) : mergeLay l p p = l := by
  simp [mergeLay]

structure GInv (env : Env) (c : Cfg) : Prop where
  flat : flatRes env.input c.res = env.input.take (endOf c.hist)
  lay : LayOk (endOf c.hist) c.ctx

/-- what `GInv` needs of `next_token` beyond `NtOk`.  The two premises on `ctx` hold (by `rfl`) of the start context and of
    `shiftCtx`: called right after a shift it leaves as layout ahead exactly what it skipped -/
def NtG (env : Env) (nt : Ctx → Ctx × Outcome Tok) : Prop :=
  ∀ ctx ctx' tk, CtxOk env.input ctx → nt ctx = (ctx', .ok tk) → ctx.lay = none →
    ctx.span.e.pos = ctx.pos.pos → LayOk ctx.pos.pos ctx'

theorem ntG_of_ntWs (env : Env) (nt : Ctx → Ctx × Outcome Tok) (h : NtWs env nt) : NtG env nt := by
  intro ctx ctx' tk _ hn hl _
  obtain ⟨hpos, hlay, _⟩ := h ctx ctx' _ hn
  rw [postSkip_eq] at hpos
  refine ⟨hpos ▸ Nat.le_add_right _ _, ?_⟩
  rw [hlay, hpos, layAfter, layOf, hl, Nat.add_sub_cancel_left]
  cases hsk : env.skipWs with
  | false => simp [wsAt, hsk]
  | true => by_cases hn : wsAt env ctx.pos.pos > 0 <;> simp [hn]

theorem layBytes_of_layOk (input : List Nat) {E : Nat} {ctx : Ctx} (h : LayOk E ctx) :
    layBytes input ctx.lay = sliceOf input (E, ctx.pos.pos - E) := by
  rw [h.2, layOf]
  split
  · rfl
  · rw [Nat.sub_eq_zero_of_le (Nat.not_lt.mp ‹_›)]; simp [layBytes, sliceOf]

theorem mergeLay_layOf {E p p' : Nat} (hE : E ≤ p) (hp : p ≤ p') : mergeLay (layOf E p) p p' = layOf E p' := by
  unfold mergeLay
  split
  · have hs : p - layLen (layOf E p) = E := by
      unfold layOf; split
      · exact Nat.sub_sub_self hE
      · exact Nat.le_antisymm (Nat.not_lt.mp ‹_›) hE
    rw [hs, layOf, if_pos (Nat.lt_of_le_of_lt hE ‹_›)]
  · rw [Nat.le_antisymm hp (Nat.not_lt.mp ‹_›)]

theorem layOk_merge {E : Nat} {old : Ctx} (h : LayOk E old) (ctx1 : Ctx) (hle : old.pos.pos ≤ ctx1.pos.pos) :
    LayOk E { ctx1 with lay := mergeLay old.lay old.pos.pos ctx1.pos.pos } :=
  ⟨Nat.le_trans h.1 hle, by rw [h.2]; exact mergeLay_layOf h.1 hle⟩

theorem flat_shift (env : Env) (c : Cfg)
    (hflat : flatRes env.input c.res = env.input.take (endOf c.hist))
    (hlay : LayOk (endOf c.hist) c.ctx) (hv1 : c.tok.val.1 = c.ctx.pos.pos) :
    flatRes env.input (shiftLeaf c :: c.res) = env.input.take (c.tok.val.1 + c.tok.val.2) := by
  have hle := hlay.1
  rw [flatRes_cons, hflat, shiftLeaf, Tree.flat, layBytes_of_layOk env.input hlay]
  have hval : sliceOf env.input c.tok.val =
      sliceOf env.input (c.ctx.pos.pos, (c.tok.val.1 + c.tok.val.2) - c.ctx.pos.pos) := by
    have : c.tok.val = (c.tok.val.1, c.tok.val.2) := rfl
    rw [this, hv1]
    congr 2
    omega
  rw [hval, slice_append_slice _ _ _ _ hle (by omega), take_append_slice _ _ _ (by omega)]

theorem flat_reduce (env : Env) (c : Cfg) (p len : Nat) :
    flatRes env.input (reduceNode c p len :: c.res.drop len) = flatRes env.input c.res := by
  rw [flatRes_cons, flatRes_take_drop env.input c.res len, reduceNode, Tree.flat, flat_ofList]

theorem step_ginv (env : Env) (nt : Ctx → Ctx × Outcome Tok) (c c' : Cfg) (hnt : NtOk env nt)
    (hg : NtG env nt) (hns : NoShiftStop env.t) (hs : SInv env c) (hinv : GInv env c)
    (hstep : step env nt c = .next c') : GInv env c' := by
  cases step_eq_next env nt c c' hstep with
  | shift state s' acts ctx1 tk htop hcell hnt1 hc' =>
    have hsh := hs.shiftAt hns hcell
    have hv1 := hsh.tokAt.1
    have hlay := hg _ ctx1 tk hsh.ctxOk hnt1 rfl rfl
    rw [hsh.pos_pos, ← hv1] at hlay
    subst hc'
    exact ⟨flat_shift env c hinv.flat hinv.lay hv1, hlay⟩
  | reduce p len s' pr ctx1 tk hr hrlen hnt1 hc' =>
    have hmono := (hnt.fwd (ctxOk_reduceCtx hs s') hnt1).le
    subst hc'
    exact ⟨(flat_reduce env c p len).trans hinv.flat, layOk_merge hinv.lay ctx1 hmono⟩

theorem parse_ginv_with (env : Env) (he : StringEnv env) (pp : Bool) (fuel : Nat)
    (hnt : NtG env (nextTokenMain env pp fuel)) (I : Cfg → Prop)
    (hI : ∀ c c', SInv env c → GInv env c → I c → step env (nextTokenMain env pp fuel) c = .next c' → I c')
    (hI0 : ∀ ctx1 tk, nextTokenMain env pp fuel {} = (ctx1, .ok tk) → LayOk 0 ctx1 →
      I ⟨[⟨0, ({} : Ctx).span⟩], [], none, ctx1, tk, []⟩)
    {ctx : Ctx} {r : ParseResult} (h : parse env pp fuel = (ctx, .ok r)) :
    ∃ c, SInv env c ∧ GInv env c ∧ I c ∧ StepDone env c ctx r := by
  have hok := ntOk_main env he pp fuel
  have hns := he.noShiftStop
  obtain ⟨c, hs, ⟨hg, hi⟩, hd⟩ := parseWith_sinv env _ hok hns (fun c => GInv env c ∧ I c)
    (fun c c' hsi _ hi hstep => ⟨step_ginv env _ c c' hok hnt hns hsi hi.1 hstep, hI c c' hsi hi.1 hi.2 hstep⟩)
    (ctxOk_start _) h
    (fun ctx1 tk hnt1 =>
      have hl0 : LayOk 0 ctx1 := hnt _ ctx1 tk (ctxOk_start _) hnt1 rfl rfl
      ⟨⟨flatRes_nil _, hl0⟩, hI0 ctx1 tk hnt1 hl0⟩)
  exact ⟨c, hs, hg, hi, hd⟩

theorem parse_ginv (env : Env) (he : StringEnv env) (hs : Structural env.g env.t (autosOf env.g env.t)) (pp : Bool) (fuel : Nat)
    (hnt : NtG env (nextTokenMain env pp fuel)) (ctx : Ctx) (r : ParseResult)
    (h : parse env pp fuel = (ctx, .ok r)) :
    Tree.flat env.input r.tree ++ layBytes env.input ctx.lay = env.input.take ctx.pos.pos ∧
    Tree.flat env.input r.tree = env.input.take (endOf r.hist) := by
  have hin := mem_autosOf_main env.g env.t
  obtain ⟨c, _, hg, hci, hdone⟩ := parse_ginv_with env he pp fuel hnt (CertInv env 0)
    (fun c c' _ _ hi hstep => step_certInv env _ hs hin c c' hi hstep) (fun _ _ _ _ => certInv_init ..) h
  -- the only use of the certificate: at accept the result stack holds the result and nothing else
  obtain ⟨hctx, hres, _, hhist, _⟩ := done_certInv hs hin hci hdone
  have hflat : Tree.flat env.input r.tree = env.input.take (endOf c.hist) := by
    have := hg.flat
    rw [hres] at this
    simpa [flatRes] using this
  refine ⟨?_, by rw [hhist]; exact hflat⟩
  rw [hflat, hctx, layBytes_of_layOk env.input hg.lay]
  exact take_append_slice _ _ _ hg.lay.1

theorem parse_roundtrip (env : Env) (he : StringEnv env) (hl : env.t.layoutState = none)
    (hs : Structural env.g env.t (autosOf env.g env.t)) (pp : Bool) (fuel : Nat) (ctx : Ctx) (r : ParseResult)
    (h : parse env pp fuel = (ctx, .ok r)) :
    Tree.flat env.input r.tree ++ layBytes env.input ctx.lay = env.input.take ctx.pos.pos :=
  (parse_ginv env he hs pp fuel (ntG_of_ntWs env _ (ntWs_main env he.custom hl pp fuel)) ctx r h).1

end Rustemo
