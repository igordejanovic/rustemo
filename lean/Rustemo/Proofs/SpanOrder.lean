import Rustemo.Proofs.StringLexer
/-!
C13, the ordering of siblings.  `Tree.Ordered` (at every node the children's spans are ascending, disjoint and inside the node's:
`SibAsc`) puts an empty nonterminal, zero-width by `SpanOk`, between the end of its left neighbour and the start of its right one
at every level; with containment this orders all leaves.  `OInv` says it of the result stack, between 0 and `ctx.span.e`, the end
of the last shifted token.  It is carried next to `SInv`; of the contract `NtOk` on `next_token` it reads only `Ctx.Fwd`: the span
is left alone, which holds of the main parser because the layout sub-parse does not overwrite it (repo 8db9d03).
-/

namespace Rustemo

def SibAsc : List Span → Nat → Nat → Prop
  | [], a, b => a ≤ b
  | x :: r, a, b => a ≤ x.s.pos ∧ x.s.pos ≤ x.e.pos ∧ SibAsc r x.e.pos b

mutual
def Tree.Ordered : Tree → Prop
  | .leaf _ sp _ _ => sp.s.pos ≤ sp.e.pos
  | .node _ sp _ cs => SibAsc (TreeList.spans cs) sp.s.pos sp.e.pos ∧ TreeList.Ordered cs
def TreeList.Ordered : TreeList → Prop
  | .nil => True
  | .cons t ts => Tree.Ordered t ∧ TreeList.Ordered ts
def TreeList.spans : TreeList → List Span
  | .nil => []
  | .cons t ts => Tree.span t :: TreeList.spans ts
end

theorem spans_ofList (l : List Tree) : (TreeList.ofList l).spans = l.map Tree.span := by
  induction l with
  | nil => simp [TreeList.ofList, TreeList.spans]
  | cons t ts ih => simp [TreeList.ofList, TreeList.spans, ih]

theorem SibAsc.le : ∀ {l : List Span} {a b : Nat}, SibAsc l a b → a ≤ b
  | [], _, _, h => h
  | x :: r, a, b, h => by
    obtain ⟨h1, h2, h3⟩ := h
    have := SibAsc.le h3
    omega

theorem sibAsc_append (x : Span) : ∀ (l : List Span) (a m b : Nat), SibAsc l a m → m ≤ x.s.pos →
    x.s.pos ≤ x.e.pos → x.e.pos ≤ b → SibAsc (l ++ [x]) a b
  | [], a, m, b, h, h1, h2, h3 => by
    simp only [List.nil_append, SibAsc]
    have : a ≤ m := h
    exact ⟨by omega, h2, h3⟩
  | y :: r, a, m, b, h, h1, h2, h3 => by
    obtain ⟨ha, hy, hr⟩ := h
    simp only [List.cons_append, SibAsc]
    exact ⟨ha, hy, sibAsc_append x r _ m b hr h1 h2 h3⟩

theorem SibAsc.split : ∀ (l r : List Span) {a b : Nat}, SibAsc (l ++ r) a b → ∃ m, SibAsc l a m ∧ SibAsc r m b
  | [], _, a, _, h => ⟨a, Nat.le_refl a, h⟩
  | _ :: l, r, _, _, ⟨h1, h2, h3⟩ =>
    let ⟨m, hl, hr⟩ := SibAsc.split l r h3
    ⟨m, ⟨h1, h2, hl⟩, hr⟩

theorem sibAsc_node {kids : List Tree} {sp : Span} {m b : Nat} (h : SibAsc (kids.map Tree.span) m b)
    (hsp : NodeSpan sp kids) (h0 : kids = [] → sp.e.pos = b) :
    SibAsc (kids.map Tree.span) sp.s.pos sp.e.pos ∧ m ≤ sp.s.pos ∧ sp.e.pos ≤ b := by
  cases hl : kids.getLast? with
  | none =>
    have hk := List.getLast?_eq_none_iff.mp hl
    have hm : m ≤ b := by rw [hk] at h; exact h
    rw [hk, hsp.2 hk]
    exact ⟨Nat.le_refl _, h0 hk ▸ hm, Nat.le_of_eq (h0 hk)⟩
  | some z =>
    obtain ⟨ys, rfl⟩ := List.getLast?_eq_some_iff.mp hl
    rw [List.map_append] at h ⊢
    obtain ⟨m', hys, hz1, hz2, hz3⟩ := SibAsc.split _ _ h
    cases hf : (ys ++ [z]).head? with
    | none => simp at hf
    | some f =>
      obtain ⟨e1, e2⟩ := hsp.1 f z hf hl
      have hin := sibAsc_append z.span _ m m' z.span.e.pos hys hz1 hz2 (Nat.le_refl _)
      rw [e1, e2]
      cases ys with
      | nil => cases Option.some.inj hf; exact ⟨⟨Nat.le_refl _, hin.2⟩, hin.1, hz3⟩
      | cons y ys => cases Option.some.inj hf; exact ⟨⟨Nat.le_refl _, hin.2⟩, hin.1, hz3⟩

structure OInv (c : Cfg) : Prop where
  chain : SibAsc (c.res.reverse.map Tree.span) 0 c.ctx.span.e.pos
  spanE : c.ctx.span.e.pos ≤ c.ctx.pos.pos
  trees : ∀ t ∈ c.res, t.Ordered

theorem step_oinv (env : Env) (nt : Ctx → Ctx × Outcome Tok) (c c' : Cfg) (hnt : NtOk env nt)
    (hns : NoShiftStop env.t) (hs : SInv env c) (hs' : SInv env c') (hinv : OInv c)
    (hstep : step env nt c = .next c') : OInv c' := by
  cases step_eq_next env nt c c' hstep with
  | shift state s' acts ctx1 tk htop hcell hnt1 hc' =>
    obtain ⟨_, ⟨hv1, _, hspan, _⟩, hsh, hcs⟩ := hs.shiftAt hns hcell
    obtain ⟨_, hsp, hpos⟩ := hnt.fwd hcs hnt1
    have hpos := hpos.le
    have hleaf : c.tok.span = ctx1.span := by
      rw [hsp, hspan, hv1, ← hsh]; rfl
    have hse : c.tok.span.s.pos ≤ c.tok.span.e.pos := by
      rw [hleaf, hsp]; exact Nat.le_add_right c.ctx.pos.pos _
    subst hc'
    refine ⟨?_, hsp ▸ hpos, ?_⟩
    · show SibAsc ((shiftLeaf c :: c.res).reverse.map Tree.span) 0 ctx1.span.e.pos
      rw [List.reverse_cons, List.map_append]
      refine sibAsc_append _ _ 0 _ _ hinv.chain ?_ hse (Nat.le_of_eq (congrArg (·.e.pos) hleaf))
      show c.ctx.span.e.pos ≤ c.tok.span.s.pos
      rw [hleaf, hsp]; exact hinv.spanE
    · exact res_all_shift hinv.trees hse
  | reduce p len s' pr ctx1 tk hr hrlen hnt1 hc' =>
    obtain ⟨_, hsp, hpos⟩ := hnt.fwd (ctxOk_reduceCtx hs s') hnt1
    have hpos := hpos.le
    have hsp' : ctx1.span = c.ctx.span := hsp
    subst hc'
    -- the chain splits into what lies below the node and its children; the node's span is located by `SInv` of `c'`
    have hrev : c.res.reverse = (c.res.drop len).reverse ++ (c.res.take len).reverse := by
      rw [← List.reverse_append, List.take_append_drop]
    obtain ⟨m, hbelow, hkids⟩ := SibAsc.split _ _ (by rw [← List.map_append, ← hrev]; exact hinv.chain)
    have hnode : (reduceNode c p len).SpanOk env.input := hs'.trees _ List.mem_cons_self
    simp only [reduceNode, Tree.SpanOk, toList_ofList] at hnode
    obtain ⟨k1, k2, k3⟩ := sibAsc_node hkids hnode.2.2.2 (fun h => by
      rw [List.reverse_eq_nil_iff, List.take_eq_nil_iff] at h
      obtain rfl : len = 0 := h.elim id (fun h => by rw [h] at hrlen; exact Nat.le_zero.mp hrlen)
      rfl)
    refine ⟨?_, by rw [hsp']; exact Nat.le_trans hinv.spanE hpos, ?_⟩
    · show SibAsc ((reduceNode c p len :: c.res.drop len).reverse.map Tree.span) 0 ctx1.span.e.pos
      rw [List.reverse_cons, List.map_append, hsp']
      exact sibAsc_append _ _ 0 m _ hbelow k2 (SibAsc.le k1) k3
    · exact res_all_reduce hinv.trees ⟨by rw [spans_ofList]; exact k1, TreeList.ofList_all (PL := TreeList.Ordered) trivial
        (fun _ _ => And.intro) _ (kids_all hinv.trees len)⟩

/-- **Ordering.** every tree returned by the LR parser model is `Ordered` -/
theorem parse_ordered (env : Env) (he : StringEnv env) (pp : Bool) (fuel : Nat) (ctx : Ctx) (r : ParseResult)
    (h : parse env pp fuel = (ctx, .ok r)) : r.tree.Ordered := by
  have hntok := ntOk_main env he pp fuel
  obtain ⟨c, _, hinv, hdone⟩ := parseWith_sinv env _ hntok he.noShiftStop OInv
    (fun c c' => step_oinv env _ c c' hntok he.noShiftStop) (ctxOk_start _) h (by
      intro ctx1 tk hnt1
      obtain ⟨_, hsp, hpos⟩ := hntok.fwd (ctxOk_start _) hnt1
      have hpos := hpos.le
      refine ⟨Nat.zero_le _, ?_, by simp⟩
      show ctx1.span.e.pos ≤ ctx1.pos.pos
      rw [hsp]
      exact hpos)
  exact hinv.trees _ hdone.tree_mem

end Rustemo
