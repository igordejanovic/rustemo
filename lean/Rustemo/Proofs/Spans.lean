import Rustemo.Proofs.NextToken
import Rustemo.Proofs.CoreSound
/-!
C13.  `Tree.SpanOk`: a token's value is the input slice at its span, a nonterminal's span runs from the start of its
first child to the end of its last, an empty nonterminal is zero-width.  The invariant `SInv` is kept by every step
for any `next_token` that meets the one contract `NtOk`; the invariants of the later files are carried next to it
(`parseWith_sinv`) and read positions and the token ahead off it.
-/

namespace Rustemo

def PosOk (input : List Nat) (p : Pos) : Prop := p = posOf input p.pos ∧ p.pos ≤ input.length

def Tree.span : Tree → Span
  | .leaf _ sp _ _ => sp
  | .node _ sp _ _ => sp

def NodeSpan (sp : Span) (cs : List Tree) : Prop :=
  (∀ f l, cs.head? = some f → cs.getLast? = some l → sp.s = f.span.s ∧ sp.e = l.span.e) ∧
  (cs = [] → sp.s = sp.e)

mutual
def Tree.SpanOk (input : List Nat) : Tree → Prop
  | .leaf _ sp v _ => PosOk input sp.s ∧ PosOk input sp.e ∧ sp.s.pos = v.1 ∧ sp.e.pos = v.1 + v.2
  | .node _ sp _ cs => PosOk input sp.s ∧ PosOk input sp.e ∧ TreeList.SpanOk input cs ∧ NodeSpan sp cs.toList
def TreeList.SpanOk (input : List Nat) : TreeList → Prop
  | .nil => True
  | .cons t ts => Tree.SpanOk input t ∧ TreeList.SpanOk input ts
end

theorem Tree.SpanOk.pos {input : List Nat} : ∀ {t : Tree}, t.SpanOk input →
    PosOk input t.span.s ∧ PosOk input t.span.e
  | .leaf _ _ _ _, h => ⟨h.1, h.2.1⟩
  | .node _ _ _ _, h => ⟨h.1, h.2.1⟩

@[simp] theorem toList_ofList (l : List Tree) : (TreeList.ofList l).toList = l := by
  induction l with
  | nil => rfl
  | cons t ts ih => simp [TreeList.ofList, TreeList.toList, ih]

def CtxOk (input : List Nat) (ctx : Ctx) : Prop :=
  PosOk input ctx.pos ∧ PosOk input ctx.span.s ∧ PosOk input ctx.span.e

theorem posOf_ok (input : List Nat) (n : Nat) (h : n ≤ input.length) : PosOk input (posOf input n) := by
  have := posOf_pos input n h
  exact ⟨by rw [this], by rw [this]; exact h⟩

theorem posOk_start (input : List Nat) : PosOk input Pos.start := by
  unfold PosOk posOf Pos.start; simp [posAfter, lastNl]

theorem ctxOk_start (input : List Nat) : CtxOk input {} :=
  ⟨posOk_start input, posOk_start input, posOk_start input⟩

theorem posOk_advance {input : List Nat} {p : Pos} (hp : PosOk input p) {n : Nat}
    (hn : p.pos + n ≤ input.length) :
    posAfter (sliceOf input (p.pos, n)) p = posOf input (p.pos + n) ∧
    PosOk input (posOf input (p.pos + n)) := by
  have h1 := posAfter_slice input p.pos n
  rw [← hp.1] at h1
  exact ⟨h1, posOf_ok input _ hn⟩

def TokAt (env : Env) (pos : Pos) (tk : Tok) : Prop :=
  tk.val.1 = pos.pos ∧ tk.val.1 + tk.val.2 ≤ env.input.length ∧
    tk.span = ⟨pos, posOf env.input (tk.val.1 + tk.val.2)⟩ ∧ env.recog tk.kind tk.val.1 = some tk.val.2

/-- the token ahead: a match at the context's position, or the zero-width STOP of partial parsing, which
    carries the context span instead and is never shifted -/
def TokOk (env : Env) (ctx : Ctx) (tk : Tok) : Prop := tk.kind = 0 ∨ TokAt env ctx.pos tk

/-- what the loop asks of `next_token` (string lexer) -/
def NtOk (env : Env) (nt : Ctx → Ctx × Outcome Tok) : Prop :=
  ∀ ctx ctx' o, CtxOk env.input ctx → nt ctx = (ctx', o) →
    CtxOk env.input ctx' ∧ ctx.Fwd ctx' ∧ ∀ tk, o = .ok tk → TokOk env ctx' tk

section
variable {env : Env} {nt : Ctx → Ctx × Outcome Tok} (h : NtOk env nt) {c c' : Ctx} (hc : CtxOk env.input c)
include h hc

theorem NtOk.ctxOk {o : Outcome Tok} (hn : nt c = (c', o)) : CtxOk env.input c' := (h _ _ _ hc hn).1

theorem NtOk.fwd {o : Outcome Tok} (hn : nt c = (c', o)) : c.Fwd c' := (h _ _ _ hc hn).2.1

theorem NtOk.tokOk {tk : Tok} (hn : nt c = (c', .ok tk)) : TokOk env c' tk := (h _ _ _ hc hn).2.2 tk rfl

end

structure SInv (env : Env) (c : Cfg) : Prop where
  len : c.stack.length = c.res.length + 1
  ctx : CtxOk env.input c.ctx
  trees : ∀ t ∈ c.res, t.SpanOk env.input
  align : (c.stack.take c.res.length).map (·.span) = c.res.map Tree.span
  tok : TokOk env c.ctx c.tok

/-- what `SInv` and `NoShiftStop` say where the loop shifts: the token ahead is a recognizer match at the position, not the
    zero-width STOP, and the lexer is called at its end -/
structure ShiftAt (env : Env) (c : Cfg) (s' : Nat) : Prop where
  kind : c.tok.kind ≠ 0
  tokAt : TokAt env c.ctx.pos c.tok
  pos : (shiftCtx env c s').pos = posOf env.input (c.ctx.pos.pos + c.tok.val.2)
  ctxOk : CtxOk env.input (shiftCtx env c s')

theorem SInv.shiftAt {env : Env} {c : Cfg} (hinv : SInv env c) (hns : NoShiftStop env.t) {state s' : Nat}
    {acts : List Action} (hcell : env.t.cell state c.tok.kind = .shift s' :: acts) : ShiftAt env c s' := by
  have hk : c.tok.kind ≠ 0 := fun h0 => hns state s' (by rw [← h0, hcell]; exact List.mem_cons_self)
  have hat := hinv.tok.resolve_left hk
  have hle : c.ctx.pos.pos + c.tok.val.2 ≤ env.input.length := hat.1 ▸ hat.2.1
  have hpos : (shiftCtx env c s').pos = posOf env.input (c.ctx.pos.pos + c.tok.val.2) := by
    show posAfter (sliceOf env.input c.tok.val) c.ctx.pos = _
    rw [show c.tok.val = (c.ctx.pos.pos, c.tok.val.2) from Prod.ext hat.1 rfl]
    exact (posOk_advance hinv.ctx.1 hle).1
  have hok : PosOk env.input (shiftCtx env c s').pos := hpos ▸ posOf_ok env.input _ hle
  exact ⟨hk, hat, hpos, hok, hinv.ctx.1, hok⟩

theorem ShiftAt.pos_pos {env : Env} {c : Cfg} {s' : Nat} (h : ShiftAt env c s') :
    (shiftCtx env c s').pos.pos = c.ctx.pos.pos + c.tok.val.2 := by
  rw [h.pos, posOf_pos _ _ (h.tokAt.1 ▸ h.tokAt.2.1)]

theorem ctxOk_reduceCtx {env : Env} {c : Cfg} (hinv : SInv env c) (s' : Nat) : CtxOk env.input (reduceCtx c s') :=
  hinv.ctx

theorem map_span_take {stack : List StackItem} {res : List Tree} {n : Nat}
    (h : (stack.take res.length).map (·.span) = res.map Tree.span) (hn : n ≤ res.length) :
    (stack.take n).map (·.span) = (res.take n).map Tree.span := by
  have := congrArg (List.take n) h
  rw [← List.map_take, ← List.map_take, List.take_take, Nat.min_eq_left hn] at this
  exact this

theorem map_span_drop {stack : List StackItem} {res : List Tree} {n : Nat}
    (h : (stack.take res.length).map (·.span) = res.map Tree.span) :
    ((stack.drop n).take (res.drop n).length).map (·.span) = (res.drop n).map Tree.span := by
  have := congrArg (List.drop n) h
  rw [← List.map_drop, ← List.map_drop, List.drop_take] at this
  simpa [List.length_drop] using this

/-- `reduceSpan` reads the spans only, and in closed form: a list is empty or `last :: _` = `_ ++ [first]` -/
theorem reduceSpan_nil (sp : Span) : reduceSpan [] sp = ⟨sp.e, sp.e⟩ := rfl

theorem reduceSpan_of_ends {removed : List StackItem} {first last : StackItem} (sp : Span)
    (hl : removed.getLast? = some first) (hh : removed.head? = some last) :
    reduceSpan removed sp = ⟨first.span.s, last.span.e⟩ := by
  simp only [reduceSpan, hl, hh]

theorem reduceSpan_ok {input : List Nat} {removed : List StackItem} {kids : List Tree} {sp : Span}
    (hrem : removed.map (·.span) = kids.map Tree.span) (hkids : ∀ t ∈ kids, t.SpanOk input)
    (hsp : PosOk input sp.e) :
    PosOk input (reduceSpan removed sp).s ∧ PosOk input (reduceSpan removed sp).e ∧
      NodeSpan (reduceSpan removed sp) kids.reverse := by
  have hh := congrArg List.head? hrem
  have hl := congrArg List.getLast? hrem
  simp only [List.head?_map, List.getLast?_map] at hh hl
  cases hkl : kids.getLast? with
  | none =>
    obtain rfl := List.getLast?_eq_none_iff.mp hkl
    obtain rfl : removed = [] := List.map_eq_nil_iff.mp hrem
    exact ⟨hsp, hsp, by simp, fun _ => rfl⟩
  | some tf =>
    cases hkh : kids.head? with
    | none => rw [List.head?_eq_none_iff.mp hkh] at hkl; cases hkl
    | some tl =>
      rw [hkl] at hl; rw [hkh] at hh
      obtain ⟨first, hrl, e1⟩ := Option.map_eq_some_iff.mp hl
      obtain ⟨last, hrh, e2⟩ := Option.map_eq_some_iff.mp hh
      rw [reduceSpan_of_ends sp hrl hrh]
      refine ⟨e1 ▸ (hkids tf (List.mem_of_getLast? hkl)).pos.1, e2 ▸ (hkids tl (List.mem_of_head? hkh)).pos.2, ?_, ?_⟩
      · intro f l hf hl'
        rw [List.head?_reverse, hkl] at hf; rw [List.getLast?_reverse, hkh] at hl'
        cases hf; cases hl'
        exact ⟨by rw [← e1], by rw [← e2]⟩
      · intro hn; rw [List.reverse_eq_nil_iff.mp hn] at hkl; cases hkl

section
variable {Q : Tree → Prop} {c : Cfg} (hall : ∀ t ∈ c.res, Q t)
include hall

theorem res_all_shift (hleaf : Q (shiftLeaf c)) : ∀ t ∈ shiftLeaf c :: c.res, Q t :=
  List.forall_mem_cons.mpr ⟨hleaf, hall⟩

theorem res_all_reduce {p len : Nat} (hnode : Q (reduceNode c p len)) : ∀ t ∈ reduceNode c p len :: c.res.drop len, Q t :=
  List.forall_mem_cons.mpr ⟨hnode, fun t h => hall t (List.mem_of_mem_drop h)⟩

theorem kids_all (len : Nat) : ∀ x ∈ (c.res.take len).reverse, Q x :=
  fun x hx => hall x (List.mem_of_mem_take (List.mem_reverse.mp hx))

end

theorem step_spans (env : Env) (nt : Ctx → Ctx × Outcome Tok) (c c' : Cfg)
    (hnt : NtOk env nt) (hns : NoShiftStop env.t)
    (hinv : SInv env c) (hstep : step env nt c = .next c') : SInv env c' := by
  cases step_eq_next env nt c c' hstep with
  | shift state s' acts ctx1 tk htop hcell hnt1 hc' =>
    obtain ⟨_, ⟨hv1, hv2, hsp, _⟩, hpos, hcs⟩ := hinv.shiftAt hns hcell
    have hnew : posAfter (sliceOf env.input c.tok.val) c.ctx.pos =
        posOf env.input (c.tok.val.1 + c.tok.val.2) := by rw [hv1]; exact hpos
    subst hc'
    refine ⟨by simp [hinv.len], hnt.ctxOk hcs hnt1, ?_, ?_, hnt.tokOk hcs hnt1⟩
    · refine res_all_shift hinv.trees ?_
      simp only [shiftLeaf, Tree.SpanOk, hsp]
      exact ⟨hinv.ctx.1, posOf_ok env.input _ hv2, hv1.symm, posOf_pos env.input _ hv2⟩
    · simp only [List.length_cons, List.take_succ_cons, List.map_cons, hinv.align, shiftItem, shiftLeaf,
        Tree.span, hsp, hnew]
  | reduce p len s' pr ctx1 tk hr hrlen hnt1 hc' =>
    have hc1 := hnt.ctxOk (ctxOk_reduceCtx hinv s') hnt1
    have ht1 := hnt.tokOk (ctxOk_reduceCtx hinv s') hnt1
    have hkids : ∀ x ∈ c.res.take len, x.SpanOk env.input :=
      fun x hx => hinv.trees x (List.mem_of_mem_take hx)
    obtain ⟨hsS, hsE, hnode⟩ := reduceSpan_ok (sp := c.ctx.span) (map_span_take hinv.align hrlen) hkids
      hinv.ctx.2.2
    subst hc'
    refine ⟨by have := hinv.len; simp; omega, hc1, ?_, ?_, ht1⟩
    · refine res_all_reduce hinv.trees ?_
      simp only [reduceNode, Tree.SpanOk, toList_ofList]
      exact ⟨hsS, hsE, TreeList.ofList_all (PL := TreeList.SpanOk _) trivial (fun _ _ => And.intro) _ (kids_all hinv.trees len),
        hnode⟩
    · simp only [List.length_cons, List.take_succ_cons, List.map_cons, reduceNode, Tree.span]
      rw [map_span_drop hinv.align]

theorem sinv_init {env : Env} {ctx0 ctx1 : Ctx} {tk : Tok} (start : Nat)
    (hc : CtxOk env.input ctx1) (ht : TokOk env ctx1 tk) :
    SInv env ⟨[⟨start, ctx0.span⟩], [], none, ctx1, tk, []⟩ :=
  ⟨rfl, hc, by simp, rfl, ht⟩

/-- an invariant `I` carried next to `SInv` may use it of both configurations of a step -/
theorem parseWith_sinv (env : Env) (nt : Ctx → Ctx × Outcome Tok) (hnt : NtOk env nt) (hns : NoShiftStop env.t)
    (I : Cfg → Prop) (hI : ∀ c c', SInv env c → SInv env c' → I c → step env nt c = .next c' → I c')
    {start : Nat} {ctx0 : Ctx} {fuel : Nat} {ctx : Ctx} {r : ParseResult} (h0 : CtxOk env.input ctx0)
    (h : parseWith env nt start ctx0 fuel = (ctx, .ok r))
    (hI0 : ∀ ctx1 tk, nt ctx0 = (ctx1, .ok tk) → I ⟨[⟨start, ctx0.span⟩], [], none, ctx1, tk, []⟩) :
    ∃ c', SInv env c' ∧ I c' ∧ StepDone env c' ctx r := by
  obtain ⟨c', ⟨hs, hi⟩, hdone⟩ := parseWith_ok_end env nt (fun c => SInv env c ∧ I c)
    (fun c c' hc hstep =>
      have hs' := step_spans env nt c c' hnt hns hc.1 hstep
      ⟨hs', hI c c' hc.1 hs' hc.2 hstep⟩) h
    (fun ctx1 tk hnt1 => ⟨sinv_init start (hnt.ctxOk h0 hnt1) (hnt.tokOk h0 hnt1), hI0 ctx1 tk hnt1⟩)
  exact ⟨c', hs, hi, hdone⟩

theorem parseWith_ctxOk (env : Env) (nt : Ctx → Ctx × Outcome Tok) (hnt : NtOk env nt) (hns : NoShiftStop env.t)
    (start : Nat) (ctx0 : Ctx) (fuel : Nat) (h0 : CtxOk env.input ctx0) :
    CtxOk env.input (parseWith env nt start ctx0 fuel).1 :=
  parseWith_ctx env nt (SInv env) (CtxOk env.input) (fun c c' => step_spans env nt c c' hnt hns)
    (fun _ _ _ _ _ _ hs _ hcell e => hnt.ctxOk (hs.shiftAt hns hcell).ctxOk e)
    (fun _ s' _ _ hs _ e => have h := hnt.ctxOk (ctxOk_reduceCtx hs s') e; ⟨h, h⟩) (fun _ _ e => hnt.ctxOk h0 e)
    (fun _ _ e => sinv_init start (hnt.ctxOk h0 e) (hnt.tokOk h0 e))

theorem parseWith_spans (env : Env) (nt : Ctx → Ctx × Outcome Tok) (hnt : NtOk env nt) (hns : NoShiftStop env.t)
    {start : Nat} {ctx0 : Ctx} {fuel : Nat} {ctx : Ctx} {r : ParseResult} (h0 : CtxOk env.input ctx0)
    (h : parseWith env nt start ctx0 fuel = (ctx, .ok r)) : r.tree.SpanOk env.input :=
  let ⟨_, hs, _, hd⟩ := parseWith_sinv env nt hnt hns (fun _ => True) (fun _ _ _ _ _ _ => trivial) h0 h
    (fun _ _ _ => trivial)
  hs.trees _ hd.tree_mem

end Rustemo
