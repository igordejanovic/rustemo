import Rustemo.Proofs.Spans
/-!
What every later file reads of the string lexer instead of unfolding it: one lexing round as an equation
(`lexNext_string`: the context moves to `lexPos`, past `wsAt` bytes of whitespace, and records `layAfter`), and that
`next_token` meets the contract `NtOk` for any recognizers that stay inside the input (`RecogOk`); with that, C13 for `parse`
(`parse_spans`).
-/

namespace Rustemo

/-- recognizers never report a match that runs past the end of the input -/
def RecogOk (env : Env) : Prop := ∀ k p l, env.recog k p = some l → p + l ≤ env.input.length

/-- the setting of the byte-level theorems: the default string lexer and no user lexer, recognizers that stay inside the
    input, a table that never shifts STOP (the zero-width STOP of partial parsing has no place in the input) -/
structure StringEnv (env : Env) : Prop where
  custom : env.custom = none
  recog : RecogOk env
  noShiftStop : NoShiftStop env.t

/-- the string lexer without whitespace skipping: the setting of the layout sub-parse -/
structure NoSkipEnv (env : Env) : Prop extends StringEnv env where
  noSkip : env.skipWs = false

theorem wsCharLen_le (bs : List Nat) : wsCharLen bs ≤ bs.length := by
  fun_cases wsCharLen bs
  all_goals (simp only [List.length_cons, List.length_nil]; omega)

theorem wsPrefixLen_le : ∀ (fuel : Nat) (bs : List Nat), wsPrefixLen fuel bs ≤ bs.length
  | 0, _ => by simp [wsPrefixLen]
  | fuel+1, bs => by
    unfold wsPrefixLen
    simp only
    split
    · omega
    · have h1 := wsCharLen_le bs
      have h2 := wsPrefixLen_le fuel (bs.drop (wsCharLen bs))
      simp only [List.length_drop] at h2
      omega

theorem wsPrefixLen_stable : ∀ (fuel : Nat) (bs : List Nat), bs.length ≤ fuel →
    wsCharLen (bs.drop (wsPrefixLen fuel bs)) = 0
  | 0, bs, h => by
    have : bs = [] := List.eq_nil_of_length_eq_zero (by omega)
    subst this; simp [wsPrefixLen, wsCharLen]
  | fuel+1, bs, h => by
    unfold wsPrefixLen
    simp only
    split
    · rename_i h0; simpa using h0
    · rename_i h0
      have hle := wsCharLen_le bs
      have hpos : 0 < wsCharLen bs := Nat.pos_of_ne_zero h0
      have := wsPrefixLen_stable fuel (bs.drop (wsCharLen bs)) (by simp only [List.length_drop]; omega)
      rw [List.drop_drop] at this
      exact this

theorem iter_prefix (env : Env) (pos : Pos) : ∀ (L : List (Nat × Bool)) (m : Bool),
    tokenIterAux env pos m L <+: L.filterMap fun e => (env.recog e.1 pos.pos).map (mkTok env e.1 pos)
  | [], _ => List.nil_prefix
  | (k, fin) :: rest, m => by
    unfold tokenIterAux
    split
    · rename_i l hl
      rw [List.filterMap_cons_some (by rw [hl]; rfl)]
      refine List.cons_prefix_cons.mpr ⟨rfl, ?_⟩
      split
      · exact List.nil_prefix
      · exact iter_prefix env pos rest true
    · rename_i hn
      rw [List.filterMap_cons_none (by rw [hn]; rfl)]
      split
      · exact List.nil_prefix
      · exact iter_prefix env pos rest m

theorem tokenIterAux_mem (env : Env) (pos : Pos) (exp : List (Nat × Bool)) (matched : Bool) (tk : Tok)
    (h : tk ∈ tokenIterAux env pos matched exp) :
    ∃ k l, env.recog k pos.pos = some l ∧
      tk = ⟨k, (pos.pos, l), ⟨pos, posAfter (sliceOf env.input (pos.pos, l)) pos⟩⟩ := by
  obtain ⟨e, _, hf⟩ := List.mem_filterMap.mp ((iter_prefix env pos exp matched).subset h)
  obtain ⟨l, hl, rfl⟩ := Option.map_eq_some_iff.mp hf
  exact ⟨e.1, l, hl, rfl⟩

theorem tokenIterAux_kinds (env : Env) (pos : Pos) (L : List (Nat × Bool)) (matched : Bool) :
    ((tokenIterAux env pos matched L).map (·.kind)).Sublist (L.map (·.1)) := by
  refine ((iter_prefix env pos L matched).sublist.map _).trans ?_
  induction L with
  | nil => exact List.Sublist.refl _
  | cons e rest ih =>
    cases hr : env.recog e.1 pos.pos with
    | none => rw [List.filterMap_cons_none (by rw [hr]; rfl)]; exact ih.cons _
    | some l => rw [List.filterMap_cons_some (by rw [hr]; rfl)]; exact ih.cons_cons _

theorem tokenIterAux_tokAt (env : Env) (hr : RecogOk env) (pos : Pos) (hp : PosOk env.input pos)
    (exp : List (Nat × Bool)) (matched : Bool) (tk : Tok) (h : tk ∈ tokenIterAux env pos matched exp) :
    TokAt env pos tk := by
  obtain ⟨k, l, hl, rfl⟩ := tokenIterAux_mem env pos exp matched tk h
  have hle := hr k pos.pos l hl
  exact ⟨rfl, hle, by rw [(posOk_advance hp hle).1], hl⟩

theorem pickToken_mem {longest : Bool} {toks : List Tok} {tk : Tok}
    (h : pickToken longest toks = some tk) : tk ∈ toks := by
  unfold pickToken at h
  split at h
  · exact (List.mem_filter.mp (List.mem_of_head? h)).1
  · exact List.mem_of_head? h

/-- whitespace bytes `StringLexer::skip` finds at byte offset `p` (none when skipping is off) -/
def wsAt (env : Env) (p : Nat) : Nat :=
  if env.skipWs then wsPrefixLen (env.input.drop p).length (env.input.drop p) else 0

theorem wsAt_le (env : Env) (p : Nat) : wsAt env p ≤ env.input.length - p := by
  unfold wsAt
  split
  · exact List.length_drop ▸ wsPrefixLen_le _ _
  · exact Nat.zero_le _

/-- the byte offset at which the lexer started at `p` looks for tokens -/
def postSkip (env : Env) (p : Nat) : Nat :=
  p + (if env.skipWs then wsPrefixLen (env.input.drop p).length (env.input.drop p) else 0)

theorem postSkip_eq (env : Env) (p : Nat) : postSkip env p = p + wsAt env p := rfl

/-- where the lexer stops when started at `p` -/
def lexPos (env : Env) (p : Pos) : Pos :=
  if env.skipWs then
    (if wsPrefixLen (env.input.drop p.pos).length (env.input.drop p.pos) > 0 then
      posAfter ((env.input.drop p.pos).take (wsPrefixLen (env.input.drop p.pos).length (env.input.drop p.pos))) p
     else p)
  else p

theorem lexPos_eq (env : Env) (p : Pos) :
    lexPos env p = posAfter (sliceOf env.input (p.pos, wsAt env p.pos)) p := by
  unfold lexPos wsAt sliceOf
  cases env.skipWs
  · exact (posAfter_nil p).symm
  · simp only [↓reduceIte]
    split
    · rfl
    · rename_i h
      rw [Nat.eq_zero_of_not_pos h]
      exact (posAfter_nil p).symm

theorem lexPos_pos (env : Env) (p : Pos) : (lexPos env p).pos = p.pos + wsAt env p.pos := by
  rw [lexPos_eq, posAfter_pos]
  simp only [sliceOf, List.length_take, List.length_drop, Nat.min_eq_left (wsAt_le env p.pos)]

theorem lexPos_ok (env : Env) {p : Pos} (hp : PosOk env.input p) : PosOk env.input (lexPos env p) := by
  have hn : p.pos + wsAt env p.pos ≤ env.input.length := by have := wsAt_le env p.pos; have := hp.2; omega
  rw [lexPos_eq, (posOk_advance hp hn).1]
  exact (posOk_advance hp hn).2

/-- lexing again from this context does not move -/
def Stable (env : Env) (ctx : Ctx) : Prop := postSkip env ctx.pos.pos = ctx.pos.pos

theorem lexPos_stable (env : Env) (p : Pos) : postSkip env (lexPos env p).pos = (lexPos env p).pos := by
  suffices h : wsAt env (lexPos env p).pos = 0 by rw [postSkip_eq, h]; rfl
  unfold wsAt
  cases hsk : env.skipWs with
  | false => rfl
  | true =>
    have h0 : wsCharLen (env.input.drop (lexPos env p).pos) = 0 := by
      rw [lexPos_pos, wsAt, hsk, if_pos rfl, ← List.drop_drop]
      exact wsPrefixLen_stable _ _ (Nat.le_refl _)
    simp only [↓reduceIte]
    cases (env.input.drop (lexPos env p).pos).length with
    | zero => rfl
    | succ n => unfold wsPrefixLen; simp [h0]

/-- the layout slice the lexer leaves in the context -/
def layAfter (env : Env) (ctx : Ctx) : Option Slice :=
  if env.skipWs then (if wsAt env ctx.pos.pos > 0 then some (ctx.pos.pos, wsAt env ctx.pos.pos) else none) else ctx.lay

theorem lexNext_string (env : Env) (hc : env.custom = none) (ctx : Ctx) (exp : List (Nat × Bool)) :
    lexNext env ctx exp =
      ({ ctx with pos := lexPos env ctx.pos, lay := layAfter env ctx }, tokenIter env (lexPos env ctx.pos) exp) := by
  unfold lexNext lexPos layAfter wsAt
  rw [hc]
  cases env.skipWs
  · rfl
  · simp only [↓reduceIte]
    unfold skip
    simp only
    split <;> rfl

theorem nextTokenBase_string (env : Env) (hc : env.custom = none) (pp : Bool) (ctx : Ctx) :
    nextTokenBase env pp ctx =
      match pickToken env.longest (tokenIter env (lexPos env ctx.pos) (env.t.sorted ctx.state)) with
      | some tk => ({ ctx with pos := lexPos env ctx.pos, lay := layAfter env ctx }, .ok tk)
      | none => noToken env pp { ctx with pos := lexPos env ctx.pos, lay := layAfter env ctx } := by
  rw [nextTokenBase_eq, lexNext_string env hc]
  rfl

theorem lexNext_noSkip (env : Env) (hc : env.custom = none) (hsk : env.skipWs = false) (ctx : Ctx)
    (exp : List (Nat × Bool)) : lexNext env ctx exp = (ctx, tokenIter env ctx.pos exp) := by
  unfold lexNext
  rw [hc, hsk]
  rfl

theorem ntBase_ctx {env : Env} (hn : NoSkipEnv env) {pp : Bool} {ctx ctx' : Ctx} {o : Outcome Tok}
    (h : nextTokenBase env pp ctx = (ctx', o)) : ctx' = ctx := by
  have hctx := nextTokenBase_ctx env pp ctx
  rw [h, lexNext_noSkip env hn.custom hn.noSkip] at hctx
  exact hctx

/-- what `next_token` does to position and layout of the context when it skips whitespace (no Layout rule) -/
def NtWs (env : Env) (nt : Ctx → Ctx × Outcome Tok) : Prop :=
  ∀ ctx ctx' o, nt ctx = (ctx', o) →
    ctx'.pos.pos = postSkip env ctx.pos.pos ∧ ctx'.lay = layAfter env ctx ∧ Stable env ctx'

theorem ntWs_base (env : Env) (hc : env.custom = none) (pp : Bool) :
    NtWs env (nextTokenBase env pp) := by
  intro ctx ctx' o hn
  have hctx := nextTokenBase_ctx env pp ctx
  rw [hn, lexNext_string env hc] at hctx
  subst hctx
  exact ⟨lexPos_pos env ctx.pos, rfl, lexPos_stable env ctx.pos⟩

theorem ntWs_main (env : Env) (hc : env.custom = none) (hl : env.t.layoutState = none) (pp : Bool) (fuel : Nat) :
    NtWs env (nextTokenMain env pp fuel) :=
  nextTokenMain_eq_base env hl pp fuel ▸ ntWs_base env hc pp

theorem lexNext_ok (env : Env) (hc : env.custom = none) (hr : RecogOk env) (ctx : Ctx)
    (exp : List (Nat × Bool)) (h : CtxOk env.input ctx) :
    CtxOk env.input (lexNext env ctx exp).1 ∧
    ∀ tk ∈ (lexNext env ctx exp).2, TokAt env (lexNext env ctx exp).1.pos tk := by
  rw [lexNext_string env hc]
  exact ⟨⟨lexPos_ok env h.1, h.2⟩, tokenIterAux_tokAt env hr _ (lexPos_ok env h.1) exp false⟩

theorem noToken_ok (env : Env) (pp : Bool) (ctx ctx' : Ctx) (o : Outcome Tok)
    (h : CtxOk env.input ctx) (hn : noToken env pp ctx = (ctx', o)) :
    CtxOk env.input ctx' ∧ ∀ tk, o = .ok tk → TokOk env ctx' tk := by
  have hctx := noToken_ctx env pp ctx
  rw [hn] at hctx
  subst hctx
  exact ⟨h, fun tk htk => Or.inl (noToken_eq_ok env pp _ _ tk (by rw [hn, htk])).2.1⟩

theorem ntOk_base (env : Env) (hc : env.custom = none) (hr : RecogOk env) (pp : Bool) :
    NtOk env (nextTokenBase env pp) := by
  intro ctx ctx' o hctx hn
  have hfwd : ctx.Fwd ctx' := by have := nextTokenBase_fwd env pp ctx; rwa [hn] at this
  obtain ⟨hc1, ht1⟩ := lexNext_ok env hc hr ctx (env.t.sorted ctx.state) hctx
  rcases nextTokenBase_eq_cases hn with ⟨tk, hpick, rfl, rfl⟩ | hn
  · exact ⟨hc1, hfwd, fun _ htk => Outcome.ok.inj htk ▸ Or.inr (ht1 tk (pickToken_mem hpick))⟩
  · obtain ⟨h1, h3⟩ := noToken_ok env pp _ ctx' o hc1 hn
    exact ⟨h1, hfwd, h3⟩

theorem ntOk_main (env : Env) (he : StringEnv env) (pp : Bool) (fuel : Nat) : NtOk env (nextTokenMain env pp fuel) := by
  intro ctx ctx' o hctx hn
  have hfwd : ctx.Fwd ctx' := by have := nextTokenMain_fwd env pp fuel ctx; rwa [hn] at this
  have hbase := ntOk_base env he.custom he.recog
  obtain ⟨hc1, ht1⟩ := lexNext_ok env he.custom he.recog ctx (env.t.sorted ctx.state) hctx
  have hinv := nextTokenMain_eq_cases hn
  generalize lexNext env ctx (env.t.sorted ctx.state) = lx at hinv hc1 ht1
  obtain ⟨ctx1, toks⟩ := lx
  simp only at hinv hc1 ht1
  -- the context after a layout parse, with state and span put back
  have hlay : ∀ ls cx r (l : Option Slice), layoutParse env ls ctx1 fuel = (cx, r) →
      CtxOk env.input { cx with state := ctx1.state, span := ctx1.span, lay := l } := fun ls cx r l hl =>
    ⟨(show CtxOk env.input (cx, r).1 from hl ▸ parseWith_ctxOk env _ (hbase true) he.noShiftStop ls _ fuel hc1).1,
      hc1.2.1, hc1.2.2⟩
  cases hinv with
  | tok tk hpick => exact ⟨hc1, hfwd, fun _ htk => Outcome.ok.inj htk ▸ Or.inr (ht1 tk (pickToken_mem hpick))⟩
  | noLayout _ _ hl hn =>
    obtain ⟨h1, h3⟩ := noToken_ok env pp ctx1 ctx' o hc1 hn
    exact ⟨h1, hfwd, h3⟩
  | skipped ls cx pr off len _ _ hl hlp hslice hlen hn =>
    obtain ⟨h1, _, h3⟩ := hbase pp _ ctx' o (hlay ls cx _ (some (off, len)) hlp) hn
    exact ⟨h1, hfwd, h3⟩
  | back ls cx r _ _ hl hlp hn =>
    obtain ⟨h1, h3⟩ := noToken_ok env pp { cx with state := ctx1.state, span := ctx1.span, pos := ctx1.pos } ctx' o
      ⟨hc1.1, hc1.2.1, hc1.2.2⟩ hn
    exact ⟨h1, hfwd, h3⟩
  | layFail ls cx r _ hl hlp hf hne =>
    exact ⟨hlay ls cx r cx.lay hlp, hfwd, fun tk htk => absurd htk (hf.not_ok tk)⟩

theorem parse_spans (env : Env) (he : StringEnv env) (pp : Bool) (fuel : Nat) (ctx : Ctx) (r : ParseResult)
    (h : parse env pp fuel = (ctx, .ok r)) : r.tree.SpanOk env.input := by
  unfold parse at h
  exact parseWith_spans env _ (ntOk_main env he pp fuel) he.noShiftStop (ctxOk_start _) h

end Rustemo
