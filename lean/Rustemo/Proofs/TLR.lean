import Rustemo.Proofs.CoreComplete
/-!
C01 at the token level.  `tparse` accepts every sentence (`tparse_complete`, from `push_tree`) and, the invariant of the core
carried along a run (`TInv`), only sentences (`trun_sound`).  `Certified` is what the two directions ask of a table.
-/
namespace Rustemo

theorem tparse_complete (g : Grammar) (t : Table) (hw : GWF g) (hc : Complete g t)
    (hip : ∀ s p d, t.hasItem s p d → ∃ pr, g.prods[p]? = some pr ∧ d ≤ pr.rhs.length)
    (tx : Tree) (hv : tx.Valid g g.startIdx) :
    ∃ fuel, tparse g t tx.yield fuel = .accept tx.plain := by
  obtain ⟨pr0, hpr0, _, hrhs0⟩ := hw.aug0
  have hX : pr0.rhs[0]? = some g.startIdx := by rw [hrhs0]; rfl
  have hfirst : FirstOf g (pr0.rhs.drop (0+1)) 0 (lookahead []) := by
    refine ⟨.nil, ?_, ?_⟩
    · rw [hrhs0]; simp [TreeList.Valid]
    · simp [TreeList.yield, lookahead]
  obtain ⟨s', sh', hreach, hi'⟩ :=
    push_tree g t hw hc hip tx.plain g.startIdx (Tree.plain_valid g tx _ hv) (Tree.plain_isPlain tx)
      [] [] [] 0 0 0 pr0 (by simpa [topOf] using hc.start) hpr0 hX hfirst
  have hacc := hc.accept s' pr0 hpr0 (by rw [hrhs0]; exact hi'.toItem)
  have hcell := cell_det hc hacc
  have hstep : tstep g t ⟨⟨[(s', tx.plain)], sh'⟩, []⟩ = .accept tx.plain := tstep_accept hcell rfl
  have hrun : trun g t 1 ⟨⟨[(s', tx.plain)], sh'⟩, []⟩ = .accept tx.plain := by
    simp [trun, hstep]
  obtain ⟨m, hm⟩ := reaches_trun hreach 1 _ hrun
  refine ⟨m, ?_⟩
  unfold tparse
  rw [← Tree.plain_yield tx]
  simpa using hm

structure TInv (g : Grammar) (t : Table) (w : List Nat) (c : TCfg) : Prop where
  cinv : CInv g t 0 c.c
  split : c.c.shifted.reverse ++ c.rest = w

theorem tinv_init (g : Grammar) (t : Table) (w : List Nat) : TInv g t w ⟨⟨[], []⟩, w⟩ :=
  ⟨cinv_init g t 0, List.nil_append w⟩

section
variable {g : Grammar} {t : Table} (hs : Structural g t (autosOf g t))
include hs

theorem tstep_preserves {w : List Nat} {c c' : TCfg}
    (hinv : TInv g t w c) (hstep : tstep g t c = .next c') : TInv g t w c' := by
  have hsp := tstep_spec g t c
  rw [hstep] at hsp
  have hsh := cstepWith_shifted (g := g) (t := t) (start := 0) (leafOf := Tree.tok) (nodeOf := Tree.mk) (c := c.c)
    (c' := c'.c) (a := lookahead c.rest)
  have hpres := cstep_preserves hs (mem_autosOf_main g t) decorators_plain (c' := c'.c) (a := lookahead c.rest) hinv.cinv
  have hsplit := hinv.split
  rcases hsp with ⟨h, hrest⟩ | ⟨h, a, hrest⟩ <;> rw [cstep] at h
  · exact ⟨hpres (Or.inr h), by rw [hrest, hsh.2 h]; exact hsplit⟩
  · refine ⟨hpres (Or.inl h), ?_⟩
    rw [hrest] at hsplit
    rw [hsh.1 h, ← hsplit]
    simp [lookahead, hrest]

theorem reaches_tinv {w : List Nat} {c c' : TCfg}
    (hr : Reaches g t c c') (hinv : TInv g t w c) : TInv g t w c' := by
  induction hr with
  | refl => exact hinv
  | more c c1 c2 hstep _ ih => exact ih (tstep_preserves hs hinv hstep)

theorem trun_sound (hacc : ∀ s a, Action.accept ∈ t.cell s a → a = 0)
    {w : List Nat} (hnz : ∀ x ∈ w, x ≠ 0)
    {fuel : Nat} {c : TCfg} {tr : Tree} (hinv : TInv g t w c) (h : trun g t fuel c = .accept tr) :
    tr.Valid g g.startIdx ∧ tr.yield = w := by
  obtain ⟨c', hre, h1⟩ := trun_halts g t fuel c _ h TResult.noConfusion
  have hinv' := reaches_tinv hs hre hinv
  have hcs := tstep_spec g t c'
  rw [show tstep g t c' = .accept tr from h1] at hcs
  obtain ⟨hv, hy, _⟩ := cstep_accept_sound hs.toRN (mem_autosOf_main g t) hinv'.cinv hcs
  refine ⟨hv, ?_⟩
  -- accept only on STOP: the rest of the input is empty
  have hla : lookahead c'.rest = 0 := hacc _ _ (cstepWith_accept_mem hcs)
  have hsplit := hinv'.split
  cases hr : c'.rest with
  | nil => rw [hy, ← hsplit, hr, List.append_nil]
  | cons x xs =>
    rw [hr] at hla hsplit
    exact absurd hla (hnz x (by rw [← hsplit]; simp))

end

/-- what the token-level theory asks of a table: what `certC01` establishes, and what the model of `LRTable::new`
    delivers for a grammar without conflicts (`Props/C04Construction.lean`) -/
structure Certified (g : Grammar) (t : Table) : Prop where
  structural : Structural g t (autosOf g t)
  complete : Complete g t
  gwf : GWF g
  acceptStop : ∀ s a, Action.accept ∈ t.cell s a → a = 0

namespace Certified
variable {g : Grammar} {t : Table} (hc : Certified g t)
include hc

theorem sound {w : List Nat} (hnz : ∀ x ∈ w, x ≠ 0) {fuel : Nat} {tr : Tree}
    (h : tparse g t w fuel = .accept tr) : tr.Valid g g.startIdx ∧ tr.yield = w :=
  trun_sound hc.structural hc.acceptStop hnz (tinv_init g t w) h

theorem accepts (tx : Tree) (hv : tx.Valid g g.startIdx) : ∃ fuel, tparse g t tx.yield fuel = .accept tx.plain :=
  tparse_complete g t hc.gwf hc.complete hc.structural.item_prod tx hv

theorem accepts_exactly (w : List Nat) (hnz : ∀ x ∈ w, x ≠ 0) :
    (∃ fuel tr, tparse g t w fuel = .accept tr) ↔ Sentence g w :=
  ⟨fun ⟨_, tr, h⟩ => ⟨tr, hc.sound hnz h⟩,
   fun ⟨tx, hv, hy⟩ => (hc.accepts tx hv).imp fun _ h => ⟨tx.plain, hy ▸ h⟩⟩

theorem reaches_tinv {w : List Nat} {c : TCfg} (hr : Reaches g t ⟨⟨[], []⟩, w⟩ c) : TInv g t w c :=
  Rustemo.reaches_tinv hc.structural hr (tinv_init g t w)

end Certified

end Rustemo
