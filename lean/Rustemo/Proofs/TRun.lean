import Rustemo.Proofs.CoreStep
import Rustemo.Proofs.Trees
/-!
The token-level runner by itself, no table notion and no certificate: runs as `Reaches`, the result does not depend on
the fuel, and a step reads only the head of the remaining input (`tstep_cons`), so runs on inputs with a common prefix
coincide until it is consumed (`trun_prefix`).
-/

namespace Rustemo

theorem tstep_spec (g : Grammar) (t : Table) (c : TCfg) :
    match tstep g t c with
    | .next c' => (cstep g t 0 c.c (lookahead c.rest) = .reduce c'.c ∧ c'.rest = c.rest) ∨
        (cstep g t 0 c.c (lookahead c.rest) = .shift c'.c ∧ ∃ a, c.rest = a :: c'.rest)
    | .accept tr => cstep g t 0 c.c (lookahead c.rest) = .accept tr
    | .error k s => k = c.rest.length ∧ s = topOf 0 c.c.stack ∧ t.cell s (lookahead c.rest) = []
    | .panic _ => True := by
  unfold tstep
  dsimp only
  by_cases hcell : t.cell (topOf 0 c.c.stack) (lookahead c.rest) = []
  · rw [if_pos hcell]; exact ⟨rfl, rfl, hcell⟩
  · rw [if_neg hcell]
    cases hc : cstep g t 0 c.c (lookahead c.rest) with
    | shift c' =>
      dsimp only
      cases hr : c.rest with
      | nil => trivial
      | cons a rest' => exact Or.inr ⟨rfl, a, rfl⟩
    | reduce c' => exact Or.inl ⟨rfl, rfl⟩
    | accept tr => rfl
    | panic s => trivial

inductive Reaches (g : Grammar) (t : Table) : TCfg → TCfg → Prop
  | refl (c) : Reaches g t c c
  | more (c c' c'') : tstep g t c = .next c' → Reaches g t c' c'' → Reaches g t c c''

theorem Reaches.trans {g : Grammar} {t : Table} {a b c : TCfg} (h1 : Reaches g t a b)
    (h2 : Reaches g t b c) : Reaches g t a c := by
  induction h1 with
  | refl => exact h2
  | more c c' c'' hs _ ih => exact .more c c' _ hs (ih h2)

theorem Reaches.single {g : Grammar} {t : Table} {a b : TCfg} (h : tstep g t a = .next b) :
    Reaches g t a b := .more a b b h (.refl b)

theorem tstep_shift (g : Grammar) (t : Table) (stack : List (Nat × Tree)) (sh : List Nat) (a : Nat)
    (rest : List Nat) (s' : Nat) {acts : List Action} (hcell : t.cell (topOf 0 stack) a = .shift s' :: acts) :
    tstep g t ⟨⟨stack, sh⟩, a :: rest⟩ = .next ⟨⟨(s', Tree.tok a) :: stack, a :: sh⟩, rest⟩ := by
  have hcs : cstep g t 0 ⟨stack, sh⟩ a = _ := cstepWith_shift hcell
  simp [tstep, lookahead, hcell, hcs]

def pushAll (states : List Nat) (trees : List Tree) (st : List (Nat × Tree)) : List (Nat × Tree) :=
  (states.zip trees).reverse ++ st

theorem pushAll_cons (s : Nat) (states : List Nat) (c : Tree) (trees : List Tree) (st : List (Nat × Tree)) :
    pushAll (s :: states) (c :: trees) st = pushAll states trees ((s, c) :: st) := by
  simp [pushAll]

theorem tstep_reduce (g : Grammar) (t : Table) (states : List Nat) (trees : List Tree)
    (stack : List (Nat × Tree)) (sh rest : List Nat) (p : Nat) (pr : Prod) (s' : Nat)
    (hlen : states.length = trees.length) {acts : List Action}
    (hcell : t.cell (topOf 0 (pushAll states trees stack)) (lookahead rest) = .reduce p trees.length :: acts)
    (hpr : g.prods[p]? = some pr) (hgoto : t.goto g (topOf 0 stack) pr.lhs = some s') :
    tstep g t ⟨⟨pushAll states trees stack, sh⟩, rest⟩ = .next ⟨⟨(s', Tree.mk p trees) :: stack, sh⟩, rest⟩ := by
  have hn : ((states.zip trees).reverse).length = trees.length := by simp [hlen]
  have htake : (pushAll states trees stack).take trees.length = (states.zip trees).reverse := by
    rw [pushAll, ← hn, List.take_left]
  have hdrop : (pushAll states trees stack).drop trees.length = stack := by
    rw [pushAll, ← hn, List.drop_left]
  have hcs : cstep g t 0 ⟨pushAll states trees stack, sh⟩ (lookahead rest) = _ :=
    cstepWith_reduce hcell (by rw [pushAll, List.length_append, hn]; exact Nat.le_add_right _ _) hpr
      (by rw [hdrop]; exact hgoto)
  simp [tstep, hcell, hcs, htake, hdrop, List.map_snd_zip, hlen]

theorem tstep_accept {g : Grammar} {t : Table} {c : TCfg} {s : Nat} {tr : Tree} {below : List (Nat × Tree)}
    {acts : List Action} (hcell : t.cell (topOf 0 c.c.stack) (lookahead c.rest) = .accept :: acts)
    (hst : c.c.stack = (s, tr) :: below) : tstep g t c = .accept tr := by
  have hcs : cstep g t 0 c.c (lookahead c.rest) = .accept tr := cstepWith_accept hcell hst
  simp [tstep, hcell, hcs]

theorem tstep_error_iff {g : Grammar} {t : Table} {c : TCfg} {k s : Nat} :
    tstep g t c = .error k s ↔
      k = c.rest.length ∧ s = topOf 0 c.c.stack ∧ t.cell (topOf 0 c.c.stack) (lookahead c.rest) = [] := by
  constructor
  · intro h
    have hsp := tstep_spec g t c
    rw [h] at hsp
    exact ⟨hsp.1, hsp.2.1, hsp.2.1 ▸ hsp.2.2⟩
  · rintro ⟨rfl, rfl, h⟩
    simp [tstep, h]

theorem reaches_trun {g : Grammar} {t : Table} {c c' : TCfg} (h : Reaches g t c c') :
    ∀ (n : Nat) (r : TResult), trun g t n c' = r → ∃ m, trun g t m c = r := by
  induction h with
  | refl c => intro n r hr; exact ⟨n, hr⟩
  | more c c1 c2 hs _ ih =>
    intro n r hr
    obtain ⟨m, hm⟩ := ih n r hr
    exact ⟨m + 1, by simp only [trun, hs]; exact hm⟩

theorem trun_after {g : Grammar} {t : Table} {c c' : TCfg} (h : Reaches g t c c') :
    ∀ (n : Nat) (r : TResult), trun g t n c = r → r ≠ .fuel → ∃ m, trun g t m c' = r := by
  induction h with
  | refl c => intro n r hr _; exact ⟨n, hr⟩
  | more c c1 c2 hs _ ih =>
    intro n r hr hne
    cases n with
    | zero => exact absurd hr.symm hne
    | succ n => rw [trun, hs] at hr; exact ih n r hr hne

theorem trun_halts (g : Grammar) (t : Table) : ∀ (n : Nat) (c : TCfg) (r : TResult),
    trun g t n c = r → r ≠ .fuel → ∃ c', Reaches g t c c' ∧
      match r with
      | .accept tr => tstep g t c' = .accept tr
      | .error k s => tstep g t c' = .error k s
      | .panic m => tstep g t c' = .panic m
      | .fuel => False
  | 0, _, _, h, hr => absurd h.symm hr
  | n+1, c, r, h, hr => by
    rw [trun] at h
    cases hstep : tstep g t c with
    | next c1 =>
      rw [hstep] at h
      obtain ⟨c', hre, h1⟩ := trun_halts g t n c1 r h hr
      exact ⟨c', .more _ _ _ hstep hre, h1⟩
    | accept tr => rw [hstep] at h; subst h; exact ⟨c, .refl c, hstep⟩
    | error k s => rw [hstep] at h; subst h; exact ⟨c, .refl c, hstep⟩
    | panic m => rw [hstep] at h; subst h; exact ⟨c, .refl c, hstep⟩

theorem trun_one_error {g : Grammar} {t : Table} {c : TCfg} {k s : Nat}
    (h : trun g t 1 c = .error k s) : tstep g t c = .error k s := by
  rw [trun] at h
  cases hs : tstep g t c with
  | error k' s' => rw [hs] at h; cases h; rfl
  | _ => rw [hs] at h; cases h

theorem trun_mono_result (g : Grammar) (t : Table) : ∀ (n : Nat) (c : TCfg) (r : TResult),
    trun g t n c = r → r ≠ .fuel → ∀ k, trun g t (n + k) c = r
  | 0, _, _, h, hr, _ => absurd h.symm hr
  | n+1, c, r, h, hr, k => by
    rw [Nat.add_right_comm, trun]
    rw [trun] at h
    cases hs : tstep g t c with
    | next c' => rw [hs] at h; exact trun_mono_result g t n c' r h hr k
    | _ => rw [hs] at h; exact h

theorem trun_det {g : Grammar} {t : Table} {c : TCfg} {n m : Nat} {r r' : TResult}
    (h : trun g t n c = r) (h' : trun g t m c = r') (hr : r ≠ .fuel) (hr' : r' ≠ .fuel) : r = r' := by
  rw [← trun_mono_result g t n c r h hr m, ← trun_mono_result g t m c r' h' hr' n, Nat.add_comm]

/-- what one step does, as a function of the core configuration and the head `b` of the input only -/
inductive HeadStep where
  | error (s : Nat)
  | reduce (c : CCfg)
  | shift (c : CCfg)
  | accept (tr : Tree)
  | panic (site : String)

def headStep (g : Grammar) (t : Table) (c : CCfg) (b : Nat) : HeadStep :=
  if t.cell (topOf 0 c.stack) b = [] then .error (topOf 0 c.stack)
  else
    match cstep g t 0 c b with
    | .reduce c' => .reduce c'
    | .shift c' => .shift c'
    | .accept tr => .accept tr
    | .panic s => .panic s

def HeadStep.toT (b : Nat) (r : List Nat) : HeadStep → TStep
  | .error s => .error (r.length + 1) s
  | .reduce c' => .next ⟨c', b :: r⟩
  | .shift c' => .next ⟨c', r⟩
  | .accept tr => .accept tr
  | .panic s => .panic s

theorem tstep_cons (g : Grammar) (t : Table) (c : CCfg) (b : Nat) (r : List Nat) :
    tstep g t ⟨c, b :: r⟩ = (headStep g t c b).toT b r := by
  unfold tstep headStep
  simp only [lookahead, List.headD_cons, List.length_cons]
  by_cases hcell : t.cell (topOf 0 c.stack) b = []
  · simp [hcell, HeadStep.toT]
  · simp only [hcell, ↓reduceIte]
    cases cstep g t 0 c b <;> simp [HeadStep.toT]

theorem reaches_rest_le {g : Grammar} {t : Table} {c c' : TCfg} (h : Reaches g t c c') :
    c'.rest.length ≤ c.rest.length := by
  induction h with
  | refl => exact Nat.le_refl _
  | more c c1 c2 hs _ ih =>
    have hsp := tstep_spec g t c
    rw [hs] at hsp
    rcases hsp with ⟨_, h⟩ | ⟨_, a, h⟩
    · exact h ▸ ih
    · rw [h]; exact Nat.le_succ_of_le ih

theorem trun_error_reaches (g : Grammar) (t : Table) (n : Nat) (c : TCfg) (k s : Nat)
    (h : trun g t n c = .error k s) : ∃ c', Reaches g t c c' ∧ tstep g t c' = .error k s :=
  trun_halts g t n c _ h TResult.noConfusion

theorem trun_error_le (g : Grammar) (t : Table) (n : Nat) (c : TCfg) (k s : Nat)
    (h : trun g t n c = .error k s) : k ≤ c.rest.length := by
  obtain ⟨c', hre, he⟩ := trun_error_reaches g t n c k s h
  exact (tstep_error_iff.mp he).1 ▸ reaches_rest_le hre

/-- the alternative `q' ≠ []`: nothing here confines accept to the STOP column, so the first run may accept with a
    token of `q` as the lookahead, and then so does the second -/
theorem trun_prefix (g : Grammar) (t : Table) (x y : List Nat) :
    ∀ (F : Nat) (c : CCfg) (q : List Nat) (tr : Tree), trun g t F ⟨c, q ++ x⟩ = .accept tr →
      ∃ c' q', (∀ b ∈ q', b ∈ q) ∧ Reaches g t ⟨c, q ++ y⟩ ⟨c', q' ++ y⟩ ∧
        (q' = [] ∨ ∃ b q'' tr', q' = b :: q'' ∧ headStep g t c' b = .accept tr') := by
  intro F
  induction F with
  | zero => intro c q tr h; cases h
  | succ F ih =>
    intro c q tr h
    cases q with
    | nil => exact ⟨c, [], fun _ hb => hb, .refl _, Or.inl rfl⟩
    | cons b q1 =>
      rw [trun, List.cons_append, tstep_cons] at h
      cases hh : headStep g t c b with
      | error s' => rw [hh] at h; cases h
      | panic m => rw [hh] at h; cases h
      | accept tr' => exact ⟨c, b :: q1, fun _ hb => hb, .refl _, Or.inr ⟨b, q1, tr', rfl, hh⟩⟩
      | reduce c1 =>
        rw [hh] at h
        obtain ⟨c', q', hsub, hr, alt⟩ := ih c1 (b :: q1) tr h
        exact ⟨c', q', hsub, .more _ ⟨c1, b :: q1 ++ y⟩ _ (by rw [List.cons_append, tstep_cons, hh]; rfl) hr, alt⟩
      | shift c1 =>
        rw [hh] at h
        obtain ⟨c', q', hsub, hr, alt⟩ := ih c1 q1 tr h
        exact ⟨c', q', fun b' hb' => List.mem_cons_of_mem _ (hsub b' hb'),
          .more _ ⟨c1, q1 ++ y⟩ _ (by rw [List.cons_append, tstep_cons, hh]; rfl) hr, alt⟩

theorem trun_prefix_no_error (g : Grammar) (t : Table) (x y : List Nat) (F : Nat) (c : CCfg)
    (q : List Nat) (tr : Tree) (h : trun g t F ⟨c, q ++ x⟩ = .accept tr) (n k s : Nat)
    (he : trun g t n ⟨c, q ++ y⟩ = .error k s) : k ≤ y.length := by
  obtain ⟨c', q', _, hr, alt⟩ := trun_prefix g t x y F c q tr h
  obtain ⟨m, hm⟩ := trun_after hr n _ he TResult.noConfusion
  rcases alt with rfl | ⟨b, q'', tr', rfl, hh⟩
  · exact trun_error_le g t m ⟨c', y⟩ k s hm
  · -- the second run accepts too
    cases m with
    | zero => cases hm
    | succ m => rw [trun, List.cons_append, tstep_cons, hh] at hm; cases hm

theorem trun_prefix_shifted (g : Grammar) (t : Table) (hacc : ∀ s a, Action.accept ∈ t.cell s a → a = 0)
    (x y : List Nat) (F : Nat) (c : CCfg) (q : List Nat) (tr : Tree) (hnz : ∀ b ∈ q, b ≠ 0)
    (h : trun g t F ⟨c, q ++ x⟩ = .accept tr) : ∃ c', Reaches g t ⟨c, q ++ y⟩ ⟨c', y⟩ := by
  obtain ⟨c', q', hsub, hr, alt⟩ := trun_prefix g t x y F c q tr h
  rcases alt with rfl | ⟨b, q'', tr', rfl, hh⟩
  · exact ⟨c', hr⟩
  · -- accept with a lookahead `b ≠ 0`
    have hsp := tstep_spec g t ⟨c', b :: q''⟩
    rw [tstep_cons, hh] at hsp
    exact absurd (hacc _ _ (cstepWith_accept_mem hsp)) (hnz b (hsub b List.mem_cons_self))

end Rustemo
