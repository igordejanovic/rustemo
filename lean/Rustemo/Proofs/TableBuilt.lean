import Rustemo.Proofs.TableFinish
import Rustemo.Proofs.TableJustLink
import Rustemo.Proofs.TableClosureInv
import Rustemo.Proofs.TableProp
/-!
Every phase of `build` is walked once, for safety and all invariants together (`Invs`; `LinkInvs` inside the successor loop).
`Final g s t sts autos` is what is then known of a table `t` that `build` returns; `sts` are the states before conflict
resolution.
-/
namespace Rustemo.Table

variable {g : Grammar}

/-- the automata of the table as pairs (start state, augmented production) -/
inductive AutosOf (g : Grammar) (t : Table) : List (Nat × Nat) → Prop where
  | main (h1 : g.auglIdx = none) (h2 : t.layoutState = none) : AutosOf g t [(0, 0)]
  | layout (l pl ls : Nat) (h1 : g.auglIdx = some l) (h2 : t.layoutState = some ls)
      (h3 : Canon.prodsOf g l = [pl]) (h4 : 0 < ls) : AutosOf g t [(ls, pl), (0, 0)]

/-- the states below `lo` have been taken from the queue -/
structure Invs (g : Grammar) (fs : Array (List Nat)) (autos : List (Nat × Nat)) (lo : Nat) (sts : Array State) : Prop where
  inv : Inv g autos sts
  invc : InvC g lo lo sts
  prio : InvP g sts
  just : JInv g fs autos sts

section
variable {fs : Array (List Nat)} {tt : String} {rn : Option (Array Nat)} {autos : List (Nat × Nat)}
  {sts sts' : Array State} {fuel lo : Nat}

theorem Invs.empty (g : Grammar) (fs : Array (List Nat)) : Invs g fs [] 0 #[] :=
  ⟨Inv.empty g, InvC.empty g, fun i st h => by simp at h, fun i st h => by simp at h⟩

/-- the invariants inside the successor loop of the state `cur`, whose closed items are `items` -/
structure LinkInvs (g : Grammar) (fs : Array (List Nat)) (autos : List (Nat × Nat)) (cur : Nat) (items : List Item)
    (rest : List (Nat × List Item)) (sts : Array State) : Prop where
  inv : Inv g autos sts
  link : LinkC g cur items rest sts
  prio : InvP g sts
  just : JInv g fs autos sts
  snap : JList g fs autos sts cur items

theorem LinkInvs.step (hg : GW g) {cur : Nat} {items : List Item} {e : Nat × List Item} {rest : List (Nat × List Item)}
    {sts2 : Array State} (h : LinkInvs g fs autos cur items (e :: rest) sts) (hn : NewOk g items e.1 e.2)
    (haug : AugStop items) (hsep : AugSep g items) (hstep : LinkStep g tt rn cur e.1 e.2 sts sts2) :
    LinkInvs g fs autos cur items rest sts2 :=
  have ⟨_, _, c1, hD⟩ := h.link.ex
  have hj := JInv.linkStep h.just h.link h.snap hn hstep
  ⟨h.inv.linkStep hg c1 hD hn hstep, h.link.step hn haug hstep, h.prio.linkStep h.link hsep hn hstep, hj.1, hj.2⟩

theorem stepState_all (hg : GW g) (hw : FsWf g fs) {cur : Nat} (h : Invs g fs autos cur sts) (hc : cur < sts.size) :
    (stepState g fs tt rn fuel cur sts).Holds False (Invs g fs autos (cur + 1)) := by
  obtain ⟨hI, hC, hP, hJ⟩ := h
  obtain ⟨st, h1⟩ : ∃ st, sts[cur]? = some st := ⟨_, Array.getElem?_eq_getElem hc⟩
  have hst := hI.st cur st h1
  unfold stepState
  rw [h1]
  refine (closure_safe_rel hg hw fuel _ hst.items hst.nodup).bind fun items h2 hrel => ?_
  rw [acceptInit_eq hg, Res.bind_ok_eq]
  have haug := hrel.aug0 hg (hC.st cur st h1).aug0
  have hsep := (hP cur st h1).sep.closure hg hrel
  have hu := hC.fresh cur st h1 (Nat.le_refl _)
  have hJ1 : JInv g fs autos (sts.setIfInBounds cur { st with items := items, maxPrio := maxPrioOf g items }) :=
    hJ.update h1 rfl rfl (closure_just h2 (hJ cur st h1))
  rw [linkStates_eq_fold]
  refine (foldRes_holds (LinkInvs g fs autos cur items) (newStates g items) (fun e he rest s hs => ?_) _
    ⟨hI.update hg h1 (st' := { st with items := items, maxPrio := maxPrioOf g items }) hrel rfl rfl,
      LinkC.init hC (st' := { st with items := items, maxPrio := maxPrioOf g items }) h1 rfl rfl hrel.cores_sub haug rfl,
      forall_upd hP ⟨hsep, fun a s' hs => by simp only [hu.1 a] at hs; cases hs⟩,
      hJ1, hJ1 cur _ (get_upd_self h1)⟩).mono fun sts' hs' =>
        ⟨hs'.inv, hs'.link.final (closure_closes h2).closedL, hs'.prio, hs'.just⟩
  have hn := newOk_of_mem hg hrel.nodup he
  obtain ⟨stc, _, c1, _⟩ := hs.link.ex
  have hstc := hs.inv.st cur stc c1
  exact (linkOne_holds (lt_size_of_getElem? c1) (.inr ⟨stc, c1, hstc.asize, hstc.gsize, newOk_sym hg hn⟩)).mono
    fun s2 hstep => hs.step hg hn haug hsep hstep

theorem Invs.calcStates_all (hg : GW g) (hw : FsWf g fs) {sym p : Nat} (h : Invs g fs autos sts.size sts)
    (h1 : g.nterms ≤ sym) (h2 : sym < g.nterms + g.nnonterms) (h3 : Canon.prodsOf g sym = [p]) :
    (calcStates g fs tt rn fuel sym sts).Holds False fun s' => Invs g fs ((sts.size, p) :: autos) s'.size s' := by
  unfold calcStates
  have : (decide (sym < g.nterms) || decide (g.nnonterms ≤ sym - g.nterms)) = false := by
    simp only [Bool.or_eq_false_iff, decide_eq_false_iff_not]; omega
  rw [this, h3]
  simp only [Bool.false_eq_true, if_false]
  obtain ⟨pr, hp, _⟩ := prodsOf_mem (by rw [h3]; exact List.mem_cons_self : p ∈ Canon.prodsOf g sym)
  refine (calcLoop_holds (Invs g fs ((sts.size, p) :: autos)) (fun c s hs hc => stepState_all hg hw hs hc) fuel
    sts.size _ ⟨h.inv.pushStart hp, ?_, ?_, h.just.pushStart _ p⟩).mono ?_
  · refine h.invc.push (Nat.le_refl _) fun it hit _ => ?_
    rw [List.mem_singleton.mp hit]
    exact List.mem_singleton.mpr rfl
  · apply h.prio.push
    intro a ha b hb _ _
    rw [List.mem_singleton.mp ha, List.mem_singleton.mp hb]
  · rintro s' ⟨c, ⟨hI, hC, hP, hJ⟩, hsz⟩
    exact ⟨hI, hC.widen hsz _ _ (Nat.le_refl _), hP, hJ⟩

theorem Invs.ready (hg : GW g) (hw : FsWf g fs) (h : Invs g fs autos lo sts) {i : Nat} {st : State}
    (hs : sts[i]? = some st) : StReady g st :=
  ⟨h.prio i st hs, h.inv.st i st hs, h.invc.st i st hs, h.just.la hg hw hs⟩

theorem Invs.grown (hg : GW g) (h : Invs g fs autos lo sts) {i : Nat} {st : State} (hi : sts[i]? = some st)
    {items : List Item} (hgr : Grown st.items items) (hj : JList g fs autos sts i items) :
    Invs g fs autos lo (setItems sts i items) :=
  ⟨h.inv.setItems_grown hg hi hgr, h.invc.setItems_grown hi hgr, h.prio.setItems_sep ((h.prio i st hi).sep.grown hgr),
    h.just.setItems_jlist hi hj⟩

theorem Invs.propagate_all (hg : GW g) (hw : FsWf g fs) (n : Nat) (h : Invs g fs autos sts.size sts) :
    (propagate g fs fuel n sts).Holds False fun s' => Invs g fs autos s'.size s' := by
  refine (propagate_holds (fun s => Invs g fs autos s.size s) ?_ ?_ n sts h).mono fun _ hs => hs.1
  · intro s i st hs hi
    have hst := hs.inv.st i st hi
    -- every state is closed by now: its closure only adds lookaheads
    refine .of_safe (closure_safe_rel hg hw fuel _ hst.items hst.nodup).toSafe fun items hc => ?_
    rw [size_setItems]
    exact hs.grown hg hi (closure_grown hc (hs.invc.closed i st hi (lt_size_of_getElem? hi)))
      (closure_just hc (hs.just i st hi))
  · intro s i j hs hi hj
    refine .of_safe (propEdge_safe hg hs.inv hi hj) fun r he => ?_
    obtain ⟨sj, items, h1, h2, h3, h4⟩ := JInv.edge hs.inv hs.just hi hj he
    rw [h3, size_setItems]
    exact hs.grown hg h1 h2 h4

theorem Invs.layoutStates_all (hg : GW g) (hw : FsWf g fs) (h : Invs g fs [(0, 0)] sts.size sts) :
    (layoutStates g fs tt rn fuel sts).Holds False fun r =>
      ∃ autos, Invs g fs autos r.2.size r.2 ∧ ∀ t : Table, t.layoutState = r.1 → AutosOf g t autos := by
  have hsz : 0 < sts.size := by
    obtain ⟨st, h', _⟩ := h.inv.starts (0, 0) List.mem_cons_self
    exact lt_size_of_getElem? h'
  unfold layoutStates
  cases hl : g.auglIdx with
  | none => exact .ok ⟨_, h, fun t ht => .main hl ht⟩
  | some l =>
    obtain ⟨l1, l2, _, pl, _, l4, _⟩ := hg.augl l hl
    exact (h.calcStates_all hg hw l1 l2 l4).bind fun sts1 _ h1 =>
      .ok ⟨_, h1, fun t ht => .layout l pl sts.size hl ht l4 hsz⟩

end

structure Final (g : Grammar) (s : Settings) (t : Table) (sts : Array State) (autos : List (Nat × Nat)) : Prop
    extends Invs g t.firsts autos sts.size sts where
  firstsOk : Firsts g t.firsts
  fix : ∀ ⦃i : Nat⦄ ⦃st : State⦄, sts[i]? = some st → Closes g t.firsts st.items
  stable : ∀ i, i < sts.size → ∀ j ∈ targetsOf (sts.getD i default), EdgeStable sts i j
  autosOk : AutosOf g t autos
  size : t.states.size = sts.size
  fin : ∀ (i : Nat) (st' : State), t.states[i]? = some st' →
    ∃ st, sts[i]? = some st ∧ Finished g s t.rnLens st st'
  rn : s.tableType ≠ "LALR_RN" → t.rnLens = none
  rnSpec : ∀ a, t.rnLens = some a → RnLens g t.firsts a

variable {s : Settings} {t : Table} {sts : Array State} {autos : List (Nat × Nat)}

theorem Final.edge_sub (hF : Final g s t sts autos) {i j X : Nat} {st sj : State} (hs : sts[i]? = some st)
    (ht : HasTrans g st X j) (hj : sts[j]? = some sj) {it tit : Item} (hit : it ∈ st.items) (htit : tit ∈ sj.items)
    (hc : core tit = (it.prod, it.dot + 1)) : Sub it.la tit.la := by
  obtain ⟨hp, hd⟩ : tit.prod = it.prod ∧ tit.dot = it.dot + 1 := _root_.Prod.mk.inj hc
  have hgd := getD_of_getElem? hs default
  obtain ⟨si', sj', e1, e2, e3⟩ := hF.stable i (lt_size_of_getElem? hs) j (by rw [hgd]; exact (mem_targetsOf_iff (hF.inv.st i st hs).asize).mpr ⟨X, ht⟩)
  rw [hs] at e1; rw [hj] at e2
  cases e1; cases e2
  exact (e3 tit htit (isKernel_of_dot (by omega))).sub (hF.inv.st i st hs).nodup hit hp.symm hd.symm

theorem build_spec (hg : GW g) (s : Settings) (fuel : Nat) :
    (∃ X, build g s fuel = .err X) ∨
      (build g s fuel).Holds False fun t => ∃ sts autos, Final g s t sts autos := by
  unfold build
  rcases (firstSets_holds hg fuel).toSafe with ⟨fs, hfs⟩ | hfs
  case inr => rw [hfs]; exact .inr .fuel
  have hfi := (firstSets_holds hg fuel).of_ok hfs
  have hw := hfi.toFsWf
  obtain ⟨rn, hrn, hrn1, hrn2⟩ := rnOf_ok hg hw s
  rw [hfs, Res.bind_ok_eq, hrn, Res.bind_ok_eq]
  split
  · exact .inl ⟨_, rfl⟩
  · refine .inr (((Invs.empty g fs).calcStates_all hg hw hg.aug_ge hg.aug_lt hg.aug_prods).bind fun sts0 _ hA0 =>
      (hA0.layoutStates_all hg hw).bind fun ls _ ⟨autos, hA1, hau⟩ =>
        (hA1.propagate_all hg hw fuel).bind fun sts hp hA => ?_)
    obtain ⟨hx1, hx2⟩ := propagate_exit hp
    rw [finishStates_eq_map]
    refine (mapRes_holds (R := Finished g s rn) sts.toList fun st hst => ?_).bind fun fin _ hf =>
      .ok ⟨sts, autos, hA, hfi, hx1, hx2, hau _ rfl, by simp [← hf.length_eq], fun i st' hi => ?_, hrn1, hrn2⟩
    · obtain ⟨i, hi⟩ := List.getElem?_of_mem hst
      have h1 : sts[i]? = some st := Array.getElem?_toList ▸ hi
      exact finishState_holds s rn (.inr ⟨hg, hA.ready hg hw h1⟩)
    · obtain ⟨st, a1, a2⟩ := hf.get_right i st' (by simpa using hi)
      exact ⟨st, by simpa using a1, a2⟩

theorem Final.shift_before (hF : Final g s t sts autos) {i a s' : Nat} (h : Action.shift s' ∈ t.cell i a) :
    ∃ st, sts[i]? = some st ∧ a < g.nterms ∧ Action.shift s' ∈ st.actions.getD a [] :=
  have ⟨st', hs, hm⟩ := Rustemo.mem_cell h
  have ⟨st, h1, h2⟩ := hF.fin i st' hs
  ⟨st, h1, h2.shift hm⟩

theorem build_final (hg : gwf g = true) {s : Settings} {fuel : Nat} {t : Table} (h : build g s fuel = .ok t) :
    ∃ sts autos, Final g s t sts autos :=
  (build_spec (GW.of_gwf hg) s fuel).elim (fun ⟨_, hX⟩ => nomatch h.symm.trans hX) (·.of_ok h)

end Rustemo.Table
