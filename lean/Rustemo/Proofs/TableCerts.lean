import Rustemo.Proofs.TableBuilt
import Rustemo.Proofs.CompleteCert
import Rustemo.Model.GlrCert
/-!
The structural certificates of a table `build` returns, read off `Final`.  `autosOf` are the automata as the certificates
read them off the table, `autos` those the construction began (`autosOf_spec`).
-/
namespace Rustemo.Table

variable {g : Grammar}
variable {autos : List (Nat × Nat)} {sts : Array State} {t : Table}

theorem auglProd_eq {l pl : Nat} (h1 : g.auglIdx = some l) (h3 : Canon.prodsOf g l = [pl]) :
    g.auglProd = some pl := by
  unfold Grammar.auglProd
  rw [← List.head?_filter, List.filter_congr (q := fun p => match g.prods[p]? with
    | some pr => pr.lhs == l
    | none => false) ?_]
  · exact congrArg List.head? h3
  · intro p _
    cases g.prods[p]? with
    | none => rfl
    | some pr => simp [h1]

theorem autosOf_spec (hg : GW g) (h : AutosOf g t autos) :
    (∀ e, e ∈ autos ↔ ∃ a ∈ autosOf g t, (a.start, a.aug) = e) ∧
    (∀ p, AugProd g p ↔ ∃ a ∈ autosOf g t, a.aug = p) ∧
    (∀ a ∈ autosOf g t, ∃ pr, g.prods[a.aug]? = some pr ∧ pr.rhs = [a.sym]) ∧
    (∀ a ∈ autosOf g t, ∀ b ∈ autosOf g t, a.start = b.start ∨ a.aug = b.aug → a = b) := by
  obtain ⟨pr0, p1, p2, p3⟩ := hg.aug0
  have ha0 : AugProd g 0 := ⟨pr0, p1, .inl p2⟩
  have haug : ∀ {p pr}, g.prods[p]? = some pr → pr.lhs = g.augIdx → p = 0 := fun hpr hl =>
    List.mem_singleton.mp (hg.aug_prods ▸ hl ▸ Rustemo.mem_prodsOf hpr)
  cases h with
  | main h1 h2 =>
    have : autosOf g t = [⟨0, 0, g.startIdx⟩] := by
      unfold autosOf; rw [h2]
    simp only [this, List.mem_singleton, exists_eq_left, forall_eq]
    refine ⟨fun e => eq_comm, fun p => ⟨?_, (· ▸ ha0)⟩, ⟨pr0, p1, p3⟩, fun _ => trivial⟩
    rintro ⟨pr, hpr, hl | hl⟩
    · exact (haug hpr hl).symm
    · rw [h1] at hl; cases hl
  | layout l pl ls h1 h2 h3 h4 =>
    obtain ⟨_, _, hla, pl', prl, q1, q2, q3⟩ := hg.augl l h1
    cases h3.symm.trans q1
    obtain ⟨pr', q2', q4⟩ := prodsOf_mem (h3 ▸ List.mem_cons_self : pl ∈ Canon.prodsOf g l)
    cases q2.symm.trans q2'
    have hne : pl ≠ 0 := by
      rintro rfl
      cases p1.symm.trans q2
      exact hla (q4.symm.trans p2)
    obtain ⟨lsym, hl⟩ : ∃ lsym, prl.rhs = [lsym] := by
      match prl.rhs, q3 with
      | [x], _ => exact ⟨x, rfl⟩
    have : autosOf g t = [⟨0, 0, g.startIdx⟩, ⟨ls, pl, lsym⟩] := by
      unfold autosOf
      rw [h2, auglProd_eq h1 h3]
      simp only [q2, hl]
    simp only [this, List.mem_cons, List.not_mem_nil, or_false, exists_eq_or_imp, exists_eq_left, forall_eq_or_imp,
      forall_eq]
    -- the quantifiers over the two automata are written out: what is left rests on `0 ≠ ls` and `pl ≠ 0`
    have hls := Nat.ne_of_lt h4
    refine ⟨fun e => ⟨fun h => h.symm.imp Eq.symm Eq.symm, fun h => h.symm.imp Eq.symm Eq.symm⟩,
      fun p => ⟨?_, fun h => h.elim (· ▸ ha0) (· ▸ ⟨prl, q2, .inr (q4 ▸ h1.symm)⟩)⟩, ⟨⟨pr0, p1, p3⟩, prl, q2, hl⟩,
      ⟨fun _ => trivial, fun h => (h.elim hls hne.symm).elim⟩, fun h => (h.elim hls.symm hne).elim, fun _ => trivial⟩
    rintro ⟨pr, hpr, hl' | hl'⟩
    · exact .inl (haug hpr hl').symm
    · have := Rustemo.mem_prodsOf hpr
      rw [Option.some.inj (hl'.trans h1), h3] at this
      exact .inr (List.mem_singleton.mp this).symm

/-- the fields are the clauses of `Cert.structuralWith_iff`; `R st p len` is what is known of a `Reduce(p, len)` entry (plain
    or right-nulled) -/
structure Facts (g : Grammar) (t : Table) (R : State → Nat → Nat → Prop) : Prop where
  items : ∀ (i : Nat) (st : State), t.states[i]? = some st → ∀ it ∈ st.items, ItemOk g it
  autos : ∀ (i : Nat) (st : State), t.states[i]? = some st → ∀ it ∈ st.items, ∀ a ∈ autosOf g t,
    (i = a.start → it.dot = 0) ∧ (it.prod = a.aug → it.dot = 0 → i = a.start)
  asize : ∀ (i : Nat) (st : State), t.states[i]? = some st → st.actions.size = g.nterms
  shift : ∀ (i : Nat) (st : State), t.states[i]? = some st → ∀ a s', Action.shift s' ∈ st.actions.getD a [] →
    (∀ au ∈ autosOf g t, s' ≠ au.start) ∧ t.targetOk g st a s' = true
  reduce : ∀ (i : Nat) (st : State), t.states[i]? = some st → ∀ a p len, Action.reduce p len ∈ st.actions.getD a [] →
    R st p len
  accept : ∀ (i : Nat) (st : State), t.states[i]? = some st → ∀ a, Action.accept ∈ st.actions.getD a [] →
    ∃ au ∈ autosOf g t, ∃ pr, g.prods[au.aug]? = some pr ∧ pr.rhs = [au.sym] ∧ (au.aug, 1) ∈ st.items.map core
  goto : ∀ (i : Nat) (st : State), t.states[i]? = some st → ∀ j s', st.gotos.getD j none = some s' →
    (∀ au ∈ autosOf g t, s' ≠ au.start) ∧ t.targetOk g st (g.nterms + j) s' = true
  distinct : ∀ a ∈ autosOf g t, ∀ b ∈ autosOf g t, a.start = b.start → a = b

theorem targetOk_intro {s : Settings}
    (hF : Final g s t sts autos) {st st' : State} (hitems : st'.items = st.items) {X s' : Nat}
    (h : TgtOk g sts st X s') : t.targetOk g st' X s' = true := by
  refine targetOk_iff.mpr fun st2' hs2 it hit => ?_
  obtain ⟨st2, h1, h2⟩ := hF.fin s' st2' hs2
  rw [h2.items] at hit
  by_cases hd : it.dot = 0
  · exact .inl hd
  · obtain ⟨t1, t2⟩ := h st2 h1 it hit hd
    exact .inr ⟨t1, hitems ▸ mem_map_core.mp t2⟩

theorem Final.trans_facts (hg : GW g) {s : Settings} (hF : Final g s t sts autos) {i : Nat} {st st' : State}
    (h1 : sts[i]? = some st) (h2 : Finished g s t.rnLens st st') {X s' : Nat} (ht : HasTrans g st X s') :
    (∀ au ∈ autosOf g t, s' ≠ au.start) ∧ t.targetOk g st' X s' = true := by
  obtain ⟨_, t2, t3⟩ := hF.inv.trans i st h1 X s' ht
  exact ⟨fun au hau => t2 _ (((autosOf_spec hg hF.autosOk).1 _).mpr ⟨au, hau, rfl⟩), targetOk_intro hF h2.items t3⟩

theorem final_facts (hg : GW g) {s : Settings}
    (hF : Final g s t sts autos) :
    Facts g t (fun st p len => ∃ it ∈ st.items, ItemOk g it ∧ it.prod = p ∧ it.dot = len ∧
      Resolve.isReducing g t.rnLens it = true ∧ Resolve.isAugProd g p = false) := by
  obtain ⟨qmem, qaug, qrhs, qinj⟩ := autosOf_spec hg hF.autosOk
  have hI := hF.inv
  refine ⟨?_, ?_, ?_, ?_, ?_, ?_, ?_, fun a ha b hb h => qinj a ha b hb (.inl h)⟩
  · intro i st' hs it hit
    obtain ⟨st, h1, h2⟩ := hF.fin i st' hs
    rw [h2.items] at hit
    exact (hI.st i st h1).items it hit
  · intro i st' hs it hit a ha
    obtain ⟨st, h1, h2⟩ := hF.fin i st' hs
    rw [h2.items] at hit
    have a1 : (a.start, a.aug) ∈ autos := (qmem _).mpr ⟨a, ha, rfl⟩
    refine ⟨?_, ?_⟩
    · intro hia
      obtain ⟨sta, s1, s2, _⟩ := hI.starts _ a1
      simp only at s1
      rw [← hia, h1] at s1
      simp only [Option.some.injEq] at s1
      subst s1
      exact s2 it hit
    · intro hp hd
      obtain ⟨b, hb, e⟩ := (qmem _).mp (hI.augs i st h1 it hit hd ((qaug _).mpr ⟨a, ha, hp.symm⟩))
      obtain ⟨e1, e2⟩ := _root_.Prod.mk.inj e
      rw [← e1, qinj b hb a ha (.inr (e2.trans hp))]
  · intro i st' hs
    obtain ⟨st, h1, h2⟩ := hF.fin i st' hs
    exact h2.asize
  · intro i st' hs a s' hm
    obtain ⟨st, h1, h2⟩ := hF.fin i st' hs
    exact hF.trans_facts hg h1 h2 (.inl (h2.shift hm))
  · intro i st' hs a p len hm
    obtain ⟨st, h1, h2⟩ := hF.fin i st' hs
    obtain ⟨it, i1, i2⟩ := h2.reduce (hI.st i st h1) hm
    obtain ⟨e1, e2, _, e4⟩ := Resolve.evOf_red_iff.mp i2
    cases e4
    exact ⟨it, h2.items ▸ i1, (hI.st i st h1).items it i1, rfl, rfl, e1, e2⟩
  · intro i st' hs a hm
    obtain ⟨st, h1, h2⟩ := hF.fin i st' hs
    obtain ⟨it, i1, i2⟩ := h2.accept (hI.st i st h1) hm
    obtain ⟨_, e1, _, e3⟩ := Resolve.evOf_accept_iff.mp i2
    obtain ⟨au, au1, au3⟩ := (qaug _).mp (isAugProd_iff.mp e1)
    obtain ⟨pr, p1, p2⟩ := qrhs au au1
    refine ⟨au, au1, pr, p1, p2, ?_⟩
    rw [h2.items]
    have hlen : (Resolve.infoOf g it.prod).len = 1 := by
      unfold Resolve.infoOf
      rw [← au3, p1]
      simp [p2]
    refine List.mem_map.mpr ⟨it, i1, ?_⟩
    simp only [core, _root_.Prod.mk.injEq]
    exact ⟨au3.symm, by rw [e3, hlen]⟩
  · intro i st' hs j s' hm
    obtain ⟨st, h1, h2⟩ := hF.fin i st' hs
    exact hF.trans_facts hg h1 h2 (.inr ⟨Nat.le_add_right _ _, by rw [Nat.add_sub_cancel_left, ← h2.gotos]; exact hm⟩)

theorem Facts.clauses {t : Table} {R : State → Nat → Nat → Prop} (hT : Facts g t R)
    (red : State → Nat → Nat → Bool) (hR : ∀ st p len, R st p len → red st p len = true) :
    Cert.structuralWith g t (autosOf g t) red = true := by
  refine Cert.structuralWith_iff.mpr ⟨⟨⟨⟨hT.items, hT.autos⟩, fun i st hs => ⟨Nat.le_of_eq (hT.asize i st hs), fun a =>
    ⟨hT.shift i st hs a, fun p len hm => hR st p len (hT.reduce i st hs a p len hm), fun hm => ?_⟩⟩⟩, hT.goto⟩, hT.distinct⟩
  obtain ⟨au, h1, pr, h2, h3, h4⟩ := hT.accept i st hs a hm
  exact ⟨au, h1, ⟨pr, h2, h3⟩, mem_map_core.mp h4⟩

theorem build_structural (hg : gwf g = true) {s : Settings} {fuel : Nat} {t : Table}
    (h : build g s fuel = .ok t) (htt : s.tableType ≠ "LALR_RN") :
    Cert.structural g t (autosOf g t) = true := by
  have hG := GW.of_gwf hg
  obtain ⟨sts, autos, hF⟩ := build_final hg h
  rw [Cert.structural_eq]
  refine (final_facts hG hF).clauses _ ?_
  rintro st _ _ ⟨it, h1, ⟨pr, hp, _⟩, rfl, rfl, h4, _⟩
  refine Cert.redPlain_iff.mpr ⟨⟨it, h1, rfl, rfl⟩, pr, hp, ?_⟩
  rw [hF.rn htt] at h4
  exact ((Resolve.isReducing_cases hp h4).resolve_right fun ⟨_, _, h, _⟩ => nomatch h).symm

theorem build_accept_stop (hg : gwf g = true) {s : Settings} {fuel : Nat} {t : Table}
    (h : build g s fuel = .ok t) : ∀ si a, Action.accept ∈ t.cell si a → a = 0 := by
  obtain ⟨sts, autos, hF⟩ := build_final hg h
  intro si a hm
  obtain ⟨st', hs, hm'⟩ := Rustemo.mem_cell hm
  obtain ⟨st, h1, h2⟩ := hF.fin si st' hs
  obtain ⟨it, _, i2⟩ := h2.accept (hF.inv.st si st h1) hm'
  exact (Resolve.evOf_accept_iff.mp i2).2.2.1

theorem Final.no_shift_stop (hg : GW g) {s : Settings} (hF : Final g s t sts autos) : NoShiftStop t := by
  intro i s' hm
  obtain ⟨st0, h1, _, hsh⟩ := hF.shift_before hm
  rw [stop_cell_empty hg (hF.inv.st i st0 h1) (hF.invc.st i st0 h1)] at hsh
  cases hsh

theorem Final.targets_in_range {s : Settings} (hF : Final g s t sts autos) :
    (∀ i a s', Action.shift s' ∈ t.cell i a → s' < t.states.size) ∧
    (∀ i A s', t.goto g i A = some s' → s' < t.states.size) := by
  constructor
  · intro i a s' hm
    obtain ⟨st0, h1, hsh⟩ := hF.shift_before hm
    exact hF.size ▸ (hF.inv.trans i st0 h1 a s' (.inl hsh)).1
  · intro i A s' hgo
    obtain ⟨hA, st', hst', hm⟩ := Rustemo.goto_eq_some hgo
    obtain ⟨st0, h1, h2⟩ := hF.fin i st' hst'
    exact hF.size ▸ (hF.inv.trans i st0 h1 A s' (.inr ⟨hA, h2.gotos ▸ hm⟩)).1

theorem Final.no_reduce_aug {s : Settings} (hF : Final g s t sts autos) :
    ∀ i a p len, Action.reduce p len ∈ t.cell i a → g.isAug p = false := by
  intro i a p len hm
  obtain ⟨st', hst', hm'⟩ := Rustemo.mem_cell hm
  obtain ⟨st, h1, h2⟩ := hF.fin i st' hst'
  obtain ⟨it, _, i2⟩ := h2.reduce (hF.inv.st i st h1) hm'
  obtain ⟨_, e2, _, e4⟩ := Resolve.evOf_red_iff.mp i2
  cases e4
  exact (isAug_eq_isAugProd g _).trans e2

theorem Final.before {s : Settings} (hF : Final g s t sts autos) (i : Nat) (st' : State) (hs : t.states[i]? = some st') :
    ∃ st, sts[i]? = some st ∧ st'.items = st.items ∧ st'.gotos = st.gotos ∧
      ∀ a s', Action.shift s' ∈ st'.actions.getD a [] → Action.shift s' ∈ st.actions.getD a [] :=
  have ⟨st, h1, h2⟩ := hF.fin i st' hs
  ⟨st, h1, h2.items, h2.gotos, fun _ _ hm => (h2.shift hm).2⟩

theorem build_structuralRN (hg : gwf g = true) {s : Settings} {fuel : Nat} {t : Table}
    (h : build g s fuel = .ok t) : Cert.structuralRN g t (autosOf g t) (rnNul g t.firsts) = true := by
  have hG := GW.of_gwf hg
  obtain ⟨sts, autos, hF⟩ := build_final hg h
  rw [Cert.structuralRN_eq]
  refine (final_facts hG hF).clauses _ ?_
  rintro st _ _ ⟨it, h1, ⟨pr, hp, hdl⟩, rfl, rfl, h4, _⟩
  refine Cert.redRN_iff.mpr ⟨⟨it, h1, rfl, rfl⟩, pr, hp, hdl, fun Y hY => ?_⟩
  have hYr := (hG.prod_ok it.prod pr hp).2.2 Y (List.mem_of_mem_drop hY)
  have hemp : g.emptyIdx ∈ t.firsts.getD Y [] := by
    rcases Resolve.isReducing_cases hp h4 with h4 | ⟨a, l, hrn, hl, hle⟩
    · rw [h4] at hY
      simp at hY
    · obtain ⟨n, n1, _, n3⟩ := hF.rnSpec a hrn _ pr hp
      rw [hl] at n1
      cases n1
      apply n3 Y
      obtain ⟨k, hk⟩ := Nat.exists_eq_add_of_le hle
      rw [hk, ← List.drop_drop] at hY
      exact List.mem_of_mem_drop hY
  unfold rnNul
  simp only [List.contains_iff_mem, List.mem_filter, List.mem_range, Bool.and_eq_true, bne_iff_ne, ne_eq]
  exact ⟨hYr.2.1, hYr.2.2.2.2, hemp⟩

end Rustemo.Table
