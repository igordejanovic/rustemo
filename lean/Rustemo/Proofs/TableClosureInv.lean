import Rustemo.Proofs.TableInvC
import Rustemo.Proofs.TableJust
import Rustemo.Proofs.TableClosure
/-!
What the invariants need of `closure`: it never panics and relates the item lists by `ClosureRel` (`closure_safe_rel`), on a
closed list it only adds lookaheads (`closure_grown`), and every lookahead it adds is justified (`closure_just`).
-/
namespace Rustemo.Table

variable {g : Grammar} {fs : Array (List Nat)} {autos : List (Nat × Nat)} {sts : Array State}

theorem itemDemands_closureProd {it : Item} {dsi : List (Nat × List Nat)}
    (h : itemDemands g fs it = .ok dsi) : ∀ d ∈ dsi, ClosureProd g d.1 := by
  intro d hd
  obtain ⟨pr, B, hpr, hB, _, _, hq⟩ := mem_itemDemands h hd
  obtain ⟨qr, h1, h2⟩ := prodsOf_mem hq
  exact ⟨qr, it.prod, pr, h1, hpr, h2 ▸ List.mem_of_getElem? hB⟩

theorem newFollow_some {pr : Prod} (it : Item) (h : ∀ X ∈ pr.rhs, X < fs.size) :
    ∃ nf, newFollow g fs pr it = some nf := by
  unfold newFollow
  by_cases hlt : it.dot + 1 < pr.rhs.length
  · obtain ⟨f, hf⟩ := firstsOf_some (g := g) (fs := fs) (syms := pr.rhs.drop (it.dot + 1))
      (fun X hX => h X (List.mem_of_mem_drop hX))
    rw [if_pos hlt, hf]
    exact ⟨_, (apply_ite some _ _ _).symm⟩
  · rw [if_neg hlt]
    exact ⟨_, rfl⟩

theorem itemDemands_ok (hg : GW g) (hw : FsWf g fs) {it : Item} (hok : ItemOk g it) :
    ∃ dsi, itemDemands g fs it = .ok dsi := by
  obtain ⟨pr, hp, _⟩ := hok
  unfold itemDemands
  rw [hp]
  simp only
  cases hB : pr.rhs[it.dot]? with
  | none => exact ⟨_, rfl⟩
  | some B =>
    simp only
    by_cases hBt : B < g.nterms
    · rw [if_pos hBt]; exact ⟨_, rfl⟩
    · rw [if_neg hBt]
      have hBr := ((hg.prod_ok it.prod pr hp).2.2 B (List.mem_of_getElem? hB)).2.1
      have hnf := newFollow_some (g := g) it (rhs_lt hg hw hp)
      obtain ⟨nf, hnf⟩ := hnf
      rw [hnf]
      simp only
      rw [if_pos (by omega)]
      exact ⟨_, rfl⟩

theorem gatherDemands_ok (hg : GW g) (hw : FsWf g fs) : ∀ (items : List Item) (acc : List (Nat × List Nat)),
    (∀ it ∈ items, ItemOk g it) → ∃ ds, gatherDemands g fs items acc = .ok ds := by
  intro items
  induction items with
  | nil => exact fun acc _ => ⟨acc, rfl⟩
  | cons it rest ih =>
    intro acc h
    obtain ⟨dsi, hd⟩ := itemDemands_ok hg hw (h it List.mem_cons_self)
    unfold gatherDemands
    rw [hd]
    exact ih _ (fun x hx => h x (List.mem_cons_of_mem _ hx))

theorem closureRound_ok (hg : GW g) (hw : FsWf g fs) {items : List Item} (h : ∀ it ∈ items, ItemOk g it) :
    ∃ r, closureRound g fs items = .ok r := by
  unfold closureRound
  obtain ⟨ds, hd⟩ := gatherDemands_ok hg hw items [] h
  rw [hd]
  exact ⟨_, rfl⟩

theorem closure_safe_rel (hg : GW g) (hw : FsWf g fs) (n : Nat) (items : List Item)
    (hok : ∀ it ∈ items, ItemOk g it) (hnd : (items.map core).Nodup) :
    (closure g fs n items).Holds False (ClosureRel g items) := by
  refine closure_holds (ClosureRel g items) (fun d => ClosureProd g d.1) ?_ ?_
    (fun its h => .inr (closureRound_ok hg hw h.ok)) n items
    ⟨fun it hit => ⟨it, hit, rfl, Sub.refl _⟩, fun it hit => .inl ⟨it, hit, rfl, Sub.refl _⟩, hok, hnd⟩
  · intro its _ it _ dsi hdsi d hd
    exact itemDemands_closureProd hdsi d hd
  · intro its d hP hQ
    refine ⟨?_, ?_, ?_, ?_⟩
    · intro it hit
      obtain ⟨it1, h1, h2, h3⟩ := hP.mono it hit
      obtain ⟨it2, h4, h5, h6⟩ := addDemand_mono d its it1 h1
      exact ⟨it2, h4, h5.trans h2, h3.trans h6⟩
    · intro it' hit'
      rcases addDemand_from d its it' hit' with ⟨it1, h1, h2, h2', _⟩ | h1
      · rcases hP.back it1 h1 with ⟨it0, h3, h4, h4'⟩ | ⟨h3, h4⟩
        · exact .inl ⟨it0, h3, h4.trans h2, h4'.trans h2'⟩
        · exact .inr ⟨(core_eq h2).2 ▸ h3, (core_eq h2).1 ▸ h4⟩
      · subst h1
        exact .inr ⟨rfl, hQ⟩
    · intro it' hit'
      rcases addDemand_from d its it' hit' with ⟨it1, h1, h2, _⟩ | h1
      · obtain ⟨pr, h3, h4⟩ := hP.ok it1 h1
        exact ⟨pr, (core_eq h2).1 ▸ h3, (core_eq h2).2 ▸ h4⟩
      · subst h1
        obtain ⟨qr, _, _, h3, _⟩ := hQ
        exact ⟨qr, h3, Nat.zero_le _⟩
    · rcases addDemand_cores d its with ⟨h1, _⟩ | ⟨h1, h2⟩
      · rw [h1]; exact hP.nodup
      · rw [h1]
        apply List.nodup_append.mpr
        refine ⟨hP.nodup, by simp, ?_⟩
        intro a ha b hb
        simp only [List.mem_singleton] at hb
        subst hb
        exact fun h => h2 (h ▸ ha)

theorem Closes.closedL {items : List Item} (h : Closes g fs items) : ClosedL g items := by
  intro c hc B hB hn q hq
  obtain ⟨it, i1, rfl⟩ := List.mem_map.mp hc
  obtain ⟨pr, hp, hB⟩ := rhsAt_eq_some.mp hB
  obtain ⟨_, it', _, j1, j2, _⟩ := h i1 hp hB hn hq
  exact List.mem_map.mpr ⟨it', j1, j2⟩

theorem ClosureRel.aug0 (hg : GW g) {items items' : List Item} (hrel : ClosureRel g items items')
    (h : AugStop items) : AugStop items' := by
  intro it hit hp
  obtain ⟨pr0, p1, p2, _⟩ := hg.aug0
  obtain ⟨it0, b1, b2, b3⟩ := hrel.old hg hit fun _ => ⟨pr0, hp ▸ p1, .inl p2⟩
  exact b3 0 (h it0 b1 ((core_eq b2).1.trans hp))

theorem addDemand_grown (d : Nat × List Nat) (items : List Item) (h : (d.1, 0) ∈ items.map core) :
    Grown items (addDemand d items).1 := by
  rcases addDemand_eq d items with ⟨pre, x, post, rfl, _, he⟩ | ⟨hn, _⟩
  · rw [he]
    exact (Grown.refl pre).append (.cons ⟨rfl, subset_union_left⟩ (Grown.refl post))
  · exact absurd h hn

theorem closure_grown {n : Nat} {items items' : List Item} (h : closure g fs n items = .ok items')
    (hcl : ClosedL g items) : Grown items items' := by
  apply closure_induct (g := g) (fs := fs) (Grown items) (fun d => (d.1, 0) ∈ items.map core) _ _ n items items' h
    (Grown.refl _)
  · intro its hP it hit dsi hdsi d hd
    obtain ⟨pr, B, b1, b2, b3, _, b4⟩ := mem_itemDemands hdsi hd
    have : core it ∈ items.map core := by rw [← hP.cores]; exact List.mem_map.mpr ⟨it, hit, rfl⟩
    exact hcl (core it) this B (rhsAt_eq_some.mpr ⟨pr, b1, b2⟩) b3 d.1 b4
  · intro its d hP hQ
    exact hP.trans (addDemand_grown d its (by rw [hP.cores]; exact hQ))

theorem AugSep.closure (hg : GW g) {old new : List Item} (h : AugSep g old) (hrel : ClosureRel g old new) :
    AugSep g new := by
  apply h.of_back
  intro it' hit'
  exact (hrel.back it' hit').imp (fun ⟨it0, b1, b2, _⟩ => ⟨it0, b1, (core_eq b2).1⟩) (·.2.not_aug hg)

theorem newFollow_just {i : Nat} {it : Item}
    (hr : Reach g autos sts i it.prod it.dot)
    (hj : ∀ a ∈ it.la, Just g fs autos sts i it.prod it.dot a) {pr : Prod} (hp : g.prods[it.prod]? = some pr)
    {B : Nat} (hB : pr.rhs[it.dot]? = some B) (hn : g.nterms ≤ B) {q : Nat} (hq : q ∈ Canon.prodsOf g B)
    {nf : List Nat} (h : newFollow g fs pr it = some nf) : ∀ b ∈ nf, Just g fs autos sts i q 0 b := by
  intro b hb
  rcases (mem_newFollow h b).mp hb with ⟨hlt, f, hf, hbf, hne⟩ | ⟨hb, hnul⟩
  · exact .gen hr hp hB hn hq hlt hf hbf hne
  · exact .prop (hj b hb) hp hB hn hq hnul

theorem closure_just {i n : Nat} {items items' : List Item}
    (h : closure g fs n items = .ok items') (hj : JList g fs autos sts i items) : JList g fs autos sts i items' := by
  apply closure_induct (g := g) (fs := fs) (JList g fs autos sts i)
    (fun d => Reach g autos sts i d.1 0 ∧ ∀ b ∈ d.2, Just g fs autos sts i d.1 0 b) _ _ n items items' h hj
  · intro its hP it hit dsi hdsi d hd
    obtain ⟨pr, B, hp, hB, hn, hnf, hq⟩ := mem_itemDemands hdsi hd
    obtain ⟨r1, r2⟩ := hP it hit
    exact ⟨.clos r1 hp hB hn hq, newFollow_just r1 r2 hp hB hn hq hnf⟩
  · intro its d hP hQ it' hit'
    rcases addDemand_from d its it' hit' with ⟨it0, h1, h2, _, h3⟩ | h1
    · simp only [core, _root_.Prod.mk.injEq] at h2
      obtain ⟨r1, r2⟩ := hP it0 h1
      rw [← h2.1, ← h2.2]
      refine ⟨r1, ?_⟩
      intro a ha
      rcases h3 a ha with h' | ⟨h', hc⟩
      · exact r2 a h'
      · simp only [core, _root_.Prod.mk.injEq] at hc
        rw [h2.1, h2.2, hc.1, hc.2]
        exact hQ.2 a h'
    · subst h1
      exact ⟨hQ.1, hQ.2⟩

end Rustemo.Table
