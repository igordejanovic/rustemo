import Rustemo.Proofs.TableBuilt
/-!
What the exit conditions of the construction's loops give of the final table: every lookahead that `Just` derives is there
(`Final.just_present`, the converse of `JInv`), and a table none of whose cells had two candidates is complete (`Final.complete`:
resolution then leaves every cell as `CellRaw` says).
-/
namespace Rustemo.Table

variable {g : Grammar}
variable {autos : List (Nat × Nat)} {sts : Array State} {s : Settings} {t : Table}

/-- the reduce candidates as `State.rawCandidates` counts them -/
def complB (g : Grammar) (a : Nat) (it : Item) : Bool := it.dot == g.prodLen it.prod && it.la.contains a

theorem complB_iff {a : Nat} {it : Item} : complB g a it = true ↔ it.dot = g.prodLen it.prod ∧ a ∈ it.la := by
  rw [complB, Bool.and_eq_true, beq_iff_eq, List.contains_iff_mem]

theorem infoOf_len (g : Grammar) (p : Nat) : (Resolve.infoOf g p).len = g.prodLen p := by
  unfold Resolve.infoOf Grammar.prodLen
  cases g.prods[p]? <;> rfl

theorem isReducing_none {it : Item} : Resolve.isReducing g none it = true ↔ it.dot = g.prodLen it.prod := by
  unfold Resolve.isReducing
  rw [infoOf_len, Bool.or_false, beq_iff_eq]

theorem isAugProd_zero (hg : GW g) (hnl : g.auglIdx = none) {p : Nat} (h : Resolve.isAugProd g p = true) : p = 0 := by
  obtain ⟨pr, hpr, hl | hl⟩ := isAugProd_iff.mp h
  · have hm := Rustemo.mem_prodsOf hpr
    rw [hl, hg.aug_prods] at hm
    exact List.mem_singleton.mp hm
  · rw [hnl] at hl; cases hl

theorem isAugProd_of_zero (hg : GW g) : Resolve.isAugProd g 0 = true :=
  have ⟨pr0, p1, p2, _⟩ := hg.aug0
  isAugProd_iff.mpr ⟨pr0, p1, .inl p2⟩

theorem evOf_compl (hg : GW g) (hnl : g.auglIdx = none) {a : Nat} {it : Item}
    (haug : it.prod = 0 → 0 ∈ it.la) (h : Resolve.evOf g none a it ≠ none) : complB g a it = true := by
  refine complB_iff.mpr ?_
  cases hev : Resolve.evOf g none a it with
  | none => exact absurd hev h
  | some ev =>
    cases ev with
    | accept =>
      obtain ⟨_, e1, e2, e3⟩ := Resolve.evOf_accept_iff.mp hev
      have hp := isAugProd_zero hg hnl e1
      rw [infoOf_len] at e3
      exact ⟨e3, by rw [e2]; exact haug hp⟩
    | red r =>
      obtain ⟨e1, _, e3, _⟩ := Resolve.evOf_red_iff.mp hev
      exact ⟨isReducing_none.mp e1, e3⟩

structure CellRaw (g : Grammar) (st : State) (a : Nat) (c : List Action) : Prop where
  det : c.length ≤ 1
  shift : ∀ s', Action.shift s' ∈ st.actions.getD a [] → Action.shift s' ∈ c
  reduce : ∀ it ∈ st.items, complB g a it = true → Resolve.isAugProd g it.prod = false →
    Action.reduce it.prod it.dot ∈ c
  accept : ∀ it ∈ st.items, it.prod = 0 → it.dot = g.prodLen 0 → a = 0 → Action.accept ∈ c

theorem evOf_red_intro {a : Nat} {it : Item} (hco : complB g a it = true)
    (hna : Resolve.isAugProd g it.prod = false) : Resolve.evOf g none a it = some (.red ⟨it.prod, it.dot⟩) :=
  Resolve.evOf_red_iff.mpr ⟨isReducing_none.mpr (complB_iff.mp hco).1, hna, (complB_iff.mp hco).2, rfl⟩

theorem evOf_accept_intro {it : Item} (hd : it.dot = g.prodLen it.prod)
    (hau : Resolve.isAugProd g it.prod = true) : Resolve.evOf g none 0 it = some .accept :=
  Resolve.evOf_accept_iff.mpr ⟨isReducing_none.mpr hd, hau, rfl, (infoOf_len g it.prod).symm ▸ hd⟩

theorem cellRaw (hg : GW g) (hnl : g.auglIdx = none) {s : Settings} {st : State} (hok : StOk g st) (hc : StC g st)
    {a : Nat} {c : List Action} (hfin : finishCell g s none st a = .ok c)
    (hraw : (if st.items.any (fun it => g.rhsAt it.prod it.dot == some a) then 1 else 0) +
      (st.items.filter (complB g a)).length ≤ 1) : CellRaw g st a c := by
  have hcell := finishCell_eq_ok.mp hfin
  unfold Resolve.events at hcell
  rw [filterMap_filter _ (complB g a) _ (fun it hit h => evOf_compl hg hnl (hc.aug0 it hit) h)] at hcell
  have hstart : ∀ it ∈ st.items, it.prod = 0 → it.dot = g.prodLen 0 → a = 0 →
      it ∈ st.items.filter (complB g a) := by
    intro it hit hp hd ha
    exact List.mem_filter.mpr ⟨hit, complB_iff.mpr ⟨by rw [hd, hp], by rw [ha]; exact hc.aug0 it hit hp⟩⟩
  have hcand : ∀ it ∈ st.items, complB g a it = true → it ∈ st.items.filter (complB g a) :=
    fun it hit hco => List.mem_filter.mpr ⟨hit, hco⟩
  cases hf : st.items.filter (complB g a) with
  | nil =>
    -- no candidate: resolution leaves the cell as `calc_states` filled it
    rw [hf] at hcell hstart hcand
    simp only [List.filterMap_nil, Resolve.cell_nil, Outcome.ok.injEq] at hcell
    subst hcell
    exact ⟨hc.cell1 a, fun _ h => h, fun it hit hco _ => (nomatch hcand it hit hco),
      fun it hit hp hd ha => (nomatch hstart it hit hp hd ha)⟩
  | cons x xs =>
    rw [hf] at hraw hcell hstart hcand
    simp only [List.length_cons] at hraw
    have hxs : xs = [] := List.eq_nil_of_length_eq_zero (by omega)
    subst hxs
    -- one candidate: there was no SHIFT, and the cell is the action of the candidate's event, if it has one
    have hinit : st.actions.getD a [] = [] := cell_empty hok hc fun it hit hX => by
      rw [if_pos (List.any_eq_true.mpr ⟨it, hit, by rw [hX]; exact beq_self_eq_true _⟩)] at hraw
      omega
    rw [hinit] at hcell
    have hc' : c = (Resolve.evOf g none a x).toList.map Resolve.Ev.act := by
      have e : [x].filterMap (Resolve.evOf g none a) = (Resolve.evOf g none a x).toList := by
        cases h : Resolve.evOf g none a x <;> simp [h]
      rw [e, Resolve.cell_toList] at hcell
      exact (Outcome.ok.inj hcell).symm
    subst hc'
    refine ⟨by cases Resolve.evOf g none a x <;> simp, by rw [hinit]; exact fun _ h => (nomatch h), ?_, ?_⟩
    · intro it hit hco hna
      rw [← List.mem_singleton.mp (hcand it hit hco), evOf_red_intro hco hna]
      exact List.mem_cons_self
    · intro it hit hp hd ha
      subst ha
      rw [← List.mem_singleton.mp (hstart it hit hp hd rfl),
        evOf_accept_intro (by rw [hd, hp]) (by rw [hp]; exact isAugProd_of_zero hg)]
      exact List.mem_cons_self

theorem GWF_of_GW (hg : GW g) : GWF g := by
  refine ⟨fun q qr hq => (hg.prod_ok q qr hq).1, hg.aug0, ?_, ?_⟩
  · intro q qr hq hl
    have := Rustemo.mem_prodsOf hq
    rw [hl, hg.aug_prods] at this
    simpa using this
  · intro p pr hp hm
    exact ((hg.prod_ok p pr hp).2.2 _ hm).2.2.1 rfl

theorem Final.target_core
    (hF : Final g s t sts autos) {i : Nat} {st : State} (hs : sts[i]? = some st) {p d X j : Nat}
    (hc : (p, d) ∈ st.items.map core) (hX : g.rhsAt p d = some X) (ht : HasTrans g st X j) :
    ∃ sj, sts[j]? = some sj ∧ (p, d + 1) ∈ sj.items.map core := by
  obtain ⟨s', t1, stt, t2, t3⟩ := hF.invc.trans i st hs (lt_size_of_getElem? hs) (p, d) hc X hX
  have := hasTrans_fun (hF.invc.st i st hs) t1 ht
  subst this
  exact ⟨stt, t2, t3⟩

theorem Final.reach_present
    (hF : Final g s t sts autos) {i p d : Nat} (h : Reach g autos sts i p d) :
    ∃ st, sts[i]? = some st ∧ (p, d) ∈ st.items.map core := by
  induction h with
  | start h =>
    obtain ⟨st, s1, _, it, s3, s4, _⟩ := hF.inv.starts _ h
    exact ⟨st, s1, List.mem_map.mpr ⟨it, s3, s4⟩⟩
  | clos _ hp hB hn hq ih =>
    obtain ⟨st, s1, s2⟩ := ih
    exact ⟨st, s1, hF.invc.closed _ st s1 (lt_size_of_getElem? s1) _ s2 _ (rhsAt_eq_some.mpr ⟨_, hp, hB⟩) hn _ hq⟩
  | trans _ hs hX ht ih =>
    obtain ⟨st, s1, s2⟩ := ih
    rw [hs] at s1
    simp only [Option.some.injEq] at s1
    subst s1
    exact hF.target_core hs s2 hX ht

def HasLA (sts : Array State) (i p d a : Nat) : Prop :=
  ∃ st it, sts[i]? = some st ∧ it ∈ st.items ∧ it.prod = p ∧ it.dot = d ∧ a ∈ it.la

theorem Final.just_present
    (hF : Final g s t sts autos) {i p d a : Nat} (h : Just g t.firsts autos sts i p d a) : HasLA sts i p d a := by
  induction h with
  | start h =>
    obtain ⟨st, s1, _, it, s3, s4, s5⟩ := hF.inv.starts _ h
    exact ⟨st, it, s1, s3, (core_inj s4).1, (core_inj s4).2, s5⟩
  | @gen i p d pr B q f b hr hp hB hn hq hlt hf hb hne =>
    obtain ⟨st, s1, s2⟩ := hF.reach_present hr
    obtain ⟨it, i1, i2⟩ := List.mem_map.mp s2
    simp only [core, _root_.Prod.mk.injEq] at i2
    obtain ⟨rfl, rfl⟩ := i2
    obtain ⟨nf, it', n1, n2, n3, n4⟩ := hF.fix s1 i1 hp hB hn hq
    exact ⟨st, it', s1, n2, (core_inj n3).1, (core_inj n3).2,
      n4 b ((mem_newFollow n1 b).mpr (.inl ⟨hlt, f, hf, hb, hne⟩))⟩
  | @prop i p d a pr B q _ hp hB hn hq hnul ih =>
    obtain ⟨st, it, s1, s2, rfl, rfl, s4⟩ := ih
    obtain ⟨nf, it', n1, n2, n3, n4⟩ := hF.fix s1 s2 hp hB hn hq
    exact ⟨st, it', s1, n2, (core_inj n3).1, (core_inj n3).2, n4 a ((mem_newFollow n1 a).mpr (.inr ⟨s4, hnul⟩))⟩
  | @trans i p d a X j st0 _ hs hX ht ih =>
    obtain ⟨st, it, s1, s2, rfl, rfl, s4⟩ := ih
    cases hs.symm.trans s1
    obtain ⟨sj, t2, t3⟩ := hF.target_core hs (List.mem_map_of_mem s2) hX ht
    obtain ⟨tit, u1, u2⟩ := List.mem_map.mp t3
    exact ⟨sj, tit, t2, u1, (core_inj u2).1, (core_inj u2).2, hF.edge_sub hs ht t2 s2 u1 u2 a s4⟩

theorem Final.just_iff (hF : Final g s t sts autos) {i p d a : Nat} :
    HasLA sts i p d a ↔ Just g t.firsts autos sts i p d a :=
  ⟨fun ⟨st, it, h1, h2, hp, hd, ha⟩ => hp ▸ hd ▸ (hF.just i st h1 it h2).2 a ha, hF.just_present⟩

theorem newFollow_covers {fs : Array (List Nat)} (hg : GW g) (hw : FsWf g fs) {pr : Prod} {it : Item}
    {nf : List Nat} (h : newFollow g fs pr it = some nf) {a b : Nat} (ha : a ∈ it.la)
    (hb : b ∈ firstBetaList g (ctxOf g fs) (pr.rhs.drop (it.dot + 1)) a) : b ∈ nf := by
  unfold firstBetaList at hb
  rcases newFollow_eq_some h with ⟨_, f, hf, hnf⟩ | ⟨hlt, rfl⟩
  · obtain ⟨i1, i2⟩ := firstOfSeq_sub hg hw hf
    rcases List.mem_append.mp hb with h' | h'
    · obtain ⟨b1, b2⟩ := i1 b h'
      rcases hnf with ⟨_, rfl⟩ | ⟨_, rfl⟩
      · exact mem_union.mpr (.inl (mem_filter_ne.mpr ⟨b1, b2⟩))
      · exact b1
    · split at h'
      · rename_i hall
        cases List.mem_singleton.mp h'
        rcases hnf with ⟨_, rfl⟩ | ⟨hc, _⟩
        · exact mem_union.mpr (.inr ha)
        · exact absurd (i2 hall) hc
      · cases h'
  · rw [List.drop_eq_nil_iff.mpr hlt] at hb
    cases List.mem_singleton.mp hb
    exact ha

theorem trans_of_hasTrans {i X j : Nat} {st : State} (hs : t.states[i]? = some st) (h : HasTrans g st X j) :
    t.trans g i X j := by
  rcases h with ⟨hX, hm⟩ | ⟨hX, hm⟩
  · exact (Table.trans_term hX).mpr (cell_eq hs X ▸ hm)
  · refine (Table.trans_nonterm hX).mpr ?_
    rw [Table.goto, Table.gotoNt, if_pos hX, hs]
    exact hm

theorem Final.hasItemLA_iff (hF : Final g s t sts autos) {i p d a : Nat} :
    t.hasItemLA i p d a ↔ HasLA sts i p d a := by
  constructor
  · rintro ⟨st', hs, it, hit, rfl, rfl, ha⟩
    obtain ⟨st, h1, h2⟩ := hF.fin i st' hs
    exact ⟨st, it, h1, h2.items ▸ hit, rfl, rfl, ha⟩
  · rintro ⟨st, it, hs, hit, hp, hd, ha⟩
    have hlt : i < t.states.size := hF.size ▸ lt_size_of_getElem? hs
    obtain ⟨st0, h1, h2⟩ := hF.fin i _ (Array.getElem?_eq_getElem hlt)
    cases hs.symm.trans h1
    exact ⟨_, Array.getElem?_eq_getElem hlt, it, h2.items ▸ hit, hp, hd, ha⟩

theorem Final.raw_state (hg : GW g) (hnl : g.auglIdx = none) (hF : Final g s t sts autos) (hrn : t.rnLens = none)
    (hraw : t.rawDeterministic g = true) {i : Nat} {st' : State} (hs : t.states[i]? = some st') :
    ∃ st, sts[i]? = some st ∧ Finished g s none st st' ∧
      ∀ a, a < g.nterms → CellRaw g st a (st'.actions.getD a []) := by
  obtain ⟨st, h1, h2⟩ := hF.fin i st' hs
  rw [hrn] at h2
  refine ⟨st, h1, h2, fun a ha => ?_⟩
  obtain ⟨c, c1, c2⟩ := h2.cells a ha
  rw [Array.getD_eq_getD_getElem?, c1]
  apply cellRaw hg hnl (hF.inv.st i st h1) (hF.invc.st i st h1) c2
  unfold Table.rawDeterministic at hraw
  rw [Array.all_eq_true_iff_forall_mem] at hraw
  have := List.all_eq_true.mp (hraw st' (Array.mem_of_getElem? hs)) a (List.mem_range.mpr ha)
  unfold State.rawCandidates at this
  rw [h2.items] at this
  exact of_decide_eq_true this

/-- the conclusion of the completeness certificate, from the exit conditions of the construction's own loops: `Closes` for the
    closure clause, `InvC.trans` and `EdgeStable` for the transitions, `CellRaw` for the cells -/
theorem Final.complete (hg : GW g) (hnl : g.auglIdx = none) (hF : Final g s t sts autos) (hrn : t.rnLens = none)
    (hraw : t.rawDeterministic g = true) : Complete g t := by
  have hw := hF.firstsOk.toFsWf
  have raw := @Final.raw_state _ _ _ _ _ hg hnl hF hrn hraw
  refine ⟨?_, ?_, ?_, ?_, ?_, ?_⟩
  · intro si p d a pr B hla hpr hB hBn q qr hq hl b hf
    obtain ⟨st, it, a1, hit, rfl, rfl, ha⟩ := hF.hasItemLA_iff.mp hla
    obtain ⟨nf, it', n1, j1, j2, j3⟩ := hF.fix a1 hit hpr hB hBn (hl ▸ Rustemo.mem_prodsOf hq)
    have hb := Rustemo.firstOf_mem g (ctxOf g t.firsts) (firstOk_ctxOf hg hF.firstsOk)
      (fun p pr hp => (hg.prod_ok p pr hp).1) _ a b hf
    exact hF.hasItemLA_iff.mpr ⟨st, it', a1, j1, (core_inj j2).1, (core_inj j2).2, j3 b (newFollow_covers hg hw n1 ha hb)⟩
  · intro si p d a pr X hla hpr hX
    obtain ⟨st, it, a1, hit, rfl, rfl, ha⟩ := hF.hasItemLA_iff.mp hla
    obtain ⟨st', hs, _⟩ := hla
    obtain ⟨st0, b1, b3, b4⟩ := raw hs
    cases a1.symm.trans b1
    obtain ⟨s', t1, stt, t2, t3⟩ := hF.invc.trans si st a1 (lt_size_of_getElem? a1) _
      (List.mem_map_of_mem hit) X (rhsAt_eq_some.mpr ⟨pr, hpr, hX⟩)
    obtain ⟨tit, u1, u2⟩ := List.mem_map.mp t3
    refine ⟨s', trans_of_hasTrans hs ?_, hF.hasItemLA_iff.mpr
      ⟨stt, tit, t2, u1, (core_inj u2).1, (core_inj u2).2, hF.edge_sub a1 t1 t2 hit u1 u2 a ha⟩⟩
    exact t1.imp (fun ⟨hXt, hm⟩ => ⟨hXt, (b4 X hXt).shift s' hm⟩) (fun ⟨hXn, hm⟩ => ⟨hXn, b3.gotos ▸ hm⟩)
  · intro si p a pr hpr hla hp0
    obtain ⟨st', hs, it, hit, hp, hd, ha⟩ := hla
    obtain ⟨st, a1, a2, a4⟩ := raw hs
    rw [a2.items] at hit
    have hco : complB g a it = true := complB_iff.mpr ⟨by unfold Grammar.prodLen; rw [hp, hpr]; exact hd, ha⟩
    have hna : Resolve.isAugProd g it.prod = false :=
      Bool.eq_false_iff.mpr fun hc => hp0 (hp ▸ isAugProd_zero hg hnl hc)
    have := (a4 a (hF.just.la hg hw a1 it hit a ha)).reduce it hit hco hna
    rw [hp, hd] at this
    exact cell_eq hs a ▸ this
  · intro si pr hpr ⟨st', hs, it, hit, hp, hd⟩
    obtain ⟨st, _, a2, a4⟩ := raw hs
    exact cell_eq hs 0 ▸ (a4 0 hg.nterms_pos).accept it (a2.items ▸ hit) hp
      (by unfold Grammar.prodLen; rw [hpr]; exact hd) rfl
  · intro si a
    unfold Table.cell
    split
    · rename_i st' hs
      obtain ⟨st, _, a2, a4⟩ := raw hs
      rcases Nat.lt_or_ge a g.nterms with h' | h'
      · exact (a4 a h').det
      · rw [Array.getD_eq_getD_getElem?, Array.getElem?_eq_none (a2.asize ▸ h')]
        exact Nat.zero_le _
    · exact Nat.zero_le _
  · have h00 : (0, 0) ∈ autos := by cases hF.autosOk <;> simp
    obtain ⟨sta, s1, _, it, s3, s4, s5⟩ := hF.inv.starts (0, 0) h00
    exact hF.hasItemLA_iff.mpr ⟨sta, it, s1, s3, (core_inj s4).1, (core_inj s4).2, s5⟩

end Rustemo.Table
