import Rustemo.Proofs.TableInvC
/-! `calculate_reductions` and `sort_terminals` (the model's `finishState`), followed once for results and safety together. -/
namespace Rustemo.Table

variable {g : Grammar} {rn : Option (Array Nat)}

theorem finishCells_eq_map (s : Settings) (st : State) (ts : List Nat) :
    finishCells g s rn st ts = mapRes (finishCell g s rn st) ts :=
  eq_mapRes (G := finishCells g s rn st) rfl (fun _ _ => rfl) ts

theorem finishStates_eq_map (s : Settings) (l : List State) :
    finishStates g s rn l = mapRes (finishState g s rn) l :=
  eq_mapRes (G := finishStates g s rn) rfl (fun _ _ => rfl) l

theorem isAugProd_iff {p : Nat} : Resolve.isAugProd g p = true ↔ AugProd g p := by
  unfold Resolve.isAugProd AugProd
  cases hp : g.prods[p]? with
  | none => simp
  | some pr => cases hl : g.auglIdx <;> simp

theorem isAug_eq_isAugProd (g : Grammar) (p : Nat) : g.isAug p = Resolve.isAugProd g p := by
  unfold Grammar.isAug Resolve.isAugProd
  cases hp : g.prods[p]? with
  | none => rfl
  | some pr => cases hl : g.auglIdx <;> simp

theorem finishCell_eq_ok {s : Settings} {st : State} {t : Nat} {c : List Action} :
    finishCell g s rn st t = .ok c ↔
      Resolve.cell Resolve.Fixes.current (cfgOf s) (Resolve.infoOf g) (Resolve.termAssoc g t) (lookupPrio st.maxPrio t)
        (st.actions.getD t []) (Resolve.events g rn st.items t) = .ok c := by
  unfold finishCell
  cases Resolve.cell Resolve.Fixes.current (cfgOf s) (Resolve.infoOf g) (Resolve.termAssoc g t) (lookupPrio st.maxPrio t)
    (st.actions.getD t []) (Resolve.events g rn st.items t) <;> simp [ofOutcome]

theorem filter_le_one {P : Item → Bool} : ∀ {l : List Item}, (l.map core).Nodup →
    (∀ a ∈ l, ∀ b ∈ l, P a = true → P b = true → core a = core b) → (l.filter P).length ≤ 1 := by
  intro l
  induction l with
  | nil => exact fun _ _ => Nat.zero_le _
  | cons x xs ih =>
    intro hnd h
    simp only [List.map_cons, List.nodup_cons] at hnd
    rw [List.filter_cons]
    by_cases hx : P x = true
    · rw [if_pos hx]
      have : xs.filter P = [] := by
        apply List.filter_eq_nil_iff.mpr
        intro y hy hpy
        have := h x List.mem_cons_self y (List.mem_cons_of_mem _ hy) hx hpy
        exact hnd.1 (List.mem_map.mpr ⟨y, hy, this.symm⟩)
      rw [this]; exact Nat.le_refl _
    · rw [if_neg hx]
      exact ih hnd.2 (fun a ha b hb => h a (List.mem_cons_of_mem _ ha) b (List.mem_cons_of_mem _ hb))

theorem accepts_filterMap (f : Item → Option Resolve.Ev) : ∀ (l : List Item),
    Resolve.accepts (l.filterMap f) = (l.filter fun it => f it == some Resolve.Ev.accept).length := by
  intro l
  induction l with
  | nil => rfl
  | cons x xs ih =>
    rw [List.filterMap_cons, List.filter_cons]
    cases hf : f x with
    | none => simp [ih]
    | some e =>
      cases e with
      | accept =>
        simp only [beq_self_eq_true, if_true, List.length_cons]
        rw [Resolve.accepts_cons_accept, ih]
      | red r =>
        have : (some (Resolve.Ev.red r) == some Resolve.Ev.accept) = false := by simp
        simp only [this, Bool.false_eq_true, if_false]
        rw [Resolve.accepts_cons_red, ih]

/-- what the invariants give of a state when conflict resolution starts: `calculate_reductions` then has no panic -/
structure StReady (g : Grammar) (st : State) : Prop extends StP g st where
  ok : StOk g st
  c : StC g st
  la : ∀ it ∈ st.items, ∀ a ∈ it.la, a < g.nterms

theorem finishCell_ok (hg : GW g) (s : Settings) (rn : Option (Array Nat)) {st : State} (h : StReady g st) (t : Nat) :
    ∃ c, finishCell g s rn st t = .ok c := by
  obtain ⟨⟨hsep, hpr⟩, hok, hc, _⟩ := h
  have hinit1 := hc.cell1 t
  have hacc : Resolve.shiftLikes (st.actions.getD t []) + Resolve.accepts (Resolve.events g rn st.items t) ≤ 1 := by
    unfold Resolve.events
    rw [accepts_filterMap]
    have hle : (st.items.filter fun it => Resolve.evOf g rn t it == some Resolve.Ev.accept).length ≤ 1 := by
      apply filter_le_one hok.nodup
      intro a ha b hb pa pb
      simp only [beq_iff_eq] at pa pb
      obtain ⟨_, a1, _, a3⟩ := Resolve.evOf_accept_iff.mp pa
      obtain ⟨_, b1, _, b3⟩ := Resolve.evOf_accept_iff.mp pb
      have := hsep a ha b hb (isAugProd_iff.mp a1) (isAugProd_iff.mp b1)
      simp only [core, _root_.Prod.mk.injEq]
      exact ⟨this, by rw [a3, b3, this]⟩
    have hsl : Resolve.shiftLikes (st.actions.getD t []) ≤ 1 := by
      unfold Resolve.shiftLikes
      exact Nat.le_trans (List.length_filter_le _ _) hinit1
    cases hf : st.items.filter (fun it => Resolve.evOf g rn t it == some Resolve.Ev.accept) with
    | nil => simp only [List.length_nil, Nat.add_zero]; exact hsl
    | cons x xs =>
      have hx : x ∈ st.items.filter (fun it => Resolve.evOf g rn t it == some Resolve.Ev.accept) := by
        rw [hf]; exact List.mem_cons_self
      have := (List.mem_filter.mp hx).2
      simp only [beq_iff_eq] at this
      have ht0 := (Resolve.evOf_accept_iff.mp this).2.2.1
      rw [ht0, stop_cell_empty hg hok hc]
      rw [hf] at hle
      simp only [Resolve.shiftLikes, List.filter_nil, List.length_nil, Nat.zero_add]
      exact hle
  have hsp : Resolve.SpOk (lookupPrio st.maxPrio t) (st.actions.getD t []) := by
    unfold Resolve.SpOk
    by_cases hex : ∃ s', Action.shift s' ∈ st.actions.getD t []
    · obtain ⟨s', hs'⟩ := hex
      exact .inl (hpr t s' hs')
    · exact .inr (fun s' hs' => hex ⟨s', hs'⟩)
  obtain ⟨c, hcell⟩ := Resolve.cell_total Resolve.Fixes.current (by decide) (cfgOf s) (Resolve.infoOf g)
    (Resolve.termAssoc g t) (lookupPrio st.maxPrio t) (Resolve.events g rn st.items t) _ hacc hsp
  exact ⟨c, finishCell_eq_ok.mpr hcell⟩

theorem termDescs_ok (hg : GW g) : ∀ (ts : List Nat), (∀ t ∈ ts, t < g.nterms) →
    ∃ descs, termDescs g ts = some descs := by
  intro ts
  induction ts with
  | nil => exact fun _ => ⟨[], rfl⟩
  | cons t rest ih =>
    intro h
    have ht := h t List.mem_cons_self
    have hlt : t < g.terms.size := by rw [hg.terms_size]; exact ht
    obtain ⟨r, h1⟩ := ih (fun x hx => h x (List.mem_cons_of_mem _ hx))
    have hget : g.terms[t]? = some g.terms[t] := Array.getElem?_eq_getElem hlt
    unfold termDescs termDesc
    rw [hget, h1]
    exact ⟨_, rfl⟩

/-- `sort_terminals` has no panic site besides `terminals[term]`: the sort key is a pair, compared
    lexicographically, there is no arithmetic on the priority -/
theorem sortedOf_ok (hg : GW g) (s : Settings) {cells : List (List Action)} (hlen : cells.length = g.nterms) :
    ∃ r, sortedOf g s cells = .ok r := by
  unfold sortedOf
  obtain ⟨descs, h1⟩ := termDescs_ok hg ((List.range cells.length).filter fun t => !(cells.getD t []).isEmpty)
    (fun t ht => by rw [← hlen]; exact List.mem_range.mp (List.mem_filter.mp ht).1)
  simp only [h1]
  exact ⟨_, rfl⟩

/-- what `calculate_reductions` and `sort_terminals` leave of the state `st` -/
structure Finished (g : Grammar) (s : Settings) (rn : Option (Array Nat)) (st st' : State) : Prop where
  items : st'.items = st.items
  gotos : st'.gotos = st.gotos
  symbol : st'.symbol = st.symbol
  asize : st'.actions.size = g.nterms
  cells : ∀ a, a < g.nterms → ∃ c, st'.actions[a]? = some c ∧ finishCell g s rn st a = .ok c

/-- the panics are `terminals[term]` and those of the conflict resolution; `F := True` reads a result, `F := False` with
    what the invariants give of `st` says there is none -/
theorem finishState_holds {F : Prop} (s : Settings) (rn : Option (Array Nat)) {st : State}
    (hsafe : F ∨ (GW g ∧ StReady g st)) : (finishState g s rn st).Holds F (Finished g s rn st) := by
  unfold finishState
  by_cases hfr : followsInRange g rn st = true
  · simp only [hfr, Bool.not_true, Bool.false_eq_true, if_false]
    rw [finishCells_eq_map]
    refine (mapRes_holds (R := fun t c => finishCell g s rn st t = .ok c) _ fun t _ => ?_).bind fun cells _ hc => ?_
    · rcases hsafe with hf | ⟨hg, hr⟩
      · exact (Res.Holds.of_inv fun _ h => h).weaken fun _ => hf
      · obtain ⟨c, h⟩ := finishCell_ok hg s rn hr t
        rw [h]
        exact .ok rfl
    have hlen : cells.length = g.nterms := by rw [← hc.length_eq]; simp
    have hsorted : (sortedOf g s cells).Holds F fun _ => True :=
      hsafe.elim (fun hf => (Res.Holds.of_inv fun _ _ => trivial).weaken fun _ => hf) fun h =>
        let ⟨_, hr⟩ := sortedOf_ok h.1 s hlen
        hr ▸ .ok trivial
    refine hsorted.bind fun sorted _ _ => .ok ⟨rfl, rfl, rfl, by simp [hlen], fun a ha => ?_⟩
    obtain ⟨c, c3, c4⟩ := hc.get_left a a (List.getElem?_range ha)
    exact ⟨c, by simpa using c3, c4⟩
  · simp only [hfr, Bool.not_false, if_true]
    refine hsafe.elim id fun ⟨hg, hrd⟩ => absurd ?_ hfr
    unfold followsInRange
    rw [List.all_eq_true]
    intro it hit
    simp only [Bool.or_eq_true, Bool.not_eq_true']
    by_cases hr : Resolve.isReducing g rn it = true
    · right
      split
      · simp only [Bool.or_eq_true, decide_eq_true_eq]
        exact .inr hg.nterms_pos
      · rw [List.all_eq_true]
        intro a ha
        simpa using hrd.la it hit a ha
    · left; simpa using hr

theorem finishState_eq_ok {s : Settings} {st st' : State} (h : finishState g s rn st = .ok st') : Finished g s rn st st' :=
  (finishState_holds (F := True) s rn (.inl trivial)).of_ok h

section
variable {s : Settings} {st st' : State}

theorem Finished.cell (hfin : Finished g s rn st st') {a : Nat} {act : Action} (h : act ∈ st'.actions.getD a []) :
    a < g.nterms ∧ (act ∈ st.actions.getD a [] ∨
      (act = .accept ∧ ∃ it ∈ st.items, Resolve.evOf g rn a it = some .accept) ∨
      ∃ it ∈ st.items, ∃ r, Resolve.evOf g rn a it = some (.red r) ∧ act = .reduce r.prod r.pos) := by
  have ha : a < g.nterms := by
    rcases Nat.lt_or_ge a g.nterms with h' | h'
    · exact h'
    · rw [Array.getD_eq_getD_getElem?, Array.getElem?_eq_none (hfin.asize ▸ h')] at h
      cases h
  refine ⟨ha, ?_⟩
  obtain ⟨c, c1, c2⟩ := hfin.cells a ha
  rw [Array.getD_eq_getD_getElem?, c1] at h
  simp only [Option.getD_some] at h
  rcases Resolve.mem_cell _ _ _ _ _ _ _ _ (finishCell_eq_ok.mp c2) act h with h1 | ⟨h1, h2⟩ | ⟨r, h1, h2⟩
  · exact .inl h1
  · right; left
    exact ⟨h1, List.mem_filterMap.mp h2⟩
  · right; right
    obtain ⟨it, i1, i2⟩ := List.mem_filterMap.mp h1
    exact ⟨it, i1, r, i2, h2⟩

theorem final_cell {s : Settings} {rn : Option (Array Nat)} {st st' : State}
    (hfin : finishState g s rn st = .ok st') {a : Nat} {act : Action} (h : act ∈ st'.actions.getD a []) :
    a < g.nterms ∧ (act ∈ st.actions.getD a [] ∨
      (act = .accept ∧ ∃ it ∈ st.items, Resolve.evOf g rn a it = some .accept) ∨
      ∃ it ∈ st.items, ∃ r, Resolve.evOf g rn a it = some (.red r) ∧ act = .reduce r.prod r.pos) :=
  (finishState_eq_ok hfin).cell h

theorem Finished.shift (hfin : Finished g s rn st st') {a s' : Nat} (h : Action.shift s' ∈ st'.actions.getD a []) :
    a < g.nterms ∧ Action.shift s' ∈ st.actions.getD a [] := by
  obtain ⟨ha, hc | ⟨hc, _⟩ | ⟨_, _, _, _, hc⟩⟩ := hfin.cell h
  · exact ⟨ha, hc⟩
  · cases hc
  · cases hc

theorem Finished.accept (hok : StOk g st) (hfin : Finished g s rn st st') {a : Nat} (h : Action.accept ∈ st'.actions.getD a []) :
    ∃ it ∈ st.items, Resolve.evOf g rn a it = some .accept := by
  obtain ⟨_, hc | ⟨_, hc⟩ | ⟨_, _, _, _, hc⟩⟩ := hfin.cell h
  · obtain ⟨s', hs'⟩ := hok.cells a _ hc
    cases hs'
  · exact hc
  · cases hc

theorem Finished.reduce (hok : StOk g st) (hfin : Finished g s rn st st') {a p len : Nat}
    (h : Action.reduce p len ∈ st'.actions.getD a []) :
    ∃ it ∈ st.items, Resolve.evOf g rn a it = some (.red ⟨p, len⟩) := by
  obtain ⟨_, hc | ⟨hc, _⟩ | ⟨it, i1, r, i2, hc⟩⟩ := hfin.cell h
  · obtain ⟨s', hs'⟩ := hok.cells a _ hc
    cases hs'
  · cases hc
  · cases hc
    exact ⟨it, i1, i2⟩

end

end Rustemo.Table
