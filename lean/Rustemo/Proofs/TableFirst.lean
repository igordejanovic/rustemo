import Rustemo.Proofs.TableState
import Rustemo.Proofs.CompleteCert
import Rustemo.Proofs.GlrCert
/-!
`first_sets`: the invariant of `while additions` (`FsWf`: the shape; `NulS`: EMPTY in a set means nullable) and its exit
condition (a post-fixpoint of the production equations), so that the sets pass `Cert.firstOk`; `production_rn_lengths`.
-/
namespace Rustemo.Table

variable {g : Grammar} {fs : Array (List Nat)}

structure FsWf (g : Grammar) (fs : Array (List Nat)) : Prop where
  size : fs.size = g.nterms + g.nnonterms
  term : ∀ X, X < g.nterms → fs[X]? = some [X]
  elems : ∀ (X : Nat) (l : List Nat), fs[X]? = some l → ∀ b ∈ l, b < g.nterms ∨ b = g.emptyIdx

def NulS (g : Grammar) (fs : Array (List Nat)) : Prop :=
  ∀ (X : Nat) (l : List Nat), fs[X]? = some l → g.emptyIdx ∈ l → X = g.emptyIdx ∨ Nullable g X

structure Firsts (g : Grammar) (fs : Array (List Nat)) : Prop extends FsWf g fs where
  nul : NulS g fs
  post : ∀ pr ∈ g.prods.toList, ∃ r old, firstsOf g fs pr.rhs = some r ∧ fs[pr.lhs]? = some old ∧ Sub r old

theorem firstsOf_some {syms : List Nat} (h : ∀ X ∈ syms, X < fs.size) : ∃ r, firstsOf g fs syms = some r := by
  induction syms with
  | nil => exact ⟨_, rfl⟩
  | cons X rest ih =>
    obtain ⟨r, hr⟩ := ih fun Y hY => h Y (List.mem_cons_of_mem _ hY)
    unfold firstsOf
    rw [Array.getElem?_eq_getElem (h X List.mem_cons_self), hr]
    dsimp only
    split
    · exact ⟨_, rfl⟩
    · exact ⟨_, rfl⟩

theorem firstsOf_cons {X : Nat} {rest r : List Nat} (h : firstsOf g fs (X :: rest) = some r) :
    ∃ fx, fs[X]? = some fx ∧
      ((g.emptyIdx ∈ fx ∧ ∃ r', firstsOf g fs rest = some r' ∧ r = union (fx.filter (· != g.emptyIdx)) r') ∨
       (g.emptyIdx ∉ fx ∧ r = fx.filter (· != g.emptyIdx))) := by
  unfold firstsOf at h
  split at h
  · cases h
  · rename_i fx hfx
    refine ⟨fx, hfx, ?_⟩
    split at h
    · rename_i hc
      split at h
      · rename_i r' hr'
        exact .inl ⟨List.contains_iff_mem.mp hc, r', hr', (Option.some.inj h).symm⟩
      · cases h
    · rename_i hc
      exact .inr ⟨fun hm => hc (List.contains_iff_mem.mpr hm), (Option.some.inj h).symm⟩

theorem mem_filter_ne {l : List Nat} {E b : Nat} : b ∈ l.filter (· != E) ↔ b ∈ l ∧ b ≠ E := by
  rw [List.mem_filter, bne_iff_ne]

theorem firstsOf_mem {syms : List Nat} {r : List Nat} (h : firstsOf g fs syms = some r) :
    ∀ b ∈ r, b = g.emptyIdx ∨ (b ≠ g.emptyIdx ∧ ∃ X ∈ syms, ∃ l, fs[X]? = some l ∧ b ∈ l) := by
  induction syms generalizing r with
  | nil =>
    cases h
    exact fun b hb => .inl (List.mem_singleton.mp hb)
  | cons X rest ih =>
    obtain ⟨fx, hfx, hr⟩ := firstsOf_cons h
    have hhead : ∀ b ∈ fx.filter (· != g.emptyIdx), b ≠ g.emptyIdx ∧ ∃ Y ∈ X :: rest, ∃ l, fs[Y]? = some l ∧ b ∈ l :=
      fun b hb => ⟨(mem_filter_ne.mp hb).2, X, List.mem_cons_self, fx, hfx, (mem_filter_ne.mp hb).1⟩
    intro b hb
    rcases hr with ⟨_, r', hr', rfl⟩ | ⟨_, rfl⟩
    · rcases mem_union.mp hb with h' | h'
      · exact .inr (hhead b h')
      · exact (ih hr' b h').imp id fun ⟨h1, Y, hY, hl⟩ => ⟨h1, Y, List.mem_cons_of_mem _ hY, hl⟩
    · exact .inr (hhead b hb)

theorem firstsOf_empty {syms : List Nat} {r : List Nat} (h : firstsOf g fs syms = some r)
    (he : g.emptyIdx ∈ r) : ∀ X ∈ syms, ∃ l, fs[X]? = some l ∧ g.emptyIdx ∈ l := by
  induction syms generalizing r with
  | nil => exact fun _ h => nomatch h
  | cons X rest ih =>
    obtain ⟨fx, hfx, hr⟩ := firstsOf_cons h
    rcases hr with ⟨hc, r', hr', rfl⟩ | ⟨_, rfl⟩
    · intro Y hY
      rcases List.mem_cons.mp hY with rfl | h'
      · exact ⟨fx, hfx, hc⟩
      · exact ih hr' ((mem_union.mp he).resolve_left fun h' => (mem_filter_ne.mp h').2 rfl) Y h'
    · exact absurd rfl (mem_filter_ne.mp he).2

theorem firstInit_get (n m X : Nat) (hX : X < n + m) :
    ((List.range n).map (fun i => [i]) ++ List.replicate m ([] : List Nat))[X]? =
      some (if X < n then [X] else []) := by
  by_cases hx : X < n
  · rw [if_pos hx, List.getElem?_append_left (by rw [List.length_map, List.length_range]; exact hx),
      List.getElem?_map, List.getElem?_range hx]
    rfl
  · rw [if_neg hx, List.getElem?_append_right (by rw [List.length_map, List.length_range]; omega),
      List.getElem?_replicate, if_pos (by rw [List.length_map, List.length_range]; omega)]

theorem firstInit_wf (hg : GW g) : ∃ fs, firstInit g = some fs ∧ FsWf g fs ∧ NulS g fs := by
  have hE : ¬g.emptyIdx < g.nterms := Nat.not_lt.mpr hg.empty_ge
  unfold firstInit
  dsimp only
  rw [List.getElem?_toArray, firstInit_get _ _ _ hg.empty_lt, if_neg hE]
  have hsz : ∀ s, ((List.map (fun i => [i]) (List.range g.nterms) ++ List.replicate g.nnonterms ([] : List Nat)).toArray.setIfInBounds
      g.emptyIdx s).size = g.nterms + g.nnonterms := fun s => by
    rw [Array.size_setIfInBounds, List.size_toArray, List.length_append, List.length_map, List.length_range,
      List.length_replicate]
  have key : ∀ (X : Nat) (l : List Nat), ((List.map (fun i => [i]) (List.range g.nterms) ++
      List.replicate g.nnonterms ([] : List Nat)).toArray.setIfInBounds g.emptyIdx (ins g.emptyIdx []))[X]? = some l →
      ∀ b ∈ l, (b < g.nterms ∨ b = g.emptyIdx) ∧ (b = g.emptyIdx → X = g.emptyIdx) := by
    intro X l hl b hb
    have hX : X < g.nterms + g.nnonterms := hsz _ ▸ lt_size_of_getElem? hl
    rcases get_upd_cases hl with ⟨h, rfl⟩ | ⟨_, hl⟩
    · exact ⟨.inr (List.mem_singleton.mp hb), fun _ => h⟩
    · rw [List.getElem?_toArray, firstInit_get _ _ _ hX] at hl
      cases hl
      by_cases hx : X < g.nterms
      · rw [if_pos hx] at hb
        cases List.mem_singleton.mp hb
        exact ⟨.inl hx, fun h => absurd (h ▸ hx) hE⟩
      · rw [if_neg hx] at hb
        cases hb
  refine ⟨_, rfl, ⟨hsz _, ?_, fun X l hl b hb => (key X l hl b hb).1⟩, fun X l hl he => .inl ((key X l hl _ he).2 rfl)⟩
  intro X hX
  rw [Array.getElem?_setIfInBounds, if_neg (fun h : g.emptyIdx = X => hE (h ▸ hX)), List.getElem?_toArray,
    firstInit_get _ _ _ (Nat.lt_add_right _ hX), if_pos hX]

/-- the only panic is an index out of the FIRST table (`first_sets[symbol]`) -/
theorem firstProd_holds {F : Prop} {pr : Prod}
    (hsafe : F ∨ ((∃ r, firstsOf g fs pr.rhs = some r) ∧ ∃ old, fs[pr.lhs]? = some old)) :
    (firstProd g fs pr).Holds F fun q => ∃ r old, firstsOf g fs pr.rhs = some r ∧ fs[pr.lhs]? = some old ∧
      q = (fs.setIfInBounds pr.lhs (union old r), decide (old.length < (union old r).length)) := by
  unfold firstProd
  cases hr : firstsOf g fs pr.rhs with
  | none => exact hsafe.resolve_right fun ⟨⟨_, h⟩, _⟩ => nomatch hr.symm.trans h
  | some r =>
    cases hold : fs[pr.lhs]? with
    | none => exact hsafe.resolve_right fun ⟨_, _, h⟩ => nomatch hold.symm.trans h
    | some old => exact ⟨r, old, rfl, rfl, rfl⟩

theorem FsWf.step {pr : Prod} {r old : List Nat} (hlhs : g.nterms ≤ pr.lhs) (hw : FsWf g fs)
    (hr : firstsOf g fs pr.rhs = some r) (hold : fs[pr.lhs]? = some old) :
    FsWf g (fs.setIfInBounds pr.lhs (union old r)) := by
  refine ⟨by rw [Array.size_setIfInBounds]; exact hw.size, ?_, ?_⟩
  · intro X hX
    rw [Array.getElem?_setIfInBounds, if_neg (by omega)]
    exact hw.term X hX
  · intro X l' hl' b hb
    rcases get_upd_cases hl' with ⟨_, rfl⟩ | ⟨_, hl'⟩
    · rcases mem_union.mp hb with h' | h'
      · exact hw.elems pr.lhs old hold b h'
      · rcases firstsOf_mem hr b h' with h'' | ⟨_, Y, _, l2, h2, h3⟩
        · exact .inr h''
        · exact hw.elems Y l2 h2 b h3
    · exact hw.elems X l' hl' b hb

theorem nullable_of_rhs {p : Nat} {pr : Prod} (hp : g.prods[p]? = some pr) (h : ∀ Y ∈ pr.rhs, Nullable g Y) :
    Nullable g pr.lhs := by
  obtain ⟨cs, hcs, hy⟩ := validList_nil_yield g pr.rhs h
  refine ⟨.node p default none cs, ?_, ?_⟩
  · simp only [Tree.Valid]
    exact ⟨pr, hp, rfl, hcs⟩
  · simp only [Tree.yield]; exact hy

theorem NulS.step (hg : GW g) {p : Nat} {pr : Prod} {r old : List Nat}
    (hp : g.prods[p]? = some pr) (hn : NulS g fs) (hr : firstsOf g fs pr.rhs = some r)
    (hold : fs[pr.lhs]? = some old) : NulS g (fs.setIfInBounds pr.lhs (union old r)) := by
  intro X l' hl' he
  rcases get_upd_cases hl' with ⟨rfl, rfl⟩ | ⟨_, hl'⟩
  · rcases mem_union.mp he with h' | h'
    · exact hn pr.lhs old hold h'
    · right
      apply nullable_of_rhs hp
      intro Y hY
      obtain ⟨l2, h2, h3⟩ := firstsOf_empty hr h' Y hY
      rcases hn Y l2 h2 h3 with h4 | h4
      · exact absurd h4 ((hg.prod_ok p pr hp).2.2 Y hY).2.2.2.2
      · exact h4
  · exact hn X l' hl' he

theorem firstProds_unchanged {l : List Prod} {fs fs' : Array (List Nat)}
    (h : firstProds g l fs false = .ok (fs', false)) :
    fs' = fs ∧ ∀ pr ∈ l, ∃ r old, firstsOf g fs pr.rhs = some r ∧ fs[pr.lhs]? = some old ∧ Sub r old := by
  have key : ∀ pr fs1, firstProd g fs pr = .ok (fs1, false) →
      fs1 = fs ∧ ∃ r old, firstsOf g fs pr.rhs = some r ∧ fs[pr.lhs]? = some old ∧ Sub r old := by
    intro pr fs1 he
    obtain ⟨r, old, hr, hold, e⟩ := (firstProd_holds (F := True) (.inl trivial)).of_ok he
    obtain ⟨e1, e2⟩ := _root_.Prod.mk.inj e
    have hu := union_eq_self_of_not_lt e2.symm
    exact ⟨by rw [e1, hu, setIfInBounds_same hold], r, old, hr, hold, fun b hb => hu ▸ mem_union.mpr (.inr hb)⟩
  rw [firstProds_eq_fold] at h
  obtain ⟨e, hst⟩ := (foldRes_orFlag_false h).2 fun pr _ _ he => (key pr _ he).1
  exact ⟨e, fun pr hp => (key pr _ (hst pr hp)).2⟩

theorem mem_prods {pr : Prod} (h : pr ∈ g.prods.toList) : ∃ p : Nat, g.prods[p]? = some pr :=
  have ⟨i, hi⟩ := List.getElem?_of_mem h
  ⟨i, Array.getElem?_toList ▸ hi⟩

theorem rhs_lt (hg : GW g) (hw : FsWf g fs) {p : Nat} {pr : Prod} (hp : g.prods[p]? = some pr) :
    ∀ X ∈ pr.rhs, X < fs.size := by
  intro X hX
  rw [hw.size]
  exact ((hg.prod_ok p pr hp).2.2 X hX).2.1

theorem firstLoop_holds (hg : GW g) (n : Nat) (fs : Array (List Nat)) (hw : FsWf g fs) (hn : NulS g fs) :
    (firstLoop g n fs).Holds False (Firsts g) := by
  rw [firstLoop_eq_iter]
  refine (iterRes_holds (P := fun fs => FsWf g fs ∧ NulS g fs) (fun fs hw => ?_) n fs ⟨hw, hn⟩).mono ?_
  · rw [firstProds_eq_fold]
    refine foldRes_holds (fun _ q => FsWf g q.1 ∧ NulS g q.1) _ (fun pr hpr _ q hq =>
      orFlag_holds (Q := fun fs => FsWf g fs ∧ NulS g fs) ?_) (fs, false) hw
    obtain ⟨p, hp⟩ := mem_prods hpr
    have hlhs : pr.lhs < q.1.size := by rw [hq.1.size]; exact (hg.prod_ok p pr hp).2.1
    refine (firstProd_holds (.inr ⟨firstsOf_some (g := g) (rhs_lt hg hq.1 hp), _, Array.getElem?_eq_getElem hlhs⟩)).mono ?_
    rintro _ ⟨r, old, hr, hold, rfl⟩
    exact ⟨FsWf.step (hg.prod_ok p pr hp).1 hq.1 hr hold, NulS.step hg hp hq.2 hr hold⟩
  · rintro fs' ⟨hw', fs1, _, hp⟩
    obtain ⟨rfl, h3⟩ := firstProds_unchanged hp
    exact ⟨hw'.1, hw'.2, h3⟩

theorem firstSets_holds (hg : GW g) (fuel : Nat) : (firstSets g fuel).Holds False (Firsts g) := by
  unfold firstSets
  obtain ⟨fs0, h0, hw, hn⟩ := firstInit_wf hg
  rw [h0]
  exact firstLoop_holds hg fuel fs0 hw hn

def ctxOf (g : Grammar) (fs : Array (List Nat)) : Canon.Ctx :=
  { g := g
    nul := (List.range (g.nterms + g.nnonterms)).filter fun X => (fs.getD X []).contains g.emptyIdx
    first := fun X => (fs.getD X []).filter (· != g.emptyIdx) }

theorem mem_nul {X : Nat} :
    (ctxOf g fs).nul.contains X = true ↔ X < g.nterms + g.nnonterms ∧ g.emptyIdx ∈ fs.getD X [] := by
  rw [List.contains_iff_mem, ctxOf, List.mem_filter, List.mem_range, List.contains_iff_mem]

theorem firstOfSeq_sub (hg : GW g) (hw : FsWf g fs) {syms : List Nat} {r : List Nat}
    (h : firstsOf g fs syms = some r) :
    (∀ b ∈ Canon.firstOfSeq g (ctxOf g fs).nul (ctxOf g fs).first syms, b ∈ r ∧ b ≠ g.emptyIdx) ∧
      (syms.all (fun X => (ctxOf g fs).nul.contains X) = true → g.emptyIdx ∈ r) := by
  induction syms generalizing r with
  | nil =>
    cases h
    exact ⟨fun _ h => absurd h List.not_mem_nil, fun _ => List.mem_singleton.mpr rfl⟩
  | cons X rest ih =>
    obtain ⟨fx, hfx, hr⟩ := firstsOf_cons h
    have hgd := getD_of_getElem? hfx []
    have hhead : ∀ b ∈ (if X < g.nterms then [X] else (ctxOf g fs).first X),
        b ∈ fx.filter (· != g.emptyIdx) := by
      intro b hb
      by_cases hX : X < g.nterms
      · rw [if_pos hX] at hb
        cases List.mem_singleton.mp hb
        cases hfx.symm.trans (hw.term X hX)
        exact mem_filter_ne.mpr ⟨hb, Nat.ne_of_lt (Nat.lt_of_lt_of_le hX hg.empty_ge)⟩
      · rw [if_neg hX] at hb
        exact hgd ▸ hb
    rw [Canon.firstOfSeq, List.all_cons, Bool.and_eq_true]
    rcases hr with ⟨_, r', hr', rfl⟩ | ⟨hc, rfl⟩
    · obtain ⟨i1, i2⟩ := ih hr'
      refine ⟨fun b hb => ?_, fun hall => mem_union.mpr (.inr (i2 hall.2))⟩
      have hl : ∀ b ∈ fx.filter (· != g.emptyIdx), b ∈ union (fx.filter (· != g.emptyIdx)) r' ∧ b ≠ g.emptyIdx :=
        fun b hb => ⟨mem_union.mpr (.inl hb), (mem_filter_ne.mp hb).2⟩
      by_cases hnu : (ctxOf g fs).nul.contains X = true
      · rw [if_pos hnu] at hb
        rcases List.mem_append.mp hb with h' | h'
        · exact hl b (hhead b h')
        · exact ⟨mem_union.mpr (.inr (i1 b h').1), (i1 b h').2⟩
      · rw [if_neg hnu] at hb
        exact hl b (hhead b hb)
    · have hnn : (ctxOf g fs).nul.contains X = false :=
        Bool.eq_false_iff.mpr fun hcn => hc (hgd ▸ (mem_nul.mp hcn).2)
      rw [hnn]
      exact ⟨fun b hb => ⟨hhead b hb, (mem_filter_ne.mp (hhead b hb)).2⟩, fun hall => nomatch hall.1⟩

theorem firstOk_ctxOf (hg : GW g) (h : Firsts g fs) : Cert.firstOk g (ctxOf g fs) = true := by
  refine Cert.firstOk_iff.mpr fun pr hpr => ?_
  obtain ⟨r, old, h1, h2, h3⟩ := h.post pr hpr
  obtain ⟨i1, i2⟩ := firstOfSeq_sub hg h.toFsWf h1
  have hgd := getD_of_getElem? h2 []
  have hlt : pr.lhs < g.nterms + g.nnonterms := by
    have := lt_size_of_getElem? h2
    rw [h.size] at this; exact this
  refine ⟨fun hall => mem_nul.mpr ⟨hlt, by rw [hgd]; exact h3 _ (i2 (List.all_eq_true.mpr hall))⟩, fun b hb => ?_⟩
  obtain ⟨b1, b2⟩ := i1 b hb
  simp only [ctxOf, hgd, List.contains_iff_mem, List.mem_filter, bne_iff_ne, ne_eq]
  exact ⟨h3 b b1, b2⟩

theorem rnLenRev_ok : ∀ (l : List Nat) (n : Nat), (∀ X ∈ l, X < fs.size) →
    ∃ k, rnLenRev g fs l n = some (n - k) ∧ ∀ Y ∈ l.take k, g.emptyIdx ∈ fs.getD Y [] := by
  intro l
  induction l with
  | nil => exact fun n _ => ⟨0, rfl, fun _ h => nomatch h⟩
  | cons X rest ih =>
    intro n h
    obtain ⟨fx, hfx⟩ : ∃ fx, fs[X]? = some fx := ⟨_, Array.getElem?_eq_getElem (h X List.mem_cons_self)⟩
    simp only [rnLenRev, hfx]
    by_cases hc : fx.contains g.emptyIdx = true
    · rw [if_pos hc]
      obtain ⟨k, k2, k3⟩ := ih (n - 1) (fun Y hY => h Y (List.mem_cons_of_mem _ hY))
      refine ⟨k + 1, by rw [k2, Nat.sub_sub, Nat.add_comm], ?_⟩
      intro Y hY
      rw [List.take_succ_cons] at hY
      rcases List.mem_cons.mp hY with h' | h'
      · rw [h', getD_of_getElem? hfx]; simpa using hc
      · exact k3 Y h'
    · rw [if_neg hc]
      exact ⟨0, rfl, fun _ h => nomatch h⟩

theorem rnLensList_ok (hg : GW g) (hw : FsWf g fs) : ∀ (l : List Prod), (∀ pr ∈ l, ∃ p : Nat, g.prods[p]? = some pr) →
    ∃ r, rnLensList g fs l = some r ∧ ∀ (k : Nat) (pr : Prod), l[k]? = some pr → ∃ n, r[k]? = some n ∧
      n ≤ pr.rhs.length ∧ ∀ Y ∈ pr.rhs.drop n, g.emptyIdx ∈ fs.getD Y [] := by
  intro l
  induction l with
  | nil => exact fun _ => ⟨[], rfl, fun k pr hk => nomatch hk⟩
  | cons pr rest ih =>
    intro hl
    obtain ⟨p, hp⟩ := hl pr List.mem_cons_self
    obtain ⟨j, j2, j3⟩ := rnLenRev_ok (g := g) pr.rhs.reverse pr.rhs.length
      (fun X hX => rhs_lt hg hw hp X (List.mem_reverse.mp hX))
    obtain ⟨r, hr, ih⟩ := ih (fun q hq => hl q (List.mem_cons_of_mem _ hq))
    refine ⟨(pr.rhs.length - j) :: r, by unfold rnLensList; rw [j2, hr], fun k pr' hk => ?_⟩
    cases k with
    | zero =>
      cases hk
      refine ⟨_, rfl, Nat.sub_le _ _, fun Y hY => j3 Y ?_⟩
      rw [List.take_reverse, List.mem_reverse]
      exact hY
    | succ k => exact ih k pr' hk

/-- what `production_rn_lengths` returns -/
def RnLens (g : Grammar) (fs : Array (List Nat)) (a : Array Nat) : Prop :=
  ∀ (p : Nat) (pr : Prod), g.prods[p]? = some pr →
    ∃ n, a[p]? = some n ∧ n ≤ pr.rhs.length ∧ ∀ Y ∈ pr.rhs.drop n, g.emptyIdx ∈ fs.getD Y []

theorem rnOf_ok (hg : GW g) (hw : FsWf g fs) (s : Settings) : ∃ rn, rnOf g s fs = .ok rn ∧
    (s.tableType ≠ "LALR_RN" → rn = none) ∧ ∀ a, rn = some a → RnLens g fs a := by
  unfold rnOf
  split
  · rename_i htt
    obtain ⟨r, hr, hspec⟩ := rnLensList_ok hg hw g.prods.toList (fun pr h => mem_prods h)
    unfold prodRnLens
    rw [hr]
    refine ⟨_, rfl, fun hne => absurd (by simpa using htt) hne, fun a ha p pr hp => ?_⟩
    cases ha
    obtain ⟨n, n1, n2⟩ := hspec p pr (by simpa using hp)
    exact ⟨n, by simpa using n1, n2⟩
  · exact ⟨none, rfl, fun _ => rfl, fun a ha => nomatch ha⟩

def rnNul (g : Grammar) (fs : Array (List Nat)) : List Nat :=
  (List.range (g.nterms + g.nnonterms)).filter fun Y => Y != g.emptyIdx && (fs.getD Y []).contains g.emptyIdx

theorem rnNul_nullable {fs : Array (List Nat)} (h : Firsts g fs) : ∀ X ∈ rnNul g fs, Nullable g X := by
  intro X hX
  unfold rnNul at hX
  obtain ⟨h1, h2⟩ := List.mem_filter.mp hX
  simp only [Bool.and_eq_true, bne_iff_ne, ne_eq, List.contains_iff_mem] at h2
  have hlt : X < fs.size := by rw [h.size]; exact List.mem_range.mp h1
  have hget : fs[X]? = some fs[X] := Array.getElem?_eq_getElem hlt
  exact (h.nul X _ hget (getD_of_getElem? hget [] ▸ h2.2)).resolve_left h2.1

end Rustemo.Table
