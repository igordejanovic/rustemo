import Rustemo.Proofs.TableBasic
/-!
More fuel never changes a result other than `.fuel`: function by function with `bind_mono`, the loops with `iterRes_mono` and
`foldRes_mono`, `calcLoop` by an induction of its own.
-/
namespace Rustemo.Table

variable {g : Grammar} {fs : Array (List Nat)} {tt : String} {rn : Option (Array Nat)}
  {sts : Array State}

theorem firstLoop_mono (n m : Nat) (fs : Array (List Nat)) (hle : n ≤ m) (h : firstLoop g n fs ≠ .fuel) :
    firstLoop g m fs = firstLoop g n fs := by
  simp only [firstLoop_eq_iter] at h ⊢
  exact iterRes_mono (fun _ _ => rfl) n m fs hle h

theorem closure_mono (n m : Nat) (items : List Item) (hle : n ≤ m) (h : closure g fs n items ≠ .fuel) :
    closure g fs m items = closure g fs n items := by
  simp only [closure_eq_iter] at h ⊢
  exact iterRes_mono (fun _ _ => rfl) n m items hle h

theorem stepState_mono {f1 f2 cur : Nat} (hle : f1 ≤ f2)
    (h : stepState g fs tt rn f1 cur sts ≠ .fuel) :
    stepState g fs tt rn f2 cur sts = stepState g fs tt rn f1 cur sts := by
  unfold stepState at h ⊢
  split
  · rfl
  · rename_i st hst
    rw [hst] at h
    simp only at h
    exact bind_mono h (fun hne => closure_mono f1 f2 _ hle hne) (fun _ _ _ => rfl)

theorem calcLoop_mono {f1 f2 : Nat} (hf : f1 ≤ f2) : ∀ (n1 n2 cur : Nat) (sts : Array State), n1 ≤ n2 →
    calcLoop g fs tt rn f1 n1 cur sts ≠ .fuel →
    calcLoop g fs tt rn f2 n2 cur sts = calcLoop g fs tt rn f1 n1 cur sts := by
  intro n1
  induction n1 with
  | zero =>
    intro n2 cur sts _ h
    unfold calcLoop at h
    by_cases hc : cur < sts.size
    · rw [if_pos hc] at h; exact absurd rfl h
    · cases n2 with
      | zero => rfl
      | succ n2 =>
        unfold calcLoop
        rw [if_neg hc, if_neg hc]
  | succ n1 ih =>
    intro n2 cur sts hle h
    cases n2 with
    | zero => omega
    | succ n2 =>
      unfold calcLoop at h ⊢
      by_cases hc : cur < sts.size
      · rw [if_pos hc] at h
        rw [if_pos hc, if_pos hc]
        exact bind_mono h (fun hne => stepState_mono hf hne)
          (fun sts1 _ hne => ih n2 (cur + 1) sts1 (by omega) hne)
      · rw [if_neg hc, if_neg hc]

theorem calcStates_mono {f1 f2 sym : Nat} (hf : f1 ≤ f2)
    (h : calcStates g fs tt rn f1 sym sts ≠ .fuel) :
    calcStates g fs tt rn f2 sym sts = calcStates g fs tt rn f1 sym sts := by
  unfold calcStates at h ⊢
  by_cases hs : (sym < g.nterms || g.nnonterms ≤ sym - g.nterms) = true
  · rw [if_pos hs, if_pos hs]
  · rw [if_neg hs] at h
    rw [if_neg hs, if_neg hs]
    split
    · rename_i p hp
      rw [hp] at h
      exact calcLoop_mono hf f1 f2 _ _ hf h
    · rfl

theorem refreshStates_mono {f1 f2 : Nat} (hf : f1 ≤ f2) (l : List Nat) (sts : Array State)
    (h : refreshStates g fs f1 l sts ≠ .fuel) : refreshStates g fs f2 l sts = refreshStates g fs f1 l sts := by
  simp only [refreshStates_eq_fold] at h ⊢
  exact foldRes_mono (fun _ _ hne => bind_mono hne (closure_mono f1 f2 _ hf) fun _ _ _ => rfl) l sts h

theorem propRound_mono {f1 f2 : Nat} (hf : f1 ≤ f2) (h : propRound g fs f1 sts ≠ .fuel) :
    propRound g fs f2 sts = propRound g fs f1 sts := by
  unfold propRound at h ⊢
  exact bind_mono h (fun hne => refreshStates_mono hf _ _ hne) (fun _ _ _ => rfl)

theorem propagate_mono {f1 f2 : Nat} (hf : f1 ≤ f2) (n1 n2 : Nat) (sts : Array State) (hle : n1 ≤ n2)
    (h : propagate g fs f1 n1 sts ≠ .fuel) : propagate g fs f2 n2 sts = propagate g fs f1 n1 sts := by
  simp only [propagate_eq_iter] at h ⊢
  exact iterRes_mono (fun _ hx => propRound_mono hf hx) n1 n2 sts hle h

theorem layoutStates_mono {f1 f2 : Nat} (hf : f1 ≤ f2)
    (h : layoutStates g fs tt rn f1 sts ≠ .fuel) :
    layoutStates g fs tt rn f2 sts = layoutStates g fs tt rn f1 sts := by
  unfold layoutStates at h ⊢
  cases hl : g.auglIdx with
  | none => rfl
  | some l =>
    simp only [hl] at h ⊢
    exact bind_mono h (fun hne => calcStates_mono hf hne) (fun _ _ _ => rfl)

theorem firstSets_mono {n m : Nat} (hle : n ≤ m) (h : firstSets g n ≠ .fuel) : firstSets g m = firstSets g n := by
  unfold firstSets at h ⊢
  revert h
  cases firstInit g with
  | none => exact fun _ => rfl
  | some fs0 => exact firstLoop_mono n m fs0 hle

end Rustemo.Table
