import Rustemo.Proofs.TableBasic
/-!
`group_per_next_symbol`: every group collects exactly the items with its symbol right of the dot, in item order; keys are
strictly ascending (so every symbol has one successor state).
-/
namespace Rustemo.Table

variable {g : Grammar}

def KeysSorted (l : List (Nat × List Item)) : Prop := l.Pairwise fun a b => a.1 < b.1

theorem groupIns_cons (X : Nat) (it : Item) (Z : Nat) (l0 : List Item) (rest : List (Nat × List Item)) :
    groupIns X it ((Z, l0) :: rest) =
      if X < Z then (X, [it]) :: (Z, l0) :: rest
      else if X = Z then (Z, l0 ++ [it]) :: rest else (Z, l0) :: groupIns X it rest := rfl

theorem groupIns_keys (X : Nat) (it : Item) (l : List (Nat × List Item)) (Y : Nat) :
    Y ∈ (groupIns X it l).map (·.1) ↔ (Y = X ∨ Y ∈ l.map (·.1)) := by
  induction l with
  | nil => simp [groupIns]
  | cons e0 rest ih =>
    obtain ⟨Z, l0⟩ := e0
    rw [groupIns_cons]
    by_cases hXZ : X < Z
    · rw [if_pos hXZ]; simp only [List.map_cons, List.mem_cons]
    · rw [if_neg hXZ]
      by_cases hEq : X = Z
      · rw [if_pos hEq, hEq]; simp only [List.map_cons, List.mem_cons, or_self_left]
      · rw [if_neg hEq]; simp only [List.map_cons, List.mem_cons, ih, or_left_comm]

theorem groupIns_sorted (X : Nat) (it : Item) (l : List (Nat × List Item)) (h : KeysSorted l) :
    KeysSorted (groupIns X it l) := by
  induction l with
  | nil => exact List.pairwise_singleton _ _
  | cons e0 rest ih =>
    obtain ⟨Z, l0⟩ := e0
    obtain ⟨hlt, hs⟩ := List.pairwise_cons.mp h
    rw [groupIns_cons]
    by_cases hXZ : X < Z
    · rw [if_pos hXZ]
      refine List.pairwise_cons.mpr ⟨fun e he => ?_, h⟩
      rcases List.mem_cons.mp he with rfl | he
      · exact hXZ
      · exact Nat.lt_trans hXZ (hlt e he)
    · rw [if_neg hXZ]
      by_cases hEq : X = Z
      · rw [if_pos hEq]; exact List.pairwise_cons.mpr ⟨hlt, hs⟩
      · rw [if_neg hEq]
        refine List.pairwise_cons.mpr ⟨fun e he => ?_, ih hs⟩
        rcases (groupIns_keys X it rest e.1).mp (List.mem_map_of_mem he) with h' | h'
        · exact h' ▸ Nat.lt_of_le_of_ne (Nat.le_of_not_lt hXZ) (fun h => hEq h.symm)
        · obtain ⟨e', he', h'⟩ := List.mem_map.mp h'
          exact h' ▸ hlt e' he'

theorem groupIns_groups (X : Nat) (it : Item) (G : Nat → List Item) (l : List (Nat × List Item))
    (h1 : KeysSorted l) (h2 : ∀ e ∈ l, e.2 = G e.1) (h3 : (∀ e ∈ l, e.1 ≠ X) → G X = []) :
    ∀ e ∈ groupIns X it l, e.2 = if e.1 = X then G X ++ [it] else G e.1 := by
  induction l with
  | nil =>
    intro e he
    cases List.mem_singleton.mp he
    rw [if_pos rfl, h3 (fun _ h => nomatch h)]; rfl
  | cons e0 rest ih =>
    obtain ⟨Z, l0⟩ := e0
    obtain ⟨hlt, hs⟩ := List.pairwise_cons.mp h1
    have hold : ∀ e ∈ (Z, l0) :: rest, e.1 ≠ X → e.2 = if e.1 = X then G X ++ [it] else G e.1 :=
      fun e he hne => by rw [if_neg hne]; exact h2 e he
    rw [groupIns_cons]
    intro e he
    by_cases hXZ : X < Z
    · rw [if_pos hXZ] at he
      have hne : ∀ e ∈ (Z, l0) :: rest, e.1 ≠ X := by
        intro e he
        rcases List.mem_cons.mp he with rfl | he
        · exact Nat.ne_of_gt hXZ
        · exact Nat.ne_of_gt (Nat.lt_trans hXZ (hlt e he))
      rcases List.mem_cons.mp he with rfl | he
      · rw [if_pos rfl, h3 hne]; rfl
      · exact hold e he (hne e he)
    · rw [if_neg hXZ] at he
      by_cases hEq : X = Z
      · rw [if_pos hEq] at he
        subst hEq
        rcases List.mem_cons.mp he with rfl | he
        · rw [if_pos rfl, ← h2 (X, l0) List.mem_cons_self]
        · exact hold e (List.mem_cons_of_mem _ he) (Nat.ne_of_gt (hlt e he))
      · rw [if_neg hEq] at he
        rcases List.mem_cons.mp he with rfl | he
        · exact hold _ List.mem_cons_self (fun h => hEq h.symm)
        · refine ih hs (fun e he => h2 e (List.mem_cons_of_mem _ he)) (fun hY => h3 ?_) e he
          intro e he
          rcases List.mem_cons.mp he with rfl | he
          · exact fun h => hEq h.symm
          · exact hY e he

def nextIs (g : Grammar) (X : Nat) (it : Item) : Bool := Resolve.nextSym g it == some X

theorem nextIs_iff {X : Nat} {it : Item} : nextIs g X it = true ↔ Resolve.nextSym g it = some X := by
  simp [nextIs]

def GroupInv (g : Grammar) (pre : List Item) (acc : List (Nat × List Item)) : Prop :=
  KeysSorted acc ∧ (∀ e ∈ acc, e.2 = pre.filter (nextIs g e.1)) ∧
    (∀ Y, Y ∈ acc.map (·.1) ↔ pre.filter (nextIs g Y) ≠ [])

theorem filter_nextIs_snoc (g : Grammar) (pre : List Item) (it : Item) (Y : Nat) :
    (pre ++ [it]).filter (nextIs g Y) =
      if Resolve.nextSym g it = some Y then pre.filter (nextIs g Y) ++ [it] else pre.filter (nextIs g Y) := by
  rw [List.filter_append]
  by_cases h : Resolve.nextSym g it = some Y
  · rw [if_pos h, List.filter_cons_of_pos (by rw [nextIs, h, beq_self_eq_true]), List.filter_nil]
  · rw [if_neg h, List.filter_cons_of_neg (by rw [nextIs, beq_iff_eq]; exact h), List.filter_nil, List.append_nil]

theorem groupStep_inv (g : Grammar) (pre : List Item) (acc : List (Nat × List Item)) (it : Item)
    (h : GroupInv g pre acc) : GroupInv g (pre ++ [it]) (groupStep g acc it) := by
  obtain ⟨h1, h2, h3⟩ := h
  unfold groupStep
  cases hn : Resolve.nextSym g it with
  | none =>
    have hf : ∀ Y, (pre ++ [it]).filter (nextIs g Y) = pre.filter (nextIs g Y) := by
      intro Y; rw [filter_nextIs_snoc, hn, if_neg nofun]
    exact ⟨h1, fun e he => hf _ ▸ h2 e he, fun Y => hf Y ▸ h3 Y⟩
  | some X =>
    have hX : (∀ e ∈ acc, e.1 ≠ X) → pre.filter (nextIs g X) = [] := by
      intro hne
      apply Classical.byContradiction
      intro hc
      obtain ⟨e, he, heq⟩ := List.mem_map.mp ((h3 X).mpr hc)
      exact hne e he heq
    have hfX : (pre ++ [it]).filter (nextIs g X) = pre.filter (nextIs g X) ++ [it] := by
      rw [filter_nextIs_snoc, hn, if_pos rfl]
    have hfY : ∀ Y, Y ≠ X → (pre ++ [it]).filter (nextIs g Y) = pre.filter (nextIs g Y) := by
      intro Y hY
      rw [filter_nextIs_snoc, hn, if_neg (fun h => hY (Option.some.inj h).symm)]
    refine ⟨groupIns_sorted X it acc h1, ?_, ?_⟩
    · intro e he
      have := groupIns_groups X it (fun Y => pre.filter (nextIs g Y)) acc h1 h2 hX e he
      by_cases hx : e.1 = X
      · rw [if_pos hx] at this; rw [this, hx, hfX]
      · rw [if_neg hx] at this; rw [this, hfY _ hx]
    · intro Y
      rw [groupIns_keys X it acc Y]
      by_cases hY : Y = X
      · subst hY
        rw [hfX]
        exact ⟨fun _ => List.append_ne_nil_of_right_ne_nil _ (List.cons_ne_nil _ _), fun _ => .inl rfl⟩
      · rw [hfY Y hY, ← h3 Y]
        exact ⟨fun h => h.resolve_left hY, .inr⟩

theorem foldl_groupStep_inv (g : Grammar) (rest pre : List Item) (acc : List (Nat × List Item))
    (h : GroupInv g pre acc) : GroupInv g (pre ++ rest) (rest.foldl (groupStep g) acc) := by
  induction rest generalizing pre acc with
  | nil => rw [List.append_nil]; exact h
  | cons it rest ih =>
    rw [List.foldl_cons, List.append_cons]
    exact ih _ _ (groupStep_inv g pre acc it h)

theorem perNextSymbol_inv (g : Grammar) (items : List Item) : GroupInv g items (perNextSymbol g items) := by
  have := foldl_groupStep_inv g items [] [] ⟨List.Pairwise.nil, by simp, by simp⟩
  simpa [perNextSymbol] using this

theorem perNextSymbol_mem {items : List Item} {e : Nat × List Item}
    (h : e ∈ perNextSymbol g items) : e.2 = items.filter (nextIs g e.1) ∧ e.2 ≠ [] := by
  obtain ⟨_, h2, h3⟩ := perNextSymbol_inv g items
  refine ⟨h2 e h, ?_⟩
  rw [h2 e h]
  exact (h3 e.1).mp (List.mem_map_of_mem h)

theorem perNextSymbol_complete {items : List Item} {it : Item} {X : Nat}
    (hit : it ∈ items) (hn : Resolve.nextSym g it = some X) :
    ∃ e ∈ perNextSymbol g items, e.1 = X ∧ it ∈ e.2 := by
  obtain ⟨_, h2, h3⟩ := perNextSymbol_inv g items
  have hne : items.filter (nextIs g X) ≠ [] := by
    intro hc
    have : it ∈ items.filter (nextIs g X) := List.mem_filter.mpr ⟨hit, by simp [nextIs, hn]⟩
    rw [hc] at this; simp at this
  obtain ⟨e, he, hx⟩ := List.mem_map.mp ((h3 X).mpr hne)
  refine ⟨e, he, hx, ?_⟩
  rw [h2 e he, hx]
  exact List.mem_filter.mpr ⟨hit, by simp [nextIs, hn]⟩

end Rustemo.Table
