import Rustemo.Proofs.TableInv
import Rustemo.Proofs.ResolveStep
/-!
`InvC g lo hi sts`, the completeness side of the invariant of `calc_states`: the states below `lo` have been taken from the
queue (their cores are closed, every transition is there), the states from `hi` on have no ACTION / GOTO entry yet.  `LinkC` is
its form inside the successor loop (`Linked`: what has been entered in the state in hand); `InvP` is what `calculate_reductions`
asks of every state.
-/
namespace Rustemo.Table

variable {g : Grammar} {tt : String} {rn : Option (Array Nat)} {sts : Array State} {lo hi : Nat}

structure StC (g : Grammar) (st : State) : Prop where
  cellsound : ∀ a s', Action.shift s' ∈ st.actions.getD a [] →
    ∃ c ∈ st.items.map core, g.rhsAt c.1 c.2 = some a
  cell1 : ∀ a, (st.actions.getD a []).length ≤ 1
  aug0 : ∀ it ∈ st.items, it.prod = 0 → 0 ∈ it.la

def ClosedC (g : Grammar) (st : State) : Prop :=
  ∀ c ∈ st.items.map core, ∀ B, g.rhsAt c.1 c.2 = some B → g.nterms ≤ B →
    ∀ q ∈ Canon.prodsOf g B, (q, 0) ∈ st.items.map core

def TransC (g : Grammar) (sts : Array State) (st : State) : Prop :=
  ∀ c ∈ st.items.map core, ∀ X, g.rhsAt c.1 c.2 = some X →
    ∃ s', HasTrans g st X s' ∧ ∃ st', sts[s']? = some st' ∧ (c.1, c.2 + 1) ∈ st'.items.map core

def Untouched (st : State) : Prop :=
  (∀ a, st.actions.getD a [] = []) ∧ (∀ j, st.gotos.getD j none = none)

theorem cell_empty {st : State} (hok : StOk g st) (hc : StC g st) {a : Nat}
    (h : ∀ it ∈ st.items, g.rhsAt it.prod it.dot ≠ some a) : st.actions.getD a [] = [] := by
  cases hl : st.actions.getD a [] with
  | nil => rfl
  | cons y ys =>
    obtain ⟨s', hs'⟩ := hok.cells a y (by rw [hl]; exact List.mem_cons_self)
    obtain ⟨cr, c1, c2⟩ := hc.cellsound a s' (by rw [hl, hs']; exact List.mem_cons_self)
    obtain ⟨it, i1, rfl⟩ := List.mem_map.mp c1
    exact absurd c2 (h it i1)

theorem stop_cell_empty (hg : GW g) {st : State} (hok : StOk g st) (hc : StC g st) : st.actions.getD 0 [] = [] :=
  cell_empty hok hc fun _ _ h0 => Nat.lt_irrefl 0 (nextSym_pos hg h0).1

theorem hasTrans_fun {st : State} (hc : StC g st) {X j1 j2 : Nat} (h1 : HasTrans g st X j1)
    (h2 : HasTrans g st X j2) : j1 = j2 := by
  rcases h1 with ⟨a1, b1⟩ | ⟨a1, b1⟩ <;> rcases h2 with ⟨a2, b2⟩ | ⟨a2, b2⟩
  · have hl := hc.cell1 X
    cases hcell : st.actions.getD X [] with
    | nil => rw [hcell] at b1; simp at b1
    | cons x xs =>
      rw [hcell] at b1 b2 hl
      have : xs = [] := by
        simp only [List.length_cons] at hl
        exact List.eq_nil_of_length_eq_zero (by omega)
      subst this
      simp only [List.mem_singleton] at b1 b2
      rw [← b1] at b2
      injection b2 with b2
      exact b2.symm
  · omega
  · omega
  · rw [b1] at b2; injection b2

theorem untouched_stC {st : State} (hu : Untouched st) (haug : AugStop st.items) : StC g st := by
  refine ⟨?_, ?_, haug⟩
  · intro a s' hs; rw [hu.1 a] at hs; simp at hs
  · intro a; rw [hu.1 a]; simp

structure InvC (g : Grammar) (lo hi : Nat) (sts : Array State) : Prop where
  st : ∀ (i : Nat) (st : State), sts[i]? = some st → StC g st
  closed : ∀ (i : Nat) (st : State), sts[i]? = some st → i < lo → ClosedC g st
  trans : ∀ (i : Nat) (st : State), sts[i]? = some st → i < lo → TransC g sts st
  fresh : ∀ (i : Nat) (st : State), sts[i]? = some st → hi ≤ i → Untouched st

theorem InvC.update (h : InvC g lo hi sts) {i : Nat} {st st' : State}
    (hi' : sts[i]? = some st) (ha : st'.actions = st.actions) (hgo : st'.gotos = st.gotos)
    (hsub : ∀ c ∈ st.items.map core, c ∈ st'.items.map core) (hst : StC g st')
    (hproc : i < lo → ClosedC g st' ∧ ∀ c ∈ st'.items.map core, c ∈ st.items.map core) :
    InvC g lo hi (sts.setIfInBounds i st') := by
  refine ⟨?_, ?_, ?_, ?_⟩
  · exact forall_upd h.st hst
  · intro j stj hj hlo
    rcases get_upd_cases hj with ⟨rfl, rfl⟩ | ⟨_, hj⟩
    · exact (hproc hlo).1
    · exact h.closed j stj hj hlo
  · intro j stj hj hlo c hc X hX
    have hold : ∃ old, sts[j]? = some old ∧ c ∈ old.items.map core ∧
        ∀ s', HasTrans g old X s' → HasTrans g stj X s' := by
      rcases get_upd_cases hj with ⟨rfl, rfl⟩ | ⟨_, hj⟩
      · exact ⟨st, hi', (hproc hlo).2 c hc, fun s' ht => (HasTrans.congr ha hgo).mpr ht⟩
      · exact ⟨stj, hj, hc, fun _ ht => ht⟩
    obtain ⟨old, o1, o2, o3⟩ := hold
    obtain ⟨s', t1, st'', t2, t3⟩ := h.trans j old o1 hlo c o2 X hX
    refine ⟨s', o3 s' t1, ?_⟩
    by_cases his : i = s'
    · rw [← his, hi'] at t2
      cases t2
      exact ⟨st', his ▸ get_upd_self hi', hsub _ t3⟩
    · exact ⟨st'', by rw [get_upd hi', if_neg his]; exact t2, t3⟩
  · intro j stj hj hhi
    rcases get_upd_cases hj with ⟨rfl, rfl⟩ | ⟨_, hj⟩
    · obtain ⟨u1, u2⟩ := h.fresh j st hi' hhi
      exact ⟨ha ▸ u1, hgo ▸ u2⟩
    · exact h.fresh j stj hj hhi

theorem InvC.setItems_grown (h : InvC g lo hi sts) {i : Nat} {st : State}
    (hi' : sts[i]? = some st) {items : List Item} (hgr : Grown st.items items) :
    InvC g lo hi (setItems sts i items) := by
  rw [setItems_eq hi']
  have hst := h.st i st hi'
  have hc : ({ st with items := items } : State).items.map core = st.items.map core := hgr.cores
  apply h.update (st' := { st with items := items }) hi' rfl rfl
  · intro c hc'; rw [hc]; exact hc'
  · refine ⟨?_, hst.cell1, ?_⟩
    · intro a s' hs
      rw [hc]
      exact hst.cellsound a s' hs
    · intro it hit hp
      obtain ⟨it0, b1, b2, b3⟩ := hgr.back it hit
      exact b3 0 (hst.aug0 it0 b1 ((core_eq b2).1.trans hp))
  · intro hlo
    exact ⟨ClosedL.of_cores hc (h.closed i st hi' hlo), fun c hc' => hc ▸ hc'⟩

theorem InvC.push (h : InvC g lo hi sts) (hlo : lo ≤ sts.size)
    {X : Nat} {items : List Item} (haug : AugStop items) :
    InvC g lo hi (sts.push (freshState g X items)) := by
  have hu : Untouched (freshState g X items) := ⟨freshState_cell g X items, freshState_goto g X items⟩
  refine ⟨forall_push h.st (untouched_stC hu haug), ?_, ?_, ?_⟩
  · intro j stj hj hjl
    rcases get_push_cases hj with ⟨rfl, _⟩ | ⟨_, hj⟩
    · omega
    · exact h.closed j stj hj hjl
  · intro j stj hj hjl c hc Y hY
    rcases get_push_cases hj with ⟨rfl, _⟩ | ⟨_, hj⟩
    · omega
    · obtain ⟨s', t1, st'', t2, t3⟩ := h.trans j stj hj hjl c hc Y hY
      exact ⟨s', t1, st'', getElem?_push_of_some t2 _, t3⟩
  · intro j stj hj hjh
    rcases get_push_cases hj with ⟨_, rfl⟩ | ⟨_, hj⟩
    · exact hu
    · exact h.fresh j stj hj hjh

theorem InvC.link (h : InvC g lo hi sts) {cur : Nat} (h1 : lo ≤ cur) (h2 : cur < hi)
    {stc stc' : State} (hc : sts[cur]? = some stc) (hitems : stc'.items = stc.items) (hst : StC g stc') :
    InvC g lo hi (sts.setIfInBounds cur stc') := by
  refine ⟨?_, ?_, ?_, ?_⟩
  · exact forall_upd h.st hst
  · intro j stj hj hjl
    rw [get_upd hc, if_neg (by omega)] at hj
    exact h.closed j stj hj hjl
  · intro j stj hj hjl c hcc Y hY
    rw [get_upd hc, if_neg (by omega)] at hj
    obtain ⟨s', t1, st'', t2, t3⟩ := h.trans j stj hj hjl c hcc Y hY
    obtain ⟨new, n1, n2⟩ := upd_items_new hc hitems t2
    exact ⟨s', t1, new, n1, n2 ▸ t3⟩
  · intro j stj hj hjh
    rw [get_upd hc, if_neg (by omega)] at hj
    exact h.fresh j stj hj hjh

theorem InvC.mono_hi {lo hi hi' : Nat} (h : InvC g lo hi sts) (hle : hi ≤ hi') :
    InvC g lo hi' sts :=
  ⟨h.st, h.closed, h.trans, fun i st hi hh => h.fresh i st hi (by omega)⟩

theorem InvC.empty (g : Grammar) : InvC g 0 0 #[] :=
  ⟨fun _ _ h => (not_getElem?_empty h).elim, fun _ _ h => (not_getElem?_empty h).elim,
    fun _ _ h => (not_getElem?_empty h).elim, fun _ _ h => (not_getElem?_empty h).elim⟩

theorem InvC.widen {lo hi : Nat} (h : InvC g lo hi sts) (hlo : sts.size ≤ lo) (n m : Nat)
    (hn : sts.size ≤ m) : InvC g n m sts :=
  ⟨h.st, fun i st hi _ => h.closed i st hi (by have := lt_size_of_getElem? hi; omega),
    fun i st hi _ => h.trans i st hi (by have := lt_size_of_getElem? hi; omega),
    fun i st hi hh => by have := lt_size_of_getElem? hi; omega⟩

structure LinkC (g : Grammar) (cur : Nat) (items : List Item) (rest : List (Nat × List Item))
    (sts : Array State) : Prop where
  invc : InvC g cur (cur + 1) sts
  ex : ∃ stc pre, sts[cur]? = some stc ∧ Linked g items pre rest sts stc

theorem LinkC.transfer {cur : Nat} {items : List Item} {rest : List (Nat × List Item)} {sts sts1 : Array State}
    (hL : LinkC g cur items rest sts) (hI : InvC g cur (cur + 1) sts1)
    (hkeep : ∀ (s : Nat) (st : State), sts[s]? = some st → ∃ st', sts1[s]? = some st' ∧
      st'.items.map core = st.items.map core ∧ st'.actions = st.actions ∧ st'.gotos = st.gotos ∧
      st'.maxPrio = st.maxPrio) :
    LinkC g cur items rest sts1 := by
  obtain ⟨stc0, pre, c1, hD⟩ := hL.ex
  obtain ⟨stc, k1, k2, k3, k4, k5⟩ := hkeep cur stc0 c1
  refine ⟨hI, stc, pre, k1, k2.trans hD.cores, hD.split, ?_, fun a ha => k3 ▸ hD.cells a ha,
    fun j hj => k4 ▸ hD.gotos j hj, k5.trans hD.maxPrio⟩
  intro e' he'
  obtain ⟨s', t1, st', t2, t3⟩ := hD.done e' he'
  obtain ⟨st'', m1, m2, _⟩ := hkeep s' st' t2
  exact ⟨s', (HasTrans.congr k3 k4).mpr t1, st'', m1, m2 ▸ t3⟩

theorem LinkC.link {cur tgt : Nat} {items : List Item} {e : Nat × List Item} {rest : List (Nat × List Item)}
    {sts : Array State} (hL : LinkC g cur items (e :: rest) sts) (hn : NewOk g items e.1 e.2)
    (htgt : ∃ st', sts[tgt]? = some st' ∧ ∀ n ∈ e.2, core n ∈ st'.items.map core)
    {stc stc' : State} (hc : sts[cur]? = some stc) (hadd : addTrans g stc e.1 tgt = .ok stc') :
    LinkC g cur items rest (sts.setIfInBounds cur stc') := by
  obtain ⟨stc0, pre, c1, hD⟩ := hL.ex
  rw [hc] at c1
  cases c1
  have hA := addTrans_eq_ok hadd
  have a1 := hA.items
  have hst := hL.invc.st cur stc hc
  have hkeys := newStates_keys_ne hD.split
  have hstc' : StC g stc' := by
    refine ⟨?_, ?_, a1 ▸ hst.aug0⟩
    · intro a s' hs
      rcases (mem_addTrans_cell hadd).mp hs with hs | ⟨_, rfl, _⟩
      · exact a1 ▸ hst.cellsound a s' hs
      · obtain ⟨src, s1, s2⟩ := hn.src
        exact ⟨core src, by rw [a1, hD.cores]; exact List.mem_map_of_mem s1, s2⟩
    · intro a
      rw [hA.cells]
      by_cases hc' : e.1 < g.nterms ∧ a = e.1
      · rw [if_pos hc', hD.cells a (fun e' he' => hc'.2 ▸ hkeys e' he')]
        exact Nat.le_refl 1
      · rw [if_neg hc']; exact hst.cell1 a
  refine ⟨hL.invc.link (Nat.le_refl _) (Nat.lt_succ_self _) hc a1 hstc', stc', pre ++ [e], get_upd_self hc,
    a1 ▸ hD.cores, by rw [← hD.split, List.append_assoc]; rfl, ?_, ?_, ?_, hA.maxPrio.trans hD.maxPrio⟩
  · intro e' he'
    rcases List.mem_append.mp he' with h' | h'
    · obtain ⟨s', t1, st', t2, t3⟩ := hD.done e' h'
      obtain ⟨st'', k1, k2⟩ := upd_items_new hc a1 t2
      exact ⟨s', (addTrans_trans hadd).mpr (.inr ⟨t1, fun e => absurd e (hkeys e' h')⟩), st'', k1, k2 ▸ t3⟩
    · cases List.mem_singleton.mp h'
      obtain ⟨st', t2, t3⟩ := htgt
      obtain ⟨st'', k1, k2⟩ := upd_items_new hc a1 t2
      exact ⟨tgt, (addTrans_trans hadd).mpr (.inl ⟨rfl, rfl⟩), st'', k1, k2 ▸ t3⟩
  · intro a ha
    have hne : a ≠ e.1 := fun h => ha e (List.mem_append_right _ List.mem_cons_self) h.symm
    rw [hA.cells, if_neg (fun hc => hne hc.2)]
    exact hD.cells a (fun e' he' => ha e' (List.mem_append_left _ he'))
  · intro j hj
    have hne : g.nterms + j ≠ e.1 := fun h => hj e (List.mem_append_right _ List.mem_cons_self) h.symm
    rw [hA.gotos, if_neg (fun hc : g.nterms ≤ e.1 ∧ j = e.1 - g.nterms => hne (hc.2 ▸ Nat.add_sub_of_le hc.1))]
    exact hD.gotos j (fun e' he' => hj e' (List.mem_append_left _ he'))

theorem InvC.placed {lo hi X tgt : Nat} {new : List Item} {sts sts1 : Array State} (h : InvC g lo hi sts)
    (hlo : lo ≤ sts.size) (haug : AugStop new)
    (hp : Placed g tt rn X new sts tgt sts1) : InvC g lo hi sts1 := by
  cases hp with
  | merge h1 h2 => exact h.setItems_grown h1 (mergeState_grown h2)
  | push => exact h.push hlo haug

theorem LinkC.step {cur : Nat} {items : List Item} {e : Nat × List Item} {rest : List (Nat × List Item)}
    {sts sts2 : Array State} (hL : LinkC g cur items (e :: rest) sts) (hn : NewOk g items e.1 e.2)
    (haug : AugStop items) (hstep : LinkStep g tt rn cur e.1 e.2 sts sts2) :
    LinkC g cur items rest sts2 := by
  obtain ⟨stc0, _, c1, _⟩ := hL.ex
  have hnaug : AugStop e.2 := fun n hn' hp => by
    obtain ⟨src, s1, _, rfl⟩ := hn.succ n hn'
    exact haug src s1 hp
  obtain @⟨tgt, sts1, stc, stc', hp, h3, h4, rfl⟩ := hstep
  obtain ⟨stt, t1, _, t3⟩ := hp.target hn.dot
  have hL1 : LinkC g cur items (e :: rest) sts1 :=
    hL.transfer (hL.invc.placed (Nat.le_of_lt (lt_size_of_getElem? c1)) hnaug hp) fun s st hs =>
      let ⟨st', k1, k3, k4, k5, kg⟩ := hp.keeps hs
      ⟨st', k1, kg.cores, k3, k4, k5⟩
  exact hL1.link hn ⟨stt, t1, t3⟩ h3 h4

theorem LinkC.init {cur : Nat} (hC : InvC g cur cur sts) {st st' : State}
    (h1 : sts[cur]? = some st) (ha : st'.actions = st.actions) (hgo : st'.gotos = st.gotos)
    (hsub : ∀ c ∈ st.items.map core, c ∈ st'.items.map core)
    (haug : AugStop st'.items) (hmp : st'.maxPrio = maxPrioOf g st'.items) :
    LinkC g cur st'.items (newStates g st'.items) (sts.setIfInBounds cur st') := by
  have hu := hC.fresh cur st h1 (Nat.le_refl _)
  refine ⟨?_, st', [], get_upd_self h1, rfl, rfl, fun _ h => absurd h List.not_mem_nil, fun a _ => ha ▸ hu.1 a,
    fun j _ => hgo ▸ hu.2 j, hmp⟩
  apply InvC.mono_hi _ (Nat.le_succ cur)
  apply hC.update h1 ha hgo hsub
  · exact untouched_stC ⟨fun a => ha ▸ hu.1 a, fun j => hgo ▸ hu.2 j⟩ haug
  · exact fun hlt => absurd hlt (Nat.lt_irrefl _)

theorem LinkC.final {cur : Nat} {items : List Item} (hL : LinkC g cur items [] sts)
    (hcl : ClosedL g items) : InvC g (cur + 1) (cur + 1) sts := by
  obtain ⟨stc, pre, q1, q2, q3, q4, _, _⟩ := hL.ex
  rw [List.append_nil] at q3
  subst q3
  have hLc := hL.invc
  refine ⟨hLc.st, ?_, ?_, hLc.fresh⟩
  · intro i sti hi hlt
    by_cases hic : i = cur
    · subst hic
      rw [q1] at hi
      cases hi
      exact hcl.of_cores q2
    · exact hLc.closed i sti hi (by omega)
  · intro i sti hi hlt
    by_cases hic : i = cur
    · subst hic
      rw [q1] at hi
      cases hi
      intro c hcc X hX
      rw [q2] at hcc
      obtain ⟨it, i1, rfl⟩ := List.mem_map.mp hcc
      obtain ⟨e0, e1, e2, e3⟩ := perNextSymbol_complete i1 (hX : Resolve.nextSym g it = some X)
      obtain ⟨s', t1, st'', t2, t3⟩ := q4 (e0.1, e0.2.map advance) (List.mem_map.mpr ⟨e0, e1, rfl⟩)
      exact ⟨s', e2 ▸ t1, st'', t2, t3 (advance it) (List.mem_map_of_mem e3)⟩
    · exact hLc.trans i sti hi (by omega)

/-! What `calculate_reductions` needs besides: no state holds items of two augmented productions (`assert!(shifts.len() <= 1)`,
where an ACCEPT counts as a SHIFT), and `state.max_prior_for_term[..]` has an entry for every terminal with a SHIFT. -/

def AugSep (g : Grammar) (items : List Item) : Prop :=
  ∀ it1 ∈ items, ∀ it2 ∈ items, AugProd g it1.prod → AugProd g it2.prod → it1.prod = it2.prod

def PrioOk (st : State) : Prop :=
  ∀ a s', Action.shift s' ∈ st.actions.getD a [] → lookupPrio st.maxPrio a ≠ none

structure StP (g : Grammar) (st : State) : Prop where
  sep : AugSep g st.items
  prio : PrioOk st

def InvP (g : Grammar) (sts : Array State) : Prop :=
  ∀ (i : Nat) (st : State), sts[i]? = some st → StP g st

theorem AugSep.of_back {old new : List Item} (h : AugSep g old)
    (hb : ∀ it' ∈ new, (∃ it ∈ old, it.prod = it'.prod) ∨ ¬AugProd g it'.prod) : AugSep g new := by
  intro a ha b hb' h1 h2
  rcases hb a ha with ⟨a0, a1, a2⟩ | hna
  · rcases hb b hb' with ⟨b0, b1, b2⟩ | hnb
    · rw [← a2, ← b2]
      exact h a0 a1 b0 b1 (by rw [a2]; exact h1) (by rw [b2]; exact h2)
    · exact absurd h2 hnb
  · exact absurd h1 hna

theorem AugSep.grown {old new : List Item} (h : AugSep g old) (hgr : Grown old new) : AugSep g new := by
  apply h.of_back
  intro it' hit'
  obtain ⟨it0, b1, b2, _⟩ := hgr.back it' hit'
  exact .inl ⟨it0, b1, (core_eq b2).1⟩

theorem InvP.setItems_sep (h : InvP g sts) {i : Nat} {items : List Item} (hs : AugSep g items) :
    InvP g (setItems sts i items) :=
  forall_setItems h fun st' hi' => ⟨hs, (h i st' hi').prio⟩

theorem InvP.push (h : InvP g sts) {X : Nat} {items : List Item} (hs : AugSep g items) :
    InvP g (sts.push (freshState g X items)) :=
  forall_push h ⟨hs, fun a s' hs' => by rw [freshState_cell] at hs'; cases hs'⟩

theorem lookupPrio_maxPrioOf {items : List Item} {t : Nat} (ht : t < g.nterms) {it : Item} (hit : it ∈ items)
    (hn : Resolve.nextSym g it = some t) : lookupPrio (maxPrioOf g items) t ≠ none := by
  unfold lookupPrio
  cases hm : Resolve.maxPrior g items t with
  | none => exact (Resolve.maxPrior_eq_none_iff.mp hm it hit hn).elim
  | some p =>
    have hmem : (t, p) ∈ maxPrioOf g items := by
      unfold maxPrioOf
      exact List.mem_filterMap.mpr ⟨t, List.mem_range.mpr ht, by rw [hm]; rfl⟩
    cases hf : (maxPrioOf g items).find? (fun e => e.1 == t) with
    | none =>
      have := List.find?_eq_none.mp hf (t, p) hmem
      simp at this
    | some e => simp

theorem InvP.placed {X tgt : Nat} {new : List Item} {sts sts1 : Array State} (h : InvP g sts) (hnew : AugSep g new)
    (hp : Placed g tt rn X new sts tgt sts1) : InvP g sts1 := by
  cases hp with
  | merge h1 h2 => exact h.setItems_sep ((h _ _ h1).sep.grown (mergeState_grown h2))
  | push => exact h.push hnew

theorem InvP.linkStep {cur : Nat} {items : List Item} {e : Nat × List Item} {rest : List (Nat × List Item)}
    {sts sts2 : Array State} (h : InvP g sts) (hL : LinkC g cur items (e :: rest) sts) (hsep : AugSep g items)
    (hn : NewOk g items e.1 e.2) (hstep : LinkStep g tt rn cur e.1 e.2 sts sts2) : InvP g sts2 := by
  obtain ⟨stc0, _, c1, hD⟩ := hL.ex
  have hnew : AugSep g e.2 := hsep.of_back fun n hn' => by
    obtain ⟨src, s1, _, rfl⟩ := hn.succ n hn'
    exact .inl ⟨src, s1, rfl⟩
  obtain @⟨tgt, sts1, stc, stc', hp, hc, ha, rfl⟩ := hstep
  obtain ⟨_, k1, _, _, k5, _⟩ := hp.keeps c1
  cases k1.symm.trans hc
  have h1 := h.placed hnew hp
  have hA := addTrans_eq_ok ha
  refine forall_upd h1 ⟨by rw [hA.items]; exact (h1 cur stc hc).sep, ?_⟩
  intro a s' hs
  rw [hA.maxPrio]
  rcases (mem_addTrans_cell ha).mp hs with hs | ⟨hX, rfl, _⟩
  · exact (h1 cur stc hc).prio a s' hs
  · obtain ⟨it, i1, i2⟩ := hn.src
    rw [k5.trans hD.maxPrio]
    exact lookupPrio_maxPrioOf hX i1 i2

end Rustemo.Table
