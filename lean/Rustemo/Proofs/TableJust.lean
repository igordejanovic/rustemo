import Rustemo.Proofs.TableFirst
/-!
`Reach … i p d` (the item `(p, d)` belongs to state `i` by the LR(0) rules) and `Just … i p d a` (the lookahead `a` of that item
comes from the STOP of a start item by the LALR(1) rules: `gen`, `a ∈ FIRST(β)` for a closure item of `[A → α.Bβ]`; `prop`, β
nullable; `trans`, along a transition) are defined from the grammar, rustemo's FIRST sets `fs`, the start items `autos` and the
transitions recorded in `sts` (before conflict resolution) alone, not from the computed item sets.
-/
namespace Rustemo.Table

inductive Reach (g : Grammar) (autos : List (Nat × Nat)) (sts : Array State) : Nat → Nat → Nat → Prop where
  | start {i p : Nat} (h : (i, p) ∈ autos) : Reach g autos sts i p 0
  | clos {i p d : Nat} {pr : Prod} {B q : Nat} (hr : Reach g autos sts i p d) (hp : g.prods[p]? = some pr)
      (hB : pr.rhs[d]? = some B) (hn : g.nterms ≤ B) (hq : q ∈ Canon.prodsOf g B) : Reach g autos sts i q 0
  | trans {i p d X j : Nat} {st : State} (hr : Reach g autos sts i p d) (hs : sts[i]? = some st)
      (hX : g.rhsAt p d = some X) (ht : HasTrans g st X j) : Reach g autos sts j p (d + 1)

inductive Just (g : Grammar) (fs : Array (List Nat)) (autos : List (Nat × Nat)) (sts : Array State) :
    Nat → Nat → Nat → Nat → Prop where
  | start {i p : Nat} (h : (i, p) ∈ autos) : Just g fs autos sts i p 0 0
  | gen {i p d : Nat} {pr : Prod} {B q : Nat} {f : List Nat} {b : Nat}
      (hr : Reach g autos sts i p d) (hp : g.prods[p]? = some pr)
      (hB : pr.rhs[d]? = some B) (hn : g.nterms ≤ B) (hq : q ∈ Canon.prodsOf g B) (hlt : d + 1 < pr.rhs.length)
      (hf : firstsOf g fs (pr.rhs.drop (d + 1)) = some f) (hb : b ∈ f) (hne : b ≠ g.emptyIdx) :
      Just g fs autos sts i q 0 b
  | prop {i p d a : Nat} {pr : Prod} {B q : Nat} (hj : Just g fs autos sts i p d a)
      (hp : g.prods[p]? = some pr) (hB : pr.rhs[d]? = some B) (hn : g.nterms ≤ B) (hq : q ∈ Canon.prodsOf g B)
      (hnul : d + 1 < pr.rhs.length → ∃ f, firstsOf g fs (pr.rhs.drop (d + 1)) = some f ∧ g.emptyIdx ∈ f) :
      Just g fs autos sts i q 0 a
  | trans {i p d a X j : Nat} {st : State} (hj : Just g fs autos sts i p d a) (hs : sts[i]? = some st)
      (hX : g.rhsAt p d = some X) (ht : HasTrans g st X j) : Just g fs autos sts j p (d + 1) a

variable {g : Grammar} {fs : Array (List Nat)} {autos : List (Nat × Nat)} {sts sts' : Array State}

def TransLe (g : Grammar) (sts sts' : Array State) : Prop :=
  ∀ (i : Nat) (st : State), sts[i]? = some st → ∃ st', sts'[i]? = some st' ∧ ∀ X j, HasTrans g st X j → HasTrans g st' X j

theorem TransLe.refl (g : Grammar) (sts : Array State) : TransLe g sts sts :=
  fun _ st h => ⟨st, h, fun _ _ ht => ht⟩

theorem TransLe.trans {a b c : Array State} (h1 : TransLe g a b) (h2 : TransLe g b c) : TransLe g a c := by
  intro i st hs
  obtain ⟨st1, s1, s2⟩ := h1 i st hs
  obtain ⟨st2, t1, t2⟩ := h2 i st1 s1
  exact ⟨st2, t1, fun X j ht => t2 X j (s2 X j ht)⟩

theorem Reach.mono {autos autos' : List (Nat × Nat)} {sts sts' : Array State} (ha : ∀ e ∈ autos, e ∈ autos')
    (hs : TransLe g sts sts') {i p d : Nat} (h : Reach g autos sts i p d) : Reach g autos' sts' i p d := by
  induction h with
  | start h => exact .start (ha _ h)
  | clos _ hp hB hn hq ih => exact .clos ih hp hB hn hq
  | trans _ hs' hX ht ih =>
    obtain ⟨st', s1, s3⟩ := hs _ _ hs'
    exact .trans ih s1 hX (s3 _ _ ht)

theorem Just.mono {autos autos' : List (Nat × Nat)} {sts sts' : Array State} (ha : ∀ e ∈ autos, e ∈ autos')
    (hs : TransLe g sts sts') {i p d a : Nat} (h : Just g fs autos sts i p d a) : Just g fs autos' sts' i p d a := by
  induction h with
  | start h => exact .start (ha _ h)
  | gen hr hp hB hn hq hlt hf hb hne => exact .gen (hr.mono ha hs) hp hB hn hq hlt hf hb hne
  | prop _ hp hB hn hq hnul ih => exact .prop ih hp hB hn hq hnul
  | trans _ hs' hX ht ih =>
    obtain ⟨st', s1, s3⟩ := hs _ _ hs'
    exact .trans ih s1 hX (s3 _ _ ht)

theorem Just.lt_nterms (hg : GW g) (hw : FsWf g fs) {i p d a : Nat} (h : Just g fs autos sts i p d a) :
    a < g.nterms := by
  induction h with
  | start _ => exact hg.nterms_pos
  | gen _ _ _ _ _ _ hf hb hne =>
    rcases firstsOf_mem hf _ hb with h' | ⟨_, X, _, l, h2, h3⟩
    · exact absurd h' hne
    · exact (hw.elems X l h2 _ h3).resolve_right hne
  | prop _ _ _ _ _ _ ih => exact ih
  | trans _ _ _ _ ih => exact ih

def JList (g : Grammar) (fs : Array (List Nat)) (autos : List (Nat × Nat)) (sts : Array State) (i : Nat)
    (items : List Item) : Prop :=
  ∀ it ∈ items, Reach g autos sts i it.prod it.dot ∧ ∀ a ∈ it.la, Just g fs autos sts i it.prod it.dot a

def JInv (g : Grammar) (fs : Array (List Nat)) (autos : List (Nat × Nat)) (sts : Array State) : Prop :=
  ∀ (i : Nat) (st : State), sts[i]? = some st → JList g fs autos sts i st.items

theorem JInv.la (hg : GW g) (hw : FsWf g fs) (hJ : JInv g fs autos sts) {i : Nat} {st : State}
    (hs : sts[i]? = some st) : ∀ it ∈ st.items, ∀ a ∈ it.la, a < g.nterms :=
  fun it hit a ha => ((hJ i st hs it hit).2 a ha).lt_nterms hg hw

theorem JList.mono {autos autos' : List (Nat × Nat)} {sts sts' : Array State} (ha : ∀ e ∈ autos, e ∈ autos')
    (hs : TransLe g sts sts') {i : Nat} {items : List Item} (h : JList g fs autos sts i items) :
    JList g fs autos' sts' i items :=
  fun it hit => ⟨(h it hit).1.mono ha hs, fun a ha' => ((h it hit).2 a ha').mono ha hs⟩

theorem TransLe.push (sts : Array State) (st0 : State) : TransLe g sts (sts.push st0) := by
  intro j st hs
  exact ⟨st, getElem?_push_of_some hs _, fun _ _ ht => ht⟩

theorem TransLe.update {i : Nat} {st st' : State} (hi : sts[i]? = some st)
    (h : ∀ X j, HasTrans g st X j → HasTrans g st' X j) : TransLe g sts (sts.setIfInBounds i st') := by
  intro j stj hs
  rw [get_upd hi]
  by_cases hij : i = j
  · rw [if_pos hij]
    rw [← hij, hi] at hs
    simp only [Option.some.injEq] at hs
    subst hs
    exact ⟨st', rfl, h⟩
  · rw [if_neg hij]; exact ⟨stj, hs, fun _ _ ht => ht⟩

theorem JInv.update (hJ : JInv g fs autos sts) {i : Nat} {st st' : State}
    (hi : sts[i]? = some st) (ha : st'.actions = st.actions) (hgo : st'.gotos = st.gotos)
    (hj : JList g fs autos sts i st'.items) : JInv g fs autos (sts.setIfInBounds i st') := by
  have hle : TransLe g sts (sts.setIfInBounds i st') := TransLe.update hi fun _ _ => (HasTrans.congr ha hgo).mpr
  intro j stj hs
  rcases get_upd_cases hs with ⟨rfl, rfl⟩ | ⟨_, hs⟩
  · exact hj.mono (fun _ h => h) hle
  · exact (hJ j stj hs).mono (fun _ h => h) hle

theorem JInv.setItems_jlist (hJ : JInv g fs autos sts) {i : Nat} {st : State}
    (hi : sts[i]? = some st) {items : List Item} (hj : JList g fs autos sts i items) :
    JInv g fs autos (setItems sts i items) := by
  rw [setItems_eq hi]
  exact hJ.update hi rfl rfl hj

theorem JInv.pushStart (hJ : JInv g fs autos sts) (sym p : Nat) :
    JInv g fs ((sts.size, p) :: autos) (sts.push (freshState g sym [⟨p, 0, [0]⟩])) := by
  intro j stj hj
  rcases get_push_cases hj with ⟨rfl, rfl⟩ | ⟨_, hj⟩
  · intro it hit
    rw [List.mem_singleton.mp hit]
    refine ⟨.start List.mem_cons_self, ?_⟩
    intro a ha
    rw [List.mem_singleton.mp ha]
    exact .start List.mem_cons_self
  · exact (hJ j stj hj).mono (fun e he => List.mem_cons_of_mem _ he) (TransLe.push sts _)

end Rustemo.Table
