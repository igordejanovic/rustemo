import Rustemo.Proofs.TableJust
import Rustemo.Proofs.TableInvC
/-!
`JInv` through one `LinkStep`: an item of the merged or new successor has the derivation of its source item, extended along the
new transition.
-/
namespace Rustemo.Table

variable {g : Grammar} {fs : Array (List Nat)} {tt : String} {rn : Option (Array Nat)}
variable {autos : List (Nat × Nat)} {sts : Array State}

theorem succ_just {sts2 : Array State} {cur X tgt : Nat} {stc' : State}
    (hc : sts2[cur]? = some stc') (ht : HasTrans g stc' X tgt) {items : List Item}
    (hj : JList g fs autos sts2 cur items) {new : List Item} (hn : NewOk g items X new) {n : Item} (hnm : n ∈ new) :
    Reach g autos sts2 tgt n.prod n.dot ∧ ∀ a ∈ n.la, Just g fs autos sts2 tgt n.prod n.dot a := by
  obtain ⟨src, s1, s2, rfl⟩ := hn.succ n hnm
  exact ⟨.trans (hj src s1).1 hc s2 ht, fun a ha => .trans ((hj src s1).2 a ha) hc s2 ht⟩

theorem JInv.linkStep {items : List Item} {cur : Nat} {e : Nat × List Item}
    {rest : List (Nat × List Item)} {sts sts2 : Array State} (hJ : JInv g fs autos sts)
    (hL : LinkC g cur items (e :: rest) sts) (hsnap : JList g fs autos sts cur items)
    (hn : NewOk g items e.1 e.2)
    (hstep : LinkStep g tt rn cur e.1 e.2 sts sts2) :
    JInv g fs autos sts2 ∧ JList g fs autos sts2 cur items := by
  obtain ⟨stc0, pre, c1, hD⟩ := hL.ex
  obtain @⟨tgt, sts1, stc, stc', hp, hc1, hadd, rfl⟩ := hstep
  obtain ⟨_, k1, hact, hgot, _⟩ := hp.keeps c1
  cases k1.symm.trans hc1
  obtain ⟨hother, htgt⟩ := hp.origin
  have hle : TransLe g sts sts1 := fun j st hj =>
    let ⟨st', k1, k3, k4, _⟩ := hp.keeps hj
    ⟨st', k1, fun _ _ ht => (HasTrans.congr k3 k4).mpr ht⟩
  have hle2 : TransLe g sts (sts1.setIfInBounds cur stc') :=
    hle.trans (TransLe.update hc1 fun Y j ht => (addTrans_trans hadd).mpr
      (.inr ⟨ht, fun hY => absurd ((HasTrans.congr hact hgot).mp (hY ▸ ht)) (hD.noTrans j)⟩))
  have hid : ∀ e' ∈ autos, e' ∈ autos := fun _ h => h
  have hsnap2 : JList g fs autos (sts1.setIfInBounds cur stc') cur items := hsnap.mono hid hle2
  have hcur2 : (sts1.setIfInBounds cur stc')[cur]? = some stc' := get_upd_self hc1
  have htr : HasTrans g stc' e.1 tgt := (addTrans_trans hadd).mpr (.inl ⟨rfl, rfl⟩)
  refine ⟨?_, hsnap2⟩
  intro j stj hj
  obtain ⟨st1, j1, j2⟩ := upd_items_old hc1 (addTrans_eq_ok hadd).items hj
  rw [← j2]
  by_cases hjt : j = tgt
  · subst hjt
    intro it' hit'
    rcases htgt st1 j1 it' hit' with ⟨old, it, o1, o2, o3, o4⟩ | hnew
    · obtain ⟨r1, r2⟩ := (hJ j old o1).mono hid hle2 it o2
      simp only [core, _root_.Prod.mk.injEq] at o3
      rw [← o3.1, ← o3.2]
      refine ⟨r1, ?_⟩
      intro a ha
      rcases o4 a ha with h' | ⟨n, n1, n2, n3⟩
      · exact r2 a h'
      · have := (succ_just hcur2 htr hsnap2 hn n1).2 a n3
        simp only [core, _root_.Prod.mk.injEq] at n2
        rw [o3.1, o3.2, ← n2.1, ← n2.2]
        exact this
    · exact succ_just hcur2 htr hsnap2 hn hnew
  · exact (hJ j st1 (hother j st1 j1 hjt)).mono hid hle2

end Rustemo.Table
