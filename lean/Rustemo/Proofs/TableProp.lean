import Rustemo.Proofs.TableJust
import Rustemo.Proofs.TableInv
import Rustemo.Proofs.TableClosure
/-!
The loops of `propagate_follows` over states and targets are `foldRes` loops; what their exit condition means (`EdgeStable`) is
`foldRes_orFlag_false` read level by level.  `propItems` has a rule of its own: its body reads the items still to come.
-/
namespace Rustemo.Table

variable {g : Grammar} {fs : Array (List Nat)} {autos : List (Nat × Nat)} {sts sts' : Array State}

theorem propItems_cons (fixed : Option (List Item)) (done : List Item) (it : Item) (todo : List Item) (ch : Bool) :
    propItems fixed done (it :: todo) ch =
      if isKernel it then
        (propItem (fixed.getD (done ++ it :: todo)) it).bind fun r =>
          propItems fixed (done ++ [r.1]) todo (ch || r.2)
      else propItems fixed (done ++ [it]) todo ch := by
  conv => lhs; unfold propItems
  split
  · cases propItem (fixed.getD (done ++ it :: todo)) it <;> rfl
  · rfl

/-- the source item is the one `propagate_follows` finds (`.find(..)`); with distinct cores it is any item of that core
(`Stable.sub`) -/
def Stable (src : List Item) (tit : Item) : Prop :=
  tit.dot ≠ 0 ∧ ∀ s, src.find? (fun x => x.prod == tit.prod && x.dot == tit.dot - 1) = some s → Sub s.la tit.la

theorem find?_core {l : List Item} (hnd : (l.map core).Nodup) {it : Item} (hit : it ∈ l) {p d : Nat}
    (hp : it.prod = p) (hd : it.dot = d) : l.find? (fun x => x.prod == p && x.dot == d) = some it := by
  cases hf : l.find? (fun x => x.prod == p && x.dot == d) with
  | none =>
    have := List.find?_eq_none.mp hf it hit
    simp [hp, hd] at this
  | some s0 =>
    have h1 := List.mem_of_find?_eq_some hf
    have h2 := List.find?_some hf
    simp only [Bool.and_eq_true, beq_iff_eq] at h2
    have : s0 = it := eq_of_nodup_map core hnd h1 hit (by simp [core, h2.1, h2.2, hp, hd])
    rw [this]

theorem Stable.sub {src : List Item} {tit : Item} (h : Stable src tit) (hnd : (src.map core).Nodup) {it : Item}
    (hit : it ∈ src) (hp : it.prod = tit.prod) (hd : it.dot + 1 = tit.dot) : Sub it.la tit.la :=
  h.2 it (find?_core hnd hit hp (by omega))

structure PropStep (src : List Item) (it it' : Item) (c : Bool) : Prop where
  core : core it' = core it
  sub : Sub it.la it'.la
  orig : ∀ a ∈ it'.la, a ∈ it.la ∨ ∃ s ∈ src, s.prod = it.prod ∧ s.dot + 1 = it.dot ∧ a ∈ s.la
  same : c = false → it' = it ∧ (isKernel it = true → Stable src it)

/-- the only panic is the dot at 0 (`target_item.position - 1`) -/
theorem propItem_holds (src : List Item) (tit : Item) :
    (propItem src tit).Holds (tit.dot = 0) fun r => PropStep src tit r.1 r.2 := by
  unfold propItem
  by_cases hd : tit.dot = 0
  · rw [if_pos hd]; exact hd
  · rw [if_neg hd]
    split
    · rename_i s hs
      refine ⟨rfl, subset_union_left, fun a ha => ?_, fun hc => ?_⟩
      · have hp := List.find?_some hs
        simp only [Bool.and_eq_true, beq_iff_eq] at hp
        exact (mem_union.mp ha).imp id fun h' => ⟨s, List.mem_of_find?_eq_some hs, hp.1, by omega, h'⟩
      · have hu := union_eq_self_of_not_lt hc
        refine ⟨by rw [hu], fun _ => ⟨hd, fun s' hs' a ha => ?_⟩⟩
        cases hs.symm.trans hs'
        exact hu ▸ mem_union.mpr (.inr ha)
    · rename_i hs
      exact ⟨rfl, Sub.refl _, fun a ha => .inl ha, fun _ => ⟨rfl, fun _ => ⟨hd, fun s' hs' => nomatch hs.symm.trans hs'⟩⟩⟩

theorem propItems_holds {F : Prop} {fixed : Option (List Item)} (J : List Item → List Item → Bool → Prop)
    (hstep : ∀ done it todo ch it' c, J done (it :: todo) ch → PropStep (fixed.getD (done ++ it :: todo)) it it' c →
      J (done ++ [it']) todo (ch || c))
    (hsafe : ∀ done it todo ch, J done (it :: todo) ch → isKernel it = true → F ∨ it.dot ≠ 0) :
    ∀ (todo done : List Item) (ch : Bool), J done todo ch →
      (propItems fixed done todo ch).Holds F fun r => J r.1 [] r.2 := by
  intro todo
  induction todo with
  | nil => exact fun done ch hJ => .ok hJ
  | cons it todo ih =>
    intro done ch hJ
    rw [propItems_cons]
    by_cases hk : isKernel it = true
    · rw [if_pos hk]
      exact ((propItem_holds _ it).weaken fun h0 => (hsafe _ _ _ _ hJ hk).resolve_right (· h0)).bind fun r _ hr =>
        ih _ _ (hstep _ _ _ _ _ _ hJ hr)
    · rw [if_neg hk]
      have := hstep _ _ _ _ it false hJ ⟨rfl, Sub.refl _, fun a ha => .inl ha, fun _ => ⟨rfl, fun h' => absurd h' hk⟩⟩
      rw [Bool.or_false] at this
      exact ih _ _ this

theorem propItems_grown {fixed : Option (List Item)} {todo done items' : List Item} {ch ch' : Bool}
    (h : propItems fixed done todo ch = .ok (items', ch')) : ∃ todo', items' = done ++ todo' ∧ Grown todo todo' := by
  have := (propItems_holds (F := True) (fixed := fixed)
    (fun d t _ => ∃ pre d', todo = pre ++ t ∧ d = done ++ d' ∧ Grown pre d') ?_ (fun _ _ _ _ _ _ => .inl trivial)
    todo done ch ⟨[], [], rfl, (List.append_nil _).symm, .nil⟩).of_ok h
  · obtain ⟨pre, d', h1, h2, h3⟩ := this
    rw [List.append_nil] at h1
    exact ⟨d', h2, h1 ▸ h3⟩
  · rintro d it t c it' c' ⟨pre, d', h1, h2, h3⟩ hs
    exact ⟨pre ++ [it], d' ++ [it'], by rw [h1, List.append_assoc]; rfl, by rw [h2, List.append_assoc],
      h3.append (.cons ⟨hs.core.symm, hs.sub⟩ .nil)⟩

theorem propItems_unchanged {fixed : Option (List Item)} {todo done r : List Item} {ch : Bool}
    (h : propItems fixed done todo ch = .ok (r, false)) :
    ch = false ∧ r = done ++ todo ∧
      ∀ tit ∈ todo, isKernel tit = true → Stable (fixed.getD (done ++ todo)) tit := by
  have := (propItems_holds (F := True) (fixed := fixed) (fun d t c => c = false → ch = false ∧ d ++ t = done ++ todo ∧
      ∀ tit ∈ todo, tit ∈ t ∨ (isKernel tit = true → Stable (fixed.getD (done ++ todo)) tit)) ?_
    (fun _ _ _ _ _ _ => .inl trivial) todo done ch (fun hc => ⟨hc, rfl, fun _ h => .inl h⟩)).of_ok h rfl
  · exact ⟨this.1, by rw [← this.2.1, List.append_nil], fun tit ht => (this.2.2 tit ht).resolve_left (nomatch ·)⟩
  · intro d it t c it' c' hJ hs hc
    rw [Bool.or_eq_false_iff] at hc
    obtain ⟨h1, h2, h3⟩ := hJ hc.1
    obtain ⟨rfl, hst⟩ := hs.same hc.2
    refine ⟨h1, by rw [← h2, List.append_assoc]; rfl, fun tit ht => (h3 tit ht).elim (fun h' => ?_) .inr⟩
    exact (List.mem_cons.mp h').elim (fun e => .inr (e ▸ h2 ▸ hst)) .inl

theorem propItems_safe {fixed : Option (List Item)} {todo done : List Item} {ch : Bool}
    (h : ∀ tit ∈ todo, isKernel tit = true → tit.dot ≠ 0) : (propItems fixed done todo ch).Safe :=
  (propItems_holds (F := False) (fixed := fixed) (fun _ t _ => ∀ tit ∈ t, isKernel tit = true → tit.dot ≠ 0)
    (fun _ _ _ _ _ _ hJ _ tit ht => hJ tit (List.mem_cons_of_mem _ ht))
    (fun _ it _ _ hJ hk => .inr (hJ it List.mem_cons_self hk)) todo done ch h).toSafe

theorem propItems_just {i j X : Nat} {si : State}
    (hi : sts[i]? = some si) (ht : HasTrans g si X j) {fixed : Option (List Item)}
    (hsrc : ∀ d t, JList g fs autos sts j d → JList g fs autos sts j t → JList g fs autos sts i (fixed.getD (d ++ t)))
    {todo done items' : List Item} {ch ch' : Bool} (h : propItems fixed done todo ch = .ok (items', ch'))
    (hd : JList g fs autos sts j done) (htd : JList g fs autos sts j todo)
    (hX : ∀ tit ∈ todo, tit.dot ≠ 0 → g.rhsAt tit.prod (tit.dot - 1) = some X) : JList g fs autos sts j items' := by
  refine ((propItems_holds (F := True) (fixed := fixed) (fun d t _ => JList g fs autos sts j d ∧ JList g fs autos sts j t ∧
      ∀ tit ∈ t, tit.dot ≠ 0 → g.rhsAt tit.prod (tit.dot - 1) = some X) ?_ (fun _ _ _ _ _ _ => .inl trivial)
    todo done ch ⟨hd, htd, hX⟩).of_ok h).1
  rintro d it t c it' c' ⟨hd, htd, hX⟩ hs
  have hit := htd it List.mem_cons_self
  refine ⟨fun y hy => ?_, fun x hx => htd x (List.mem_cons_of_mem _ hx), fun t h' => hX t (List.mem_cons_of_mem _ h')⟩
  rcases List.mem_append.mp hy with h' | h'
  · exact hd y h'
  · rw [List.mem_singleton.mp h']
    have p2 := core_eq hs.core
    rw [p2.1, p2.2]
    refine ⟨hit.1, fun a ha => ?_⟩
    rcases hs.orig a ha with h' | ⟨s, s1, s2, s3, s4⟩
    · exact hit.2 a h'
    · have hsj : Just g fs autos sts i s.prod s.dot a := (hsrc d (it :: t) hd htd s s1).2 a s4
      have hXs : g.rhsAt s.prod s.dot = some X := by
        rw [s2, show s.dot = it.dot - 1 by omega]
        exact hX it List.mem_cons_self (by omega)
      have := Just.trans hsj hi hXs ht
      rw [s2, s3] at this
      exact this

theorem propEdge_eq_ok {i j : Nat} {ch : Bool} (hi : i < sts.size)
    (h : propEdge sts i j = .ok (sts', ch)) :
    ∃ si sj items, sts[i]? = some si ∧ sts[j]? = some sj ∧
      propItems (if i = j then none else some si.items) [] sj.items false = .ok (items, ch) ∧
      sts' = setItems sts j items := by
  unfold propEdge at h
  split at h
  · rename_i si sj hsi hsj
    split at h
    · rename_i items ch' hp
      simp only [Res.ok.injEq, _root_.Prod.mk.injEq] at h
      obtain ⟨h1, h2⟩ := h
      subst h2
      exact ⟨si, sj, items, hsi, hsj, hp, h1.symm⟩
    · cases h
    · cases h
    · cases h
  · cases h
  · rename_i hn _
    rw [Array.getElem?_eq_getElem hi] at hn
    simp at hn

theorem targetsOf_setItems (sts : Array State) (k : Nat) (items : List Item) (i : Nat) :
    targetsOf ((setItems sts k items).getD i default) = targetsOf (sts.getD i default) := by
  unfold setItems
  simp only [Array.getD_eq_getD_getElem?, Array.getElem?_modify]
  by_cases hki : k = i
  · rw [if_pos hki]
    cases sts[i]? <;> rfl
  · rw [if_neg hki]

theorem mem_targetsOf_iff {st : State} (ha : st.actions.size = g.nterms) {j : Nat} :
    j ∈ targetsOf st ↔ ∃ X, HasTrans g st X j := by
  have hsh : ∀ act, shiftTgt act = some j ↔ act = .shift j := by
    intro act; cases act <;> simp [shiftTgt]
  unfold targetsOf
  simp only [List.mem_append, List.mem_filterMap, List.mem_flatMap, id, exists_eq_right, hsh]
  constructor
  · rintro (h | ⟨c, hc, hm⟩)
    · obtain ⟨k, hk⟩ := (mem_toList_iff_getD (d := none) (by simp)).mp h
      exact ⟨g.nterms + k, .inr ⟨Nat.le_add_right _ _, by rw [Nat.add_sub_cancel_left]; exact hk⟩⟩
    · obtain ⟨a, rfl⟩ := (mem_toList_iff_getD (d := []) (List.ne_nil_of_mem hm)).mp hc
      refine ⟨a, .inl ⟨?_, hm⟩⟩
      rcases Nat.lt_or_ge a st.actions.size with h | h
      · omega
      · rw [Array.getD_eq_getD_getElem?, Array.getElem?_eq_none h] at hm; cases hm
  · rintro ⟨X, ⟨_, hm⟩ | ⟨_, hm⟩⟩
    · exact .inr ⟨_, (mem_toList_iff_getD (d := []) (List.ne_nil_of_mem hm)).mpr ⟨X, rfl⟩, hm⟩
    · exact .inl ((mem_toList_iff_getD (d := none) (by simp)).mpr ⟨_, hm⟩)

theorem target_kernel_dot (hg : GW g) (hI : Inv g autos sts) {i : Nat} {st : State} (hi : sts[i]? = some st)
    {X j : Nat} (ht : HasTrans g st X j) :
    ∃ sj, sts[j]? = some sj ∧ ∀ tit ∈ sj.items, isKernel tit = true → tit.dot ≠ 0 := by
  obtain ⟨t1, t2, _⟩ := hI.trans i st hi X j ht
  refine ⟨sts[j], Array.getElem?_eq_getElem t1, ?_⟩
  intro tit htit hk hd
  unfold isKernel at hk
  simp only [Bool.or_eq_true, decide_eq_true_eq, beq_iff_eq] at hk
  have hp : tit.prod = 0 := by omega
  obtain ⟨pr0, p1, p2, _⟩ := hg.aug0
  have := hI.augs j _ (Array.getElem?_eq_getElem t1) tit htit hd (by rw [hp]; exact ⟨pr0, p1, .inl p2⟩)
  exact t2 _ this rfl

theorem propEdge_safe (hg : GW g) (hI : Inv g autos sts) {i j : Nat}
    (hi : i < sts.size) (hj : j ∈ targetsOf (sts.getD i default)) : (propEdge sts i j).Safe := by
  have h1 : sts[i]? = some sts[i] := Array.getElem?_eq_getElem hi
  have hgd := getD_of_getElem? h1 default
  rw [hgd] at hj
  obtain ⟨X, ht⟩ := (mem_targetsOf_iff (g := g) (hI.st i _ h1).asize).mp hj
  obtain ⟨sj, s1, s2⟩ := target_kernel_dot hg hI h1 ht
  unfold propEdge
  rw [h1, s1]
  simp only
  rcases propItems_safe (fixed := if i = j then none else some sts[i].items) (done := []) (ch := false) s2 with ⟨r, hr⟩ | hr
  · rw [hr]; exact .inl ⟨_, rfl⟩
  · rw [hr]; exact .inr rfl

/-- the transition `i → j` is saturated: every kernel item of `j` has the lookaheads of its source in `i` -/
def EdgeStable (sts : Array State) (i j : Nat) : Prop :=
  ∃ si sj, sts[i]? = some si ∧ sts[j]? = some sj ∧ ∀ tit ∈ sj.items, isKernel tit = true → Stable si.items tit

theorem propEdge_unchanged {i j : Nat} (hi : i < sts.size)
    (h : propEdge sts i j = .ok (sts', false)) : sts' = sts ∧ EdgeStable sts i j := by
  obtain ⟨si, sj, items, h1, h2, h3, h4⟩ := propEdge_eq_ok hi h
  obtain ⟨_, e2, e3⟩ := propItems_unchanged h3
  simp only [List.nil_append] at e2 e3
  subst e2
  refine ⟨by rw [h4]; exact setItems_same h2, si, sj, h1, h2, ?_⟩
  intro tit ht hk
  have := e3 tit ht hk
  by_cases hij : i = j
  · rw [if_pos hij] at this
    simp only [Option.getD_none] at this
    rw [hij, h2] at h1
    simp only [Option.some.injEq] at h1
    subst h1; exact this
  · rw [if_neg hij] at this
    exact this

theorem JInv.edge {i j : Nat} {ch : Bool}
    (hI : Inv g autos sts) (hJ : JInv g fs autos sts) (hi : i < sts.size)
    (hj : j ∈ targetsOf (sts.getD i default)) (he : propEdge sts i j = .ok (sts', ch)) :
    ∃ sj items, sts[j]? = some sj ∧ Grown sj.items items ∧ sts' = setItems sts j items ∧
      JList g fs autos sts j items := by
  obtain ⟨si, sj, items, h1, h2, h3, h4⟩ := propEdge_eq_ok hi he
  obtain ⟨todo', e5, e6⟩ := propItems_grown h3
  simp only [List.nil_append] at e5
  subst e5
  refine ⟨sj, items, h2, e6, h4, ?_⟩
  have hgd := getD_of_getElem? h1 default
  rw [hgd] at hj
  obtain ⟨X, ht⟩ := (mem_targetsOf_iff (g := g) (hI.st i si h1).asize).mp hj
  obtain ⟨_, _, t3⟩ := hI.trans i si h1 X j ht
  apply propItems_just h1 ht _ h3 (fun x hx => nomatch hx) (hJ j sj h2)
  · intro tit htit hd
    exact (t3 sj h2 tit htit hd).1
  · intro d t hd ht'
    by_cases hij : i = j
    · subst hij
      rw [if_pos rfl]
      exact fun x hx => (List.mem_append.mp hx).elim (hd x) (ht' x)
    · rw [if_neg hij]
      exact hJ i si h1

variable {F : Prop}

theorem propEdge_keeps {i j : Nat} {r : Array State × Bool} (hi : i < sts.size) (h : propEdge sts i j = .ok r) :
    r.1.size = sts.size ∧ ∀ k, targetsOf (r.1.getD k default) = targetsOf (sts.getD k default) := by
  obtain ⟨_, _, items, _, _, _, e⟩ := propEdge_eq_ok hi h
  exact e ▸ ⟨size_setItems _ _ _, targetsOf_setItems _ _ _⟩

theorem propagate_holds {fuel : Nat} (J : Array State → Prop)
    (hclose : ∀ sts i st, J sts → sts[i]? = some st →
      (closure g fs fuel st.items).Holds F fun items => J (setItems sts i items))
    (hedge : ∀ sts i j, J sts → i < sts.size → j ∈ targetsOf (sts.getD i default) →
      (propEdge sts i j).Holds F fun r => J r.1)
    (n : Nat) (sts : Array State) (hJ : J sts) :
    (propagate g fs fuel n sts).Holds F fun s => J s ∧ s.size = sts.size := by
  rw [propagate_eq_iter]
  -- every body keeps the size of the array, `propEdge` also the targets of every state
  let P (s : Array State) : Prop := J s ∧ s.size = sts.size
  refine (iterRes_holds (P := P) (fun s hs => ?_) n sts ⟨hJ, rfl⟩).mono fun _ h => h.1
  rw [propRound, refreshStates_eq_fold]
  refine (foldRes_holds (fun _ => P) _ (fun i hi _ s1 h1 => ?_) s hs).bind fun s1 _ h1 => ?_
  · have hi1 : s1[i]? = some (s1.getD i default) := by
      rw [Array.getD_eq_getD_getElem?, Array.getElem?_eq_getElem (h1.2 ▸ hs.2 ▸ List.mem_range.mp hi)]; rfl
    exact (hclose s1 i _ h1.1 hi1).bind fun items _ h => .ok ⟨h, (size_setItems _ _ _).trans h1.2⟩
  rw [propStates_eq_fold]
  refine foldRes_holds (fun _ r => P r.1) _ (fun i hi _ r hr => orFlag_holds ?_) (s1, false) h1
  have hi1 : i < r.1.size := hr.2 ▸ h1.2 ▸ List.mem_range.mp hi
  rw [propTargets_eq_fold]
  refine (foldRes_holds (fun rest q => P q.1 ∧ ∀ j ∈ rest, j ∈ targetsOf (q.1.getD i default)) _
    (fun j _ rest q hq => ?_) (r.1, false) ⟨hr, fun _ h => h⟩).mono fun _ h => h.1
  have hiq : i < q.1.size := hq.1.2 ▸ hr.2 ▸ hi1
  refine (hedge q.1 i j hq.1.1 hiq (hq.2 j List.mem_cons_self)).bind fun e he h => .ok ?_
  obtain ⟨z1, z2⟩ := propEdge_keeps hiq he
  exact ⟨⟨h, z1.trans hq.1.2⟩, fun k hk => z2 i ▸ hq.2 k (List.mem_cons_of_mem _ hk)⟩

theorem propTargets_unchanged {i : Nat} {l : List Nat} {sts sts' : Array State} (hi : i < sts.size)
    (h : propTargets i l sts false = .ok (sts', false)) : sts' = sts ∧ ∀ j ∈ l, EdgeStable sts i j := by
  rw [propTargets_eq_fold] at h
  obtain ⟨e, hst⟩ := (foldRes_orFlag_false h).2 fun j _ _ he => (propEdge_unchanged hi he).1
  exact ⟨e, fun j hj => (propEdge_unchanged hi (hst j hj)).2⟩

theorem propStates_unchanged {l : List Nat} {sts sts' : Array State} (hl : ∀ i ∈ l, i < sts.size)
    (h : propStates l sts false = .ok (sts', false)) :
    sts' = sts ∧ ∀ i ∈ l, ∀ j ∈ targetsOf (sts.getD i default), EdgeStable sts i j := by
  rw [propStates_eq_fold] at h
  obtain ⟨e, hst⟩ := (foldRes_orFlag_false h).2 fun i hi _ he => (propTargets_unchanged (hl i hi) he).1
  exact ⟨e, fun i hi => (propTargets_unchanged (hl i hi) (hst i hi)).2⟩

theorem refreshStates_fix {fuel : Nat} {l : List Nat} {sts sts' : Array State}
    (h : refreshStates g fs fuel l sts = .ok sts') :
    sts'.size = sts.size ∧ ∀ i ∈ l, ∀ st, sts'[i]? = some st → Closes g fs st.items := by
  rw [refreshStates_eq_fold] at h
  have := (foldRes_holds (F := True) (fun rest s => s.size = sts.size ∧
    ∀ i ∈ l, ∀ st, s[i]? = some st → i ∈ rest ∨ Closes g fs st.items) l ?_ sts ⟨rfl, fun i hi _ _ => .inl hi⟩).of_ok h
  · exact ⟨this.1, fun i hi st hs => (this.2 i hi st hs).resolve_left (nomatch ·)⟩
  · intro i _ rest s hJ
    refine .of_inv fun s1 h1 => ?_
    obtain ⟨items, hc, e⟩ := Res.bind_eq_ok h1
    cases e
    refine ⟨(size_setItems _ _ _).trans hJ.1, fun k hk stk hsk => ?_⟩
    rcases get_setItems_cases hsk with ⟨rfl, st, hst, rfl⟩ | ⟨hne, hsk⟩
    · exact .inr (closure_closes (getD_of_getElem? hst default ▸ hc))
    · exact (hJ.2 k hk stk hsk).imp_left fun h' => (List.mem_cons.mp h').resolve_left hne

theorem propagate_exit {fuel : Nat} {n : Nat} {sts sts' : Array State} (h : propagate g fs fuel n sts = .ok sts') :
    (∀ (i : Nat) (st : State), sts'[i]? = some st → Closes g fs st.items) ∧
    (∀ i, i < sts'.size → ∀ j ∈ targetsOf (sts'.getD i default), EdgeStable sts' i j) := by
  obtain ⟨sts0, hr⟩ := iterRes_last (propagate_eq_iter g fs fuel n sts ▸ h)
  unfold propRound at hr
  obtain ⟨sts2, h1, h2⟩ := Res.bind_eq_ok hr
  obtain ⟨r3, r1⟩ := refreshStates_fix h1
  obtain ⟨rfl, u3⟩ := propStates_unchanged (fun i hi => List.mem_range.mp hi) h2
  exact ⟨fun i st hi => r1 i (List.mem_range.mpr (r3 ▸ lt_size_of_getElem? hi)) st hi,
    fun i hi => u3 i (List.mem_range.mpr hi)⟩

end Rustemo.Table
