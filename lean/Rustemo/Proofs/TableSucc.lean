import Rustemo.Proofs.TableState
import Rustemo.Proofs.TableGroup
/-!
The successor loop of `calc_states` without invariants: `merge_state` never panics and only adds lookaheads; what the body of
the loop does with one successor is the relation `LinkStep` (`Placed`, then `addTrans`).  Every invariant is proved on `LinkStep`;
none walks `linkStates`.
-/
namespace Rustemo.Table

variable {g : Grammar} {fs : Array (List Nat)} {tt : String} {rn : Option (Array Nat)} {sts sts' : Array State}

theorem newStates_mem {items : List Item} {e : Nat × List Item} (h : e ∈ newStates g items) :
    ∃ its, e.2 = its.map advance ∧ its ≠ [] ∧ its = items.filter (nextIs g e.1) := by
  unfold newStates at h
  obtain ⟨e0, h1, h2⟩ := List.mem_map.mp h
  obtain ⟨h3, h4⟩ := perNextSymbol_mem h1
  subst h2
  exact ⟨e0.2, rfl, h4, h3⟩

theorem nextSym_pos (hg : GW g) {it : Item} {X : Nat} (h : Resolve.nextSym g it = some X) :
    0 < X ∧ X < g.nterms + g.nnonterms ∧ X ≠ g.augIdx ∧ some X ≠ g.auglIdx ∧
      ∃ pr, g.prods[it.prod]? = some pr ∧ it.dot < pr.rhs.length := by
  unfold Resolve.nextSym at h
  split at h
  · rename_i pr hpr
    have hm := List.mem_of_getElem? h
    obtain ⟨h1, h2, h3, h4, _⟩ := (hg.prod_ok it.prod pr hpr).2.2 X hm
    refine ⟨h1, h2, h3, h4, pr, hpr, ?_⟩
    rcases Nat.lt_or_ge it.dot pr.rhs.length with h' | h'
    · exact h'
    · rw [List.getElem?_eq_none h'] at h; simp at h
  · simp at h

theorem isKernel_of_dot {it : Item} (h : it.dot ≠ 0) : isKernel it = true := by
  rw [isKernel, decide_eq_true (Nat.pos_of_ne_zero h)]; rfl

theorem nodup_advance : ∀ {l : List Item}, (l.map core).Nodup → ((l.map advance).map core).Nodup
  | [], _ => by simp
  | x :: xs, h => by
    simp only [List.map_cons, List.nodup_cons] at h ⊢
    refine ⟨?_, nodup_advance h.2⟩
    intro hm
    apply h.1
    obtain ⟨y, hy, hy'⟩ := List.mem_map.mp hm
    obtain ⟨z, hz, rfl⟩ := List.mem_map.mp hy
    change (z.prod, z.dot + 1) = (x.prod, x.dot + 1) at hy'
    simp only [_root_.Prod.mk.injEq, Nat.add_right_cancel_iff] at hy'
    exact List.mem_map.mpr ⟨z, hz, by simp [core, hy'.1, hy'.2]⟩

structure NewOk (g : Grammar) (items : List Item) (X : Nat) (new : List Item) : Prop where
  ne : new ≠ []
  ok : ∀ n ∈ new, ItemOk g n
  nodup : (new.map core).Nodup
  succ : ∀ n ∈ new, ∃ src ∈ items, Resolve.nextSym g src = some X ∧ n = advance src

theorem NewOk.dot {items : List Item} {X : Nat} {new : List Item} (hn : NewOk g items X new) :
    ∀ n ∈ new, n.dot ≠ 0 := fun n h => by
  obtain ⟨src, _, _, rfl⟩ := hn.succ n h
  exact Nat.succ_ne_zero _

theorem NewOk.src {items : List Item} {X : Nat} {new : List Item} (hn : NewOk g items X new) :
    ∃ src ∈ items, Resolve.nextSym g src = some X :=
  have ⟨n, hn'⟩ := List.exists_mem_of_ne_nil _ hn.ne
  have ⟨src, s1, s2, _⟩ := hn.succ n hn'
  ⟨src, s1, s2⟩

theorem newOk_of_mem (hg : GW g) {items : List Item} (hnd : (items.map core).Nodup)
    {e : Nat × List Item} (h : e ∈ newStates g items) : NewOk g items e.1 e.2 := by
  obtain ⟨its, h1, h2, h3⟩ := newStates_mem h
  have hsrc : ∀ src ∈ its, src ∈ items ∧ Resolve.nextSym g src = some e.1 := by
    intro src hs
    rw [h3] at hs
    obtain ⟨a, b⟩ := List.mem_filter.mp hs
    exact ⟨a, nextIs_iff.mp b⟩
  refine ⟨?_, ?_, ?_, ?_⟩
  · rw [h1]; intro hc; exact h2 (List.map_eq_nil_iff.mp hc)
  · intro n hn
    rw [h1] at hn
    obtain ⟨src, hs, rfl⟩ := List.mem_map.mp hn
    obtain ⟨_, _, _, _, pr, p1, p2⟩ := nextSym_pos hg (hsrc src hs).2
    exact ⟨pr, p1, by simp only [advance]; omega⟩
  · rw [h1]
    apply nodup_advance
    rw [h3]
    exact List.Nodup.sublist (List.Sublist.map core List.filter_sublist) hnd
  · intro n hn
    rw [h1] at hn
    obtain ⟨src, hs, rfl⟩ := List.mem_map.mp hn
    exact ⟨src, (hsrc src hs).1, (hsrc src hs).2, rfl⟩

theorem newStates_keys_ne {items : List Item} {pre rest : List (Nat × List Item)} {e : Nat × List Item}
    (h : pre ++ e :: rest = newStates g items) : ∀ e' ∈ pre, e'.1 ≠ e.1 := by
  have : (newStates g items).Pairwise (fun a b => a.1 < b.1) :=
    List.Pairwise.map _ (fun a b h => h) (perNextSymbol_inv g items).1
  rw [← h] at this
  exact fun e' he' => Nat.ne_of_lt ((List.pairwise_append.mp this).2.2 e' he' e List.mem_cons_self)

theorem newOk_sym (hg : GW g) {items : List Item} {X : Nat} {new : List Item} (hn : NewOk g items X new) :
    X < g.nterms + g.nnonterms := by
  cases hl : new with
  | nil => exact absurd hl hn.ne
  | cons n ns =>
    obtain ⟨src, _, s2, _⟩ := hn.succ n (by rw [hl]; exact List.mem_cons_self)
    exact (nextSym_pos hg s2).2.1

theorem acceptInit_eq (hg : GW g) (st : State) (items : List Item) :
    acceptInit st (perNextSymbol g items) = .ok st := by
  unfold acceptInit
  have hno : (perNextSymbol g items).any (fun e => e.1 == 0) = false := by
    apply Bool.eq_false_iff.mpr
    intro hc
    obtain ⟨e, he, h0⟩ := List.any_eq_true.mp hc
    simp only [beq_iff_eq] at h0
    obtain ⟨h1, h2⟩ := perNextSymbol_mem he
    cases hl : e.2 with
    | nil => exact h2 hl
    | cons x xs =>
      have : x ∈ items.filter (nextIs g e.1) := by rw [← h1, hl]; exact List.mem_cons_self
      have hx := nextIs_iff.mp (List.mem_filter.mp this).2
      have := (nextSym_pos hg hx).1
      omega
  rw [hno]
  simp

/-- equal states: `LRState::eq` compares the ordered kernels, and a successor's items are all kernel items -/
theorem stateEq_cores {old new : List Item} (h : stateEq old new = true) (hnew : ∀ n ∈ new, n.dot ≠ 0) :
    (∀ it ∈ old, it.dot ≠ 0 → core it ∈ new.map core) ∧ ∀ n ∈ new, core n ∈ old.map core := by
  have hk : (old.filter isKernel).map core = new.map core := by
    have h1 := coresEq_map h
    rwa [List.filter_eq_self.mpr fun n hn => isKernel_of_dot (hnew n hn)] at h1
  refine ⟨fun it hit hd => hk ▸ List.mem_map_of_mem (List.mem_filter.mpr ⟨hit, isKernel_of_dot hd⟩), fun n hn => ?_⟩
  have : core n ∈ (old.filter isKernel).map core := hk ▸ List.mem_map_of_mem hn
  obtain ⟨it, i1, i2⟩ := List.mem_map.mp this
  exact List.mem_map.mpr ⟨it, (List.mem_filter.mp i1).1, i2⟩

theorem mergeItems_grown (old : List Item) (ps : List (Item × Item)) : Grown old (mergeItems old ps) := by
  induction old generalizing ps with
  | nil => exact .nil
  | cons x xs ih =>
    unfold mergeItems
    by_cases hk : isKernel x = true
    · rw [if_pos hk]
      cases ps with
      | nil => exact Grown.refl _
      | cons p ps' => exact .cons ⟨rfl, subset_union_left⟩ (ih ps')
    · rw [if_neg hk]
      exact .cons ⟨rfl, Sub.refl _⟩ (ih ps)

theorem itemPairs_some {new : List Item} : ∀ (ks : List Item), (∀ x ∈ ks, ∃ y ∈ new, sameCore y x = true) →
    ∃ pairs, itemPairs new ks = some pairs := by
  intro ks
  induction ks with
  | nil => exact fun _ => ⟨[], rfl⟩
  | cons x xs ih =>
    intro h
    obtain ⟨y, hy, hxy⟩ := h x List.mem_cons_self
    obtain ⟨r, hr⟩ := ih (fun z hz => h z (List.mem_cons_of_mem _ hz))
    unfold itemPairs
    rw [hr]
    cases hf : new.find? (fun i => sameCore i x) with
    | none =>
      have := List.find?_eq_none.mp hf y hy
      simp [hxy] at this
    | some y' => exact ⟨_, rfl⟩

theorem itemPairs_fst {new : List Item} : ∀ {ks : List Item} {pairs : List (Item × Item)},
    itemPairs new ks = some pairs →
      pairs.map (·.1) = ks ∧ ∀ p ∈ pairs, p.2 ∈ new ∧ core p.2 = core p.1 := by
  intro ks
  induction ks with
  | nil =>
    intro pairs h
    cases h
    exact ⟨rfl, fun _ hp => nomatch hp⟩
  | cons x xs ih =>
    intro pairs h
    unfold itemPairs at h
    split at h
    · rename_i y r hy hr
      simp only [Option.some.injEq] at h
      subst h
      obtain ⟨i1, i2⟩ := ih hr
      refine ⟨by simp [i1], ?_⟩
      intro p hp
      rcases List.mem_cons.mp hp with h' | h'
      · subst h'
        have hsc := List.find?_some hy
        exact ⟨List.mem_of_find?_eq_some hy, sameCore_iff.mp hsc⟩
      · exact i2 p h'
    · simp at h

theorem mergeItems_origin : ∀ (old : List Item) (ps : List (Item × Item)), ps.map (·.1) = old.filter isKernel →
    ∀ it' ∈ mergeItems old ps, ∃ it ∈ old, core it = core it' ∧
      ∀ a ∈ it'.la, a ∈ it.la ∨ ∃ p ∈ ps, p.1 = it ∧ a ∈ p.2.la := by
  intro old
  induction old with
  | nil => exact fun _ _ _ h => nomatch h
  | cons x xs ih =>
    intro ps hps
    unfold mergeItems
    by_cases hk : isKernel x = true
    · rw [if_pos hk]
      rw [List.filter_cons, if_pos hk] at hps
      cases ps with
      | nil => simp at hps
      | cons p ps' =>
        simp only [List.map_cons, List.cons.injEq] at hps
        intro it' hit'
        rcases List.mem_cons.mp hit' with h | h
        · subst h
          refine ⟨x, List.mem_cons_self, rfl, ?_⟩
          intro a ha
          rcases mem_union.mp ha with h' | h'
          · exact .inl h'
          · exact .inr ⟨p, List.mem_cons_self, hps.1, h'⟩
        · obtain ⟨it, i1, i2, i3⟩ := ih ps' hps.2 it' h
          refine ⟨it, List.mem_cons_of_mem _ i1, i2, ?_⟩
          intro a ha
          rcases i3 a ha with h' | ⟨q, q1, q2, q3⟩
          · exact .inl h'
          · exact .inr ⟨q, List.mem_cons_of_mem _ q1, q2, q3⟩
    · rw [if_neg hk]
      rw [List.filter_cons, if_neg hk] at hps
      intro it' hit'
      rcases List.mem_cons.mp hit' with h | h
      · subst h
        exact ⟨it', List.mem_cons_self, rfl, fun a ha => .inl ha⟩
      · obtain ⟨it, i1, i2, i3⟩ := ih ps hps it' h
        exact ⟨it, List.mem_cons_of_mem _ i1, i2, i3⟩

/-- `merge_state` never panics: equal states have the kernel items its `find` looks for -/
theorem mergeState_spec (tt : String) (rn : Option (Array Nat)) (old new : List Item) :
    ∃ r, mergeState g tt rn old new = .ok r ∧ ∀ items', r = some items' →
      stateEq old new = true ∧ ∃ pairs, itemPairs new (old.filter isKernel) = some pairs ∧ items' = mergeItems old pairs := by
  unfold mergeState
  by_cases he : stateEq old new = true
  · simp only [show (!stateEq old new) = false by rw [he]; rfl, Bool.false_eq_true, if_false]
    have hc := coresEq_map (by unfold stateEq at he; exact he)
    obtain ⟨pairs, hp⟩ := itemPairs_some (new := new) (old.filter isKernel) (by
      intro x hx
      have : core x ∈ (new.filter isKernel).map core := by rw [← hc]; exact List.mem_map.mpr ⟨x, hx, rfl⟩
      obtain ⟨y, hy, hyx⟩ := List.mem_map.mp this
      exact ⟨y, (List.mem_filter.mp hy).1, sameCore_iff.mpr hyx⟩)
    rw [hp]
    simp only
    split
    · exact ⟨_, rfl, nofun⟩
    · exact ⟨_, rfl, fun _ h => ⟨he, pairs, rfl, (Option.some.inj h).symm⟩⟩
  · simp only [he, Bool.not_false, if_true]
    exact ⟨_, rfl, nofun⟩

theorem mergeState_eq_some {old new items' : List Item}
    (h : mergeState g tt rn old new = .ok (some items')) :
    stateEq old new = true ∧ ∃ pairs, itemPairs new (old.filter isKernel) = some pairs ∧
      items' = mergeItems old pairs :=
  have ⟨_, hr, hq⟩ := mergeState_spec (g := g) tt rn old new
  hq items' (Res.ok.inj (hr.symm.trans h))

theorem mergeState_grown {old new items' : List Item}
    (h : mergeState g tt rn old new = .ok (some items')) : Grown old items' := by
  obtain ⟨_, pairs, _, h3⟩ := mergeState_eq_some h
  subst h3
  exact mergeItems_grown old pairs

theorem tryMerge_spec (tt : String) (rn : Option (Array Nat)) (sts : Array State) (new : List Item) (order : List Nat) :
    ∃ r, tryMerge g tt rn sts new order = .ok r ∧ ∀ i sts', r = some (i, sts') →
      ∃ st items', sts[i]? = some st ∧ mergeState g tt rn st.items new = .ok (some items') ∧
        sts' = setItems sts i items' := by
  induction order with
  | nil => exact ⟨none, rfl, nofun⟩
  | cons j rest ih =>
    unfold tryMerge
    cases hs : sts[j]? with
    | none => exact ih
    | some st =>
      simp only
      obtain ⟨r, hr, _⟩ := mergeState_spec (g := g) tt rn st.items new
      rw [hr]
      cases r with
      | none => exact ih
      | some items' => exact ⟨_, rfl, fun i sts' h => by cases h; exact ⟨st, items', hs, hr, rfl⟩⟩

theorem freshState_cell (g : Grammar) (X : Nat) (items : List Item) (a : Nat) :
    (freshState g X items).actions.getD a [] = [] := by
  unfold freshState
  simp only [Array.getD_eq_getD_getElem?]
  by_cases h : a < g.nterms
  · simp [h]
  · simp [h]

theorem freshState_goto (g : Grammar) (X : Nat) (items : List Item) (j : Nat) :
    (freshState g X items).gotos.getD j none = none := by
  unfold freshState
  simp only [Array.getD_eq_getD_getElem?]
  by_cases h : j < g.nnonterms
  · simp [h]
  · simp [h]

theorem freshState_noTrans (g : Grammar) (X : Nat) (items : List Item) (Y s' : Nat) :
    ¬HasTrans g (freshState g X items) Y s' := by
  rintro (⟨_, h⟩ | ⟨_, h⟩)
  · rw [freshState_cell] at h; simp at h
  · rw [freshState_goto] at h; simp at h

/-- `st'` is `st` with the transition on `X` to `tgt` entered -/
structure Added (g : Grammar) (st : State) (X tgt : Nat) (st' : State) : Prop where
  items : st'.items = st.items
  asize : st'.actions.size = st.actions.size
  gsize : st'.gotos.size = st.gotos.size
  maxPrio : st'.maxPrio = st.maxPrio
  cells : ∀ a, st'.actions.getD a [] = if X < g.nterms ∧ a = X then st.actions.getD a [] ++ [Action.shift tgt]
    else st.actions.getD a []
  gotos : ∀ j, st'.gotos.getD j none = if g.nterms ≤ X ∧ j = X - g.nterms then some tgt else st.gotos.getD j none

theorem addTrans_eq_ok {st st' : State} {X tgt : Nat} (h : addTrans g st X tgt = .ok st') : Added g st X tgt st' := by
  unfold addTrans at h
  by_cases hX : g.nterms ≤ X
  · rw [if_pos hX] at h
    split at h
    · rename_i hlt
      simp only [Res.ok.injEq] at h
      subst h
      refine ⟨rfl, rfl, by simp, rfl, ?_, ?_⟩
      · intro a
        rw [if_neg (by omega)]
      · intro j
        simp only [Array.getD_eq_getD_getElem?, Array.getElem?_setIfInBounds]
        by_cases hj : X - g.nterms = j
        · rw [if_pos hj, if_pos hlt, if_pos ⟨hX, hj.symm⟩]; rfl
        · have : ¬(g.nterms ≤ X ∧ j = X - g.nterms) := fun h => hj h.2.symm
          rw [if_neg hj, if_neg this]
    · simp at h
  · rw [if_neg hX] at h
    split at h
    · rename_i hlt
      simp only [Res.ok.injEq] at h
      subst h
      refine ⟨rfl, by simp, rfl, rfl, ?_, ?_⟩
      · intro a
        simp only [Array.getD_eq_getD_getElem?, Array.getElem?_modify]
        by_cases ha : X = a
        · subst ha
          have : X < g.nterms := by omega
          simp [this, Array.getElem?_eq_getElem hlt]
        · have : ¬(X < g.nterms ∧ a = X) := fun h => ha h.2.symm
          simp [ha, this]
      · intro j
        rw [if_neg (fun h => hX h.1)]
    · simp at h

theorem mem_addTrans_cell {st st' : State} {X tgt : Nat} (h : addTrans g st X tgt = .ok st') {a : Nat} {act : Action} :
    act ∈ st'.actions.getD a [] ↔ act ∈ st.actions.getD a [] ∨ (X < g.nterms ∧ a = X ∧ act = .shift tgt) := by
  rw [(addTrans_eq_ok h).cells a]
  by_cases hc : X < g.nterms ∧ a = X
  · rw [if_pos hc, List.mem_append, List.mem_singleton]
    exact or_congr_right ⟨fun e => ⟨hc.1, hc.2, e⟩, fun e => e.2.2⟩
  · rw [if_neg hc]
    exact ⟨.inl, fun e => e.elim id fun e => absurd ⟨e.1, e.2.1⟩ hc⟩

theorem addTrans_trans {st st' : State} {X tgt : Nat} (h : addTrans g st X tgt = .ok st') {Y s' : Nat} :
    HasTrans g st' Y s' ↔ (Y = X ∧ s' = tgt) ∨ (HasTrans g st Y s' ∧ (Y = X → X < g.nterms)) := by
  unfold HasTrans
  rw [(addTrans_eq_ok h).cells, (addTrans_eq_ok h).gotos]
  by_cases hY : Y = X
  · subst hY
    by_cases hX : Y < g.nterms
    · have hX' : ¬g.nterms ≤ Y := Nat.not_le.mpr hX
      rw [if_pos ⟨hX, rfl⟩, if_neg (fun hc => hX' hc.1), List.mem_append, List.mem_singleton, Action.shift.injEq]
      constructor
      · rintro (⟨_, hm | e⟩ | ⟨hc, _⟩)
        · exact .inr ⟨.inl ⟨hX, hm⟩, fun _ => hX⟩
        · exact .inl ⟨rfl, e⟩
        · exact absurd hc hX'
      · rintro (⟨_, e⟩ | ⟨⟨_, hm⟩ | ⟨hc, _⟩, _⟩)
        · exact .inl ⟨hX, .inr e⟩
        · exact .inl ⟨hX, .inl hm⟩
        · exact absurd hc hX'
    · have hX' : g.nterms ≤ Y := Nat.le_of_not_lt hX
      rw [if_neg (fun hc => hX hc.1), if_pos ⟨hX', rfl⟩, Option.some.injEq]
      constructor
      · rintro (⟨hc, _⟩ | ⟨_, e⟩)
        · exact absurd hc hX
        · exact .inl ⟨rfl, e.symm⟩
      · rintro (⟨_, e⟩ | ⟨_, hc⟩)
        · exact .inr ⟨hX', e.symm⟩
        · exact absurd (hc rfl) hX
  · have hg : ¬(g.nterms ≤ X ∧ Y - g.nterms = X - g.nterms ∧ g.nterms ≤ Y) := fun hc => hY (eq_of_sub_eq hc.1 hc.2.2 hc.2.1)
    rw [if_neg (fun hc => hY hc.2)]
    constructor
    · rintro (hc | ⟨hYt, hm⟩)
      · exact .inr ⟨.inl hc, fun e => absurd e hY⟩
      · rw [if_neg (fun hc => hg ⟨hc.1, hc.2, hYt⟩)] at hm
        exact .inr ⟨.inr ⟨hYt, hm⟩, fun e => absurd e hY⟩
    · rintro (⟨e, _⟩ | ⟨hc | ⟨hYt, hm⟩, _⟩)
      · exact absurd e hY
      · exact .inl hc
      · exact .inr ⟨hYt, by rw [if_neg (fun hc => hg ⟨hc.1, hc.2, hYt⟩)]; exact hm⟩
theorem addTrans_ok {st : State} (ha : st.actions.size = g.nterms) (hgo : st.gotos.size = g.nnonterms)
    {X : Nat} (hX : X < g.nterms + g.nnonterms) (tgt : Nat) : ∃ st', addTrans g st X tgt = .ok st' := by
  unfold addTrans
  by_cases h : g.nterms ≤ X
  · rw [if_pos h, if_pos (by omega)]; exact ⟨_, rfl⟩
  · rw [if_neg h, if_pos (by omega)]; exact ⟨_, rfl⟩

/-- the first half of what the `for mut new_state in new_states` loop does with a successor `new`: it is merged into
    an equal state that accepts it, or pushed; `tgt` is where it is afterwards -/
inductive Placed (g : Grammar) (tt : String) (rn : Option (Array Nat)) (X : Nat) (new : List Item)
    (sts : Array State) : Nat → Array State → Prop where
  | merge {i : Nat} {st : State} {items' : List Item} (h1 : sts[i]? = some st)
      (h2 : mergeState g tt rn st.items new = .ok (some items')) : Placed g tt rn X new sts i (setItems sts i items')
  | push : Placed g tt rn X new sts sts.size (sts.push (freshState g X new))

inductive LinkStep (g : Grammar) (tt : String) (rn : Option (Array Nat)) (cur X : Nat) (new : List Item)
    (sts sts2 : Array State) : Prop where
  | mk {tgt : Nat} {sts1 : Array State} {stc stc' : State} (hp : Placed g tt rn X new sts tgt sts1)
      (hc : sts1[cur]? = some stc) (ha : addTrans g stc X tgt = .ok stc')
      (h2 : sts2 = sts1.setIfInBounds cur stc') : LinkStep g tt rn cur X new sts sts2

/-- the state `stc` when the successors `pre` have been entered in it and `rest` are still to come -/
structure Linked (g : Grammar) (items : List Item) (pre rest : List (Nat × List Item)) (sts : Array State)
    (stc : State) : Prop where
  cores : stc.items.map core = items.map core
  split : pre ++ rest = newStates g items
  done : ∀ e ∈ pre, ∃ s', HasTrans g stc e.1 s' ∧ ∃ st', sts[s']? = some st' ∧ ∀ n ∈ e.2, core n ∈ st'.items.map core
  cells : ∀ a, (∀ e ∈ pre, e.1 ≠ a) → stc.actions.getD a [] = []
  gotos : ∀ j, (∀ e ∈ pre, e.1 ≠ g.nterms + j) → stc.gotos.getD j none = none
  maxPrio : stc.maxPrio = maxPrioOf g items

theorem Linked.noTrans {items : List Item} {pre rest : List (Nat × List Item)} {e : Nat × List Item} {sts : Array State}
    {stc : State} (hD : Linked g items pre (e :: rest) sts stc) (j : Nat) : ¬HasTrans g stc e.1 j := by
  have hkeys := newStates_keys_ne hD.split
  rintro (⟨_, hm⟩ | ⟨hX, hm⟩)
  · rw [hD.cells e.1 hkeys] at hm; cases hm
  · rw [hD.gotos (e.1 - g.nterms) (fun e' he' => by rw [Nat.add_sub_cancel' hX]; exact hkeys e' he')] at hm; cases hm

section
variable {X tgt : Nat} {new : List Item} {sts sts1 : Array State}

theorem Placed.size_le (h : Placed g tt rn X new sts tgt sts1) : sts.size ≤ sts1.size := by
  cases h with
  | merge h1 h2 => rw [size_setItems]; exact Nat.le_refl _
  | push => rw [Array.size_push]; exact Nat.le_succ _

theorem Placed.keeps (h : Placed g tt rn X new sts tgt sts1) {j : Nat} {st : State} (hj : sts[j]? = some st) :
    ∃ st', sts1[j]? = some st' ∧ st'.actions = st.actions ∧ st'.gotos = st.gotos ∧ st'.maxPrio = st.maxPrio ∧
      Grown st.items st'.items := by
  cases h with
  | merge h1 h2 =>
    rw [getElem?_setItems, hj]
    by_cases h : tgt = j
    · rw [if_pos h]
      cases (h ▸ h1).symm.trans hj
      exact ⟨_, rfl, rfl, rfl, rfl, mergeState_grown h2⟩
    · rw [if_neg h]; exact ⟨_, rfl, rfl, rfl, rfl, Grown.refl _⟩
  | push => exact ⟨st, getElem?_push_of_some hj _, rfl, rfl, rfl, Grown.refl _⟩

theorem Placed.target (h : Placed g tt rn X new sts tgt sts1) (hdot : ∀ n ∈ new, n.dot ≠ 0) :
    ∃ stt, sts1[tgt]? = some stt ∧ (∀ it ∈ stt.items, it.dot ≠ 0 → core it ∈ new.map core) ∧
      ∀ n ∈ new, core n ∈ stt.items.map core := by
  cases h with
  | @merge _ st items' h1 h2 =>
    have hgr := mergeState_grown h2
    have heq := (mergeState_eq_some h2).1
    refine ⟨{ st with items := items' }, by rw [getElem?_setItems, if_pos rfl, h1]; rfl, ?_, ?_⟩
    · intro it hit hd
      obtain ⟨it0, b1, b2, _⟩ := hgr.back it hit
      rw [← b2]
      exact (stateEq_cores heq hdot).1 it0 b1 ((core_eq b2).2 ▸ hd)
    · intro n hn
      show core n ∈ items'.map core
      rw [hgr.cores]
      exact (stateEq_cores heq hdot).2 n hn
  | push =>
    exact ⟨_, by rw [Array.getElem?_push, if_pos rfl], fun it hit _ => List.mem_map_of_mem hit,
      fun n hn => List.mem_map_of_mem hn⟩

theorem Placed.origin (hp : Placed g tt rn X new sts tgt sts1) :
    (∀ (j : Nat) (stj : State), sts1[j]? = some stj → j ≠ tgt → sts[j]? = some stj) ∧
    ∀ stt, sts1[tgt]? = some stt → ∀ it' ∈ stt.items,
      (∃ old it, sts[tgt]? = some old ∧ it ∈ old.items ∧ core it = core it' ∧
        ∀ a ∈ it'.la, a ∈ it.la ∨ ∃ n ∈ new, core n = core it' ∧ a ∈ n.la) ∨ it' ∈ new := by
  cases hp with
  | @merge _ st items' h1 h2 =>
    obtain ⟨_, pairs, p2, rfl⟩ := mergeState_eq_some h2
    obtain ⟨f1, f2⟩ := itemPairs_fst p2
    refine ⟨fun j stj hj hji => by rwa [getElem?_setItems, if_neg (fun h => hji h.symm)] at hj, ?_⟩
    intro stt hstt it' hit'
    rw [getElem?_setItems, if_pos rfl, h1] at hstt
    cases hstt
    obtain ⟨it, i1, i2, i3⟩ := mergeItems_origin st.items pairs f1 it' hit'
    refine .inl ⟨st, it, h1, i1, i2, fun a ha => (i3 a ha).imp id fun ⟨p, q1, q2, q3⟩ => ?_⟩
    obtain ⟨g1, g2⟩ := f2 p q1
    exact ⟨p.2, g1, by rw [g2, q2, i2], q3⟩
  | push =>
    refine ⟨fun j stj hj hji => by rwa [Array.getElem?_push, if_neg hji] at hj, ?_⟩
    intro stt hstt it' hit'
    rw [Array.getElem?_push, if_pos rfl] at hstt
    cases hstt
    exact .inr hit'

end

/-- the entry is made in a state that has the ACTION / GOTO arrays it had -/
theorem linkOne_holds {F : Prop} {cur : Nat} {e : Nat × List Item} (hc : cur < sts.size)
    (hsafe : F ∨ ∃ stc, sts[cur]? = some stc ∧ stc.actions.size = g.nterms ∧ stc.gotos.size = g.nnonterms ∧
      e.1 < g.nterms + g.nnonterms) :
    (linkOne g tt rn cur sts e).Holds F (LinkStep g tt rn cur e.1 e.2 sts) := by
  obtain ⟨r, hr, hq⟩ := tryMerge_spec (g := g) tt rn sts e.2 (searchOrder sts.size cur)
  obtain ⟨tgt, sts1, hp, heq⟩ : ∃ tgt sts1, Placed g tt rn e.1 e.2 sts tgt sts1 ∧
      linkOne g tt rn cur sts e = linkTo g cur e.1 tgt sts1 := by
    cases r with
    | some p =>
      obtain ⟨st, items', m1, m2, h⟩ := hq p.1 p.2 rfl
      exact ⟨p.1, p.2, h ▸ .merge m1 m2, by rw [linkOne, hr]; rfl⟩
    | none => exact ⟨_, _, .push, by rw [linkOne, hr]; rfl⟩
  have hc1 : cur < sts1.size := Nat.lt_of_lt_of_le hc hp.size_le
  have h1 : sts1[cur]? = some sts1[cur] := Array.getElem?_eq_getElem hc1
  rw [heq, linkTo, h1]
  simp only
  rcases hsafe with hf | ⟨stc, e1, a, b, c⟩
  · cases ha : addTrans g sts1[cur] e.1 tgt with
    | ok st' => exact .ok (.mk hp h1 ha rfl)
    | fuel => exact .fuel
    | err s => exact hf
    | panic s => exact hf
  · obtain ⟨stc1, f1, f2, f3, _⟩ := hp.keeps e1
    cases h1.symm.trans f1
    obtain ⟨st', ha⟩ := addTrans_ok (g := g) (st := sts1[cur]) (f2 ▸ a) (f3 ▸ b) c tgt
    rw [ha]
    exact .ok (.mk hp h1 ha rfl)

theorem calcLoop_holds {F : Prop} {fuel : Nat} (J : Nat → Array State → Prop)
    (hstep : ∀ cur sts, J cur sts → cur < sts.size →
      (stepState g fs tt rn fuel cur sts).Holds F (J (cur + 1))) :
    ∀ (n cur : Nat) (sts : Array State), J cur sts →
      (calcLoop g fs tt rn fuel n cur sts).Holds F fun s' => ∃ cur', J cur' s' ∧ s'.size ≤ cur' := by
  intro n
  induction n with
  | zero =>
    intro cur sts hJ
    unfold calcLoop
    split
    · exact .fuel
    · rename_i hc; exact .ok ⟨cur, hJ, Nat.le_of_not_lt hc⟩
  | succ n ih =>
    intro cur sts hJ
    unfold calcLoop
    split
    · rename_i hc
      exact (hstep cur sts hJ hc).bind fun s1 _ h1 => ih (cur + 1) s1 h1
    · rename_i hc; exact .ok ⟨cur, hJ, Nat.le_of_not_lt hc⟩

end Rustemo.Table
