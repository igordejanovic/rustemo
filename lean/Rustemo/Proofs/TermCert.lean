import Rustemo.Model.CertTerm
import Rustemo.Proofs.TermSize
import Rustemo.Proofs.CertSound
/-!
`Cert.terminating g t = true` gives `GRank`, `SRank` and `Consts` for the values the certificate computed: only its final checks
are reasoned about, not the computations (fixpoints, relaxation) that found the values.
-/

namespace Rustemo
open CertTerm

def CertTerm.Data.U (d : Data) (p : Nat) : Prop := p ∈ d.used
def CertTerm.Data.nulP (d : Data) (x : Nat) : Prop := x ∈ d.nul
def CertTerm.Data.r (d : Data) (x : Nat) : Nat := d.rk.getD x 0
def CertTerm.Data.rnF (d : Data) (s : Nat) : Nat := d.rn.getD s 0

theorem forUsed_spec {g : Grammar} {used : List Nat} {f : Prod → Bool} (h : forUsed g used f = true)
    {p : Nat} {pr : Prod} (hp : p ∈ used) (hpr : g.prods[p]? = some pr) : f pr = true := by
  unfold forUsed at h
  rw [List.all_eq_true] at h
  have := h p hp
  rw [hpr] at this
  exact this

theorem mem_splits : ∀ (pre : List Nat) (acc : List Nat) (x : Nat) (post : List Nat),
    (acc ++ pre, x, post) ∈ splits acc (pre ++ x :: post)
  | [], acc, x, post => by simp [splits]
  | y :: pre, acc, x, post => by
    simp only [List.cons_append, splits, List.mem_cons]
    right
    have := mem_splits pre (acc ++ [y]) x post
    simpa using this

theorem ranksOk_spec {edges : List (Nat × Nat)} {rk : Array Nat} (h : ranksOk edges rk = true)
    {a b : Nat} (he : (a, b) ∈ edges) : rk.getD a 0 < rk.getD b 0 := by
  unfold ranksOk at h
  rw [List.all_eq_true] at h
  simpa using h (a, b) he

theorem getD_lt_of_all {a : Array Nat} {w : Nat} (h : (a.toList.all fun r => decide (r < w)) = true)
    (hw : 0 < w) (i : Nat) : a.getD i 0 < w := by
  by_cases h0 : a.getD i 0 = 0
  · rw [h0]; exact hw
  · exact of_decide_eq_true (List.all_eq_true.mp h _ (getD_mem_toList h0))

theorem mem_usedProds {t : Table} {state kind p len : Nat} {acts : List Action}
    (h : t.cell state kind = Action.reduce p len :: acts) : p ∈ usedProds t := by
  obtain ⟨st, hst, _⟩ := mem_cell (h ▸ List.mem_cons_self)
  rw [cell_eq hst] at h
  unfold usedProds
  simp only [List.mem_flatMap, List.mem_filterMap]
  exact ⟨st, List.mem_of_getElem? (l := t.states.toList) (i := state) (by simpa using hst),
    _, getD_mem_toList (by rw [h]; nofun), by rw [h]; rfl⟩

theorem data_sound (g : Grammar) (t : Table) (d : Data) (h : dataOk g t d = true) :
    GRank g d.U d.nulP d.r d.m d.w ∧ SRank g t d.nulP d.rnF d.wn := by
  unfold dataOk nulOk at h
  simp only [Bool.and_eq_true, decide_eq_true_eq] at h
  obtain ⟨⟨⟨⟨⟨⟨⟨⟨⟨hclosed, hnulnt⟩, hlhs⟩, hunit⟩, hgoto⟩, hlen⟩, hrk⟩, hw⟩, hrn⟩, hwn⟩ := h
  have hnulc : ∀ (l : List Nat), (l.all d.nul.contains = true) ↔ ∀ x ∈ l, x ∈ d.nul := by
    intro l; simp [List.all_eq_true]
  refine ⟨⟨?closed, ?nulNT, ?unit, ?rhsLen, ?lhsNT, ?rlt⟩, ⟨?dec, ?lt⟩⟩
  case closed =>
    intro p pr hp hpr hall
    have := forUsed_spec hclosed hp hpr
    simp only [Bool.or_eq_true, Bool.not_eq_true', List.contains_iff_mem] at this
    rcases this with h1 | h1
    · have h2 := (hnulc pr.rhs).mpr hall
      rw [h2] at h1; simp at h1
    · exact h1
  case nulNT =>
    intro x hx
    rw [List.all_eq_true] at hnulnt
    simpa using hnulnt x hx
  case unit =>
    intro p pr hp hpr pre x post hsplit hpre hpost hnt
    refine ranksOk_spec hunit (a := x) (b := pr.lhs) ?_
    unfold unitEdges prodsOf
    simp only [List.mem_flatMap, List.mem_filterMap]
    refine ⟨pr, ⟨p, hp, hpr⟩, (pre, x, post), ?_, ?_⟩
    · have := mem_splits pre [] x post
      rw [hsplit]; simpa using this
    · simp only
      rw [if_pos]
      simp only [Bool.and_eq_true, decide_eq_true_eq]
      exact ⟨⟨hnt, (hnulc pre).mpr hpre⟩, (hnulc post).mpr hpost⟩
  case rhsLen =>
    intro p pr hp hpr
    simpa using forUsed_spec hlen hp hpr
  case lhsNT =>
    intro p pr hp hpr
    simpa using forUsed_spec hlhs hp hpr
  case rlt =>
    intro x
    exact getD_lt_of_all hrk hw x
  case dec =>
    intro s X s' hX hgo
    obtain ⟨hnt, st, hst, hget⟩ := goto_eq_some hgo
    refine ranksOk_spec hgoto (a := s') (b := s) ?_
    unfold gotoEdges
    simp only [List.mem_flatMap, List.mem_range]
    have hs : s < t.states.size := lt_size_of_getElem? hst
    have hj : X - g.nterms < st.gotos.size := lt_size_of_getD_ne (by rw [hget]; nofun)
    refine ⟨s, hs, ?_⟩
    rw [hst]
    simp only [List.mem_filterMap, List.mem_range]
    refine ⟨X - g.nterms, hj, ?_⟩
    rw [hget]
    simp only
    have : g.nterms + (X - g.nterms) = X := by omega
    have hX' : X ∈ d.nul := hX
    rw [this, if_pos (by simpa using hX')]
  case lt =>
    intro s
    exact getD_lt_of_all hrn hwn s

theorem Cert.terminating_sound {g : Grammar} {t : Table} (h : Cert.terminating g t = true) :
    ∃ d : Data, Ranked g t d.U (epsBound d) (kBound d) d.wn ∧
      ∀ n, Cert.termBound g t n = maxSteps (epsBound d) (kBound d) d.wn n + 1 := by
  unfold Cert.terminating at h
  simp only [Bool.and_eq_true, beq_iff_eq] at h
  obtain ⟨hdata, hused⟩ := h
  obtain ⟨hg, hsr⟩ := data_sound g t _ hdata
  refine ⟨compute g t, ⟨fun state kind p len acts h => ?_, _, _, _, _, _, _, ⟨rfl, rfl, rfl⟩, hg, hsr⟩, fun n => ?_⟩
  · show p ∈ (compute g t).used
    rw [hused]; exact mem_usedProds h
  · unfold Cert.termBound boundOf maxSteps; rfl

end Rustemo
