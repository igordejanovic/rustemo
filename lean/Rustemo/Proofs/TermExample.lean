import Rustemo.Proofs.NextToken
import Rustemo.Props.ExampleTerm
/-!
F24: the parser model does not terminate on the cyclic grammar `S: A | Ta; A: S {15};`.  On input `a` the loop shifts `a`, sees
STOP at the end of the input and from then on only reduces, `S → Ta`, `A → S`, `S → A`, `A → S`, …: the stack is `[1, 0]`,
`[2, 0]`, `[3, 0]`, `[2, 0]`, …, the token ahead stays STOP and the position stays 1.  `Cyc` is that set of configurations;
every step leads from it into it, so no amount of fuel is enough.
-/
namespace Rustemo

theorem lexNext_at_end {env : Env} (hc : env.custom = none) (hsk : env.skipWs = true) (ctx : Ctx)
    (hend : ctx.pos.pos = env.input.length) (exp : List (Nat × Bool)) :
    lexNext env ctx exp = ({ ctx with lay := none }, tokenIter env ctx.pos exp) := by
  unfold lexNext skip
  rw [hc, hsk, hend, List.drop_length]
  rfl

theorem tokenIter_single (env : Env) (pos : Pos) (k : Nat) (fin : Bool) :
    tokenIter env pos [(k, fin)] =
      match env.recog k pos.pos with
      | some l => [mkTok env k pos l]
      | none => [] := by
  cases fin <;> rfl

theorem nextTokenMain_stop_at_end {env : Env} (hc : env.custom = none) (hsk : env.skipWs = true)
    (hrec : env.recog 0 env.input.length = some 0) (pp : Bool) (fuel : Nat) (ctx : Ctx) (fin : Bool)
    (hend : ctx.pos.pos = env.input.length) (hexp : env.t.sorted ctx.state = [(0, fin)]) :
    nextTokenMain env pp fuel ctx = ({ ctx with lay := none }, .ok (mkTok env 0 ctx.pos 0)) := by
  have hlx := lexNext_at_end hc hsk ctx hend (env.t.sorted ctx.state)
  rw [nextTokenMain_tok (tk := mkTok env 0 ctx.pos 0), hlx]
  rw [hlx, hexp, tokenIter_single, hend, hrec]
  cases env.longest <;> rfl

namespace ExampleTerm.F24

def Cyc (c : Cfg) : Prop :=
  (∃ s sp sp0, c.stack = [⟨s, sp⟩, ⟨0, sp0⟩] ∧ (s = 1 ∨ s = 2 ∨ s = 3)) ∧ c.res ≠ [] ∧
    c.tok.kind = 0 ∧ c.ctx.pos.pos = 1

theorem cyc_table {s : Nat} (hs : s = 1 ∨ s = 2 ∨ s = 3) :
    ∃ p pr s', t.cell s 0 = [.reduce p 1] ∧ g.prods[p]? = some pr ∧ t.goto g 0 pr.lhs = some s' ∧
      (s' = 2 ∨ s' = 3) ∧ t.sorted s' = [(0, false)] := by
  rcases hs with rfl | rfl | rfl
  · exact ⟨2, _, 2, rfl, rfl, rfl, .inl rfl, rfl⟩
  · exact ⟨3, _, 3, rfl, rfl, rfl, .inr rfl, rfl⟩
  · exact ⟨1, _, 2, rfl, rfl, rfl, .inl rfl, rfl⟩

theorem Cyc.step (pp : Bool) (fuel : Nat) {c : Cfg} (h : Cyc c) :
    ∃ c', step env (nextTokenMain env pp fuel) c = .next c' ∧ Cyc c' := by
  obtain ⟨stack, res, slice, ctx, tok, hist⟩ := c
  obtain ⟨⟨s, sp, sp0, rfl, hs⟩, hres, hk, hp⟩ := h
  obtain ⟨p, pr, s', hcell, hpr, hgoto, hs', hexp⟩ := cyc_table hs
  have hnt := nextTokenMain_stop_at_end (env := env) rfl rfl rfl pp fuel ⟨s', ctx.pos, ctx.span, ctx.lay⟩ false
    hp hexp
  exact ⟨_, StepNext.step_eq (.reduce p 1 s' pr _ _ ⟨s, 0, [], rfl, (congrArg (t.cell s) hk).trans hcell,
      Nat.le_succ 1, rfl, hpr, hgoto⟩ (List.length_pos_iff.mpr hres) hnt rfl),
    ⟨s', _, sp0, rfl, .inr hs'⟩, List.cons_ne_nil _ _, rfl, hp⟩

/-- **The parser model hangs on the cyclic grammar**: it is still running when its fuel is used up,
    however much that was. -/
theorem parse_hangs (pp : Bool) (fuel : Nat) : (parse env pp fuel).2 = .fuel := by
  cases fuel with
  | zero => rfl
  | succ n =>
    -- the first iteration shifts `a` and finds STOP
    have h1 : ∃ c, parse env pp (n + 1) = runLoop env (nextTokenMain env pp (n + 1)) n c ∧ Cyc c :=
      ⟨_, rfl, ⟨1, _, _, rfl, .inl rfl⟩, List.cons_ne_nil _ _, rfl, rfl⟩
    obtain ⟨c, hrun, hc⟩ := h1
    rw [hrun]
    exact runLoop_fuel_of_inv env _ Cyc (fun _ => Cyc.step pp (n + 1)) n c hc

end ExampleTerm.F24

end Rustemo
