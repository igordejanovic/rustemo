import Rustemo.Proofs.TermCert
import Rustemo.Proofs.StringLexer
import Rustemo.Proofs.LRSound
/-!
C15: `LRParser::parse` terminates.  `c.steps` = tokens shifted + nodes of the trees on the result stack = iterations of the loop
made so far (a shift adds a token, a reduction a node).  Under `TermInv` (every shifted token advanced the position by at least
one byte) `stack_bound` bounds `c.steps` by `maxSteps`, a function of the input length: with more fuel than that the loop does not
run out, provided `next_token` never does (`NtTerm`).  The string lexer meets `NtTerm` in two steps: `nextTokenBase` directly, so the
layout parser does not run out of fuel (`parseWith_no_fuel` on the layout automaton), hence `nextTokenMain`.
-/

namespace Rustemo

theorem nodes_ofList (l : List Tree) : (TreeList.ofList l).nodes = resNodes l := by
  induction l with
  | nil => simp [TreeList.ofList, TreeList.nodes, resNodes]
  | cons t ts ih => simp [TreeList.ofList, TreeList.nodes, resNodes] at ih ⊢; omega

def NonEmptyTokens (env : Env) : Prop := ∀ k p l, env.recog k p = some l → k ≠ 0 → 1 ≤ l

structure NtTerm (env : Env) (nt : Ctx → Ctx × Outcome Tok) : Prop where
  ok : NtOk env nt
  nofuel : ∀ ctx, CtxOk env.input ctx → (nt ctx).2 ≠ .fuel

structure TermInv (env : Env) (U : Nat → Prop) (start : Nat) (c : Cfg) : Prop where
  cert : CertInv env start c
  sinv : SInv env c
  uses : ∀ t ∈ c.res, t.Uses U
  pos : c.hist.length ≤ c.ctx.pos.pos

def Cfg.steps (c : Cfg) : Nat := c.hist.length + resNodes c.res

section
variable {E K Wn : Nat}

theorem tinv_bound (env : Env) (U : Nat → Prop) (hrk : Ranked env.g env.t U E K Wn) (start : Nat) (c : Cfg)
    (hinv : TermInv env U start c) : c.steps ≤ maxSteps E K Wn env.input.length := by
  obtain ⟨m, W, C, nul, r, rn, hc, hg, hsr⟩ := hrk.ranks
  have hres : (absStack c).map Prod.snd = c.res :=
    List.map_snd_zip (by rw [List.length_map, hinv.cert.1.len]; exact Nat.le_succ _)
  have hY : (yields (absStack c)).length = c.hist.length := by
    rw [show yields (absStack c) = _ from hinv.cert.2.yld]; simp [Cfg.abs]
  have hn : c.hist.length ≤ env.input.length :=
    Nat.le_trans hinv.pos hinv.sinv.ctx.1.2
  have hb := stack_bound hc hg hsr start (absStack c) hinv.cert.2.path (hres ▸ hinv.uses)
  rw [hres, hY] at hb
  calc c.steps ≤ c.hist.length + ((c.hist.length + 1) * (Wn * E) + 2 * c.hist.length * K) :=
        Nat.add_le_add_left (Nat.le_trans (Nat.le_add_right _ _) hb) _
    _ ≤ env.input.length + ((env.input.length + 1) * (Wn * E) + 2 * env.input.length * K) :=
        Nat.add_le_add hn (Nat.add_le_add (Nat.mul_le_mul_right _ (Nat.succ_le_succ hn))
          (Nat.mul_le_mul_right _ (Nat.mul_le_mul_left _ hn)))
    _ = maxSteps E K Wn env.input.length := by rw [maxSteps, Nat.mul_assoc _ Wn E, Nat.add_assoc]

variable (env : Env) (U : Nat → Prop) (nt : Ctx → Ctx × Outcome Tok) {autos : List Auto}
  (hs : Structural env.g env.t autos) {au : Auto} (hin : au ∈ autos) (hns : NoShiftStop env.t)
  (hrk : Ranked env.g env.t U E K Wn) (hnt : NtTerm env nt) (hne : NonEmptyTokens env)
include hs hin hns hrk hnt hne

theorem step_tinv (c c' : Cfg) (hinv : TermInv env U au.start c) (hstep : step env nt c = .next c') :
    TermInv env U au.start c' ∧ c'.steps = c.steps + 1 := by
  have hcert := step_certInv env nt hs hin c c' hinv.cert hstep
  have hs' := step_spans env nt c c' hnt.ok hns hinv.sinv hstep
  have hpos := hinv.pos
  cases step_eq_next env nt c c' hstep with
  | shift state s' acts ctx1 tk htop hcell hnt1 hc'' =>
    have hsh := hinv.sinv.shiftAt hns hcell
    have hnp := hsh.pos_pos
    have hmono := (hnt.ok.fwd hsh.ctxOk hnt1).le
    have hne1 := hne _ _ _ hsh.tokAt.2.2.2 hsh.kind
    subst hc''
    refine ⟨⟨hcert, hs', ?_, ?_⟩, ?_⟩
    · exact res_all_shift hinv.uses trivial
    · simp only [List.length_cons]; omega
    · simp only [Cfg.steps, List.length_cons, resNodes, List.map_cons, List.sum_cons, shiftLeaf, Tree.nodes]
      omega
  | reduce p len s' pr ctx1 tk hr hrlen hnt1 hc'' =>
    obtain ⟨_, _, _, _, hcell, _⟩ := hr
    have hmono : c.ctx.pos.pos ≤ ctx1.pos.pos :=
      (hnt.ok.fwd (ctxOk_reduceCtx hinv.sinv s') hnt1).le
    subst hc''
    refine ⟨⟨hcert, hs', ?_, Nat.le_trans hpos hmono⟩, ?_⟩
    · exact res_all_reduce hinv.uses ⟨hrk.used _ _ _ _ _ hcell, TreeList.ofList_all (PL := TreeList.Uses U) trivial
        (fun _ _ => And.intro) _ (kids_all hinv.uses len)⟩
    · have h1 : resNodes (c.res.take len).reverse + resNodes (c.res.drop len) = resNodes c.res := by
        simp only [resNodes, List.map_reverse, List.sum_reverse, ← List.sum_append, ← List.map_append,
          List.take_append_drop]
      simp only [Cfg.steps, resNodes, List.map_cons, List.sum_cons, reduceNode, Tree.nodes, nodes_ofList]
      simp only [resNodes] at h1
      omega

theorem runLoop_no_fuel (fuel : Nat) (c : Cfg) (hinv : TermInv env U au.start c)
    (hlt : maxSteps E K Wn env.input.length < c.steps + fuel) : (runLoop env nt fuel c).2 ≠ .fuel := by
  intro hf
  generalize hres : runLoop env nt fuel c = res at hf
  obtain ⟨ctx, o⟩ := res
  obtain rfl : o = .fuel := hf
  obtain ⟨n, c', ⟨hinv', hlt'⟩, hend⟩ := runLoop_invN env nt
    (fun n c => TermInv env U au.start c ∧ maxSteps E K Wn env.input.length < c.steps + n)
    (fun n c c' hc hstep => by
      obtain ⟨hinv', hM⟩ := step_tinv env U nt hs hin hns hrk hnt hne c c' hc.1 hstep
      exact ⟨hinv', by have := hc.2; omega⟩)
    fuel c ⟨hinv, hlt⟩ hres
  have lexer : ∀ (cx : Ctx) (o' : Outcome Tok), CtxOk env.input cx → nt cx = (ctx, o') →
      ¬ o'.FailsAs (.fuel : Outcome ParseResult) := fun cx o' hcx hnt1 hf =>
    hf.ne_fuel (by have := hnt.nofuel cx hcx; rwa [hnt1] at this) rfl
  cases hend with
  | fuel =>
    -- out of fuel with none left: the measure is above its bound
    have := tinv_bound env U hrk au.start c' hinv'
    omega
  | stop h =>
    cases step_eq_stop env nt c' _ _ h with
    | panic site _ ho => cases ho
    | noAction state htop hcell _ ho => cases ho
    | shift state s' acts o' htop hcell hnt1 hf => exact lexer _ o' (hinv'.sinv.shiftAt hns hcell).ctxOk hnt1 hf
    | reduce p len s' pr o' hr hnt1 hf => exact lexer (reduceCtx c' s') o' hinv'.sinv.ctx hnt1 hf

theorem parseWith_no_fuel (ctx0 : Ctx) (h0 : CtxOk env.input ctx0) (fuel : Nat)
    (hfuel : maxSteps E K Wn env.input.length < fuel) : (parseWith env nt au.start ctx0 fuel).2 ≠ .fuel := by
  intro hf
  rcases parseWith_eq_cases (o := .fuel) (Prod.ext rfl hf) with ⟨ctx1, tk, hnt1, hrun⟩ | ⟨o', hnt1, hfail⟩
  · refine runLoop_no_fuel env U nt hs hin hns hrk hnt hne fuel _
      ⟨certInv_init env au.start _ ctx1 tk, sinv_init au.start (hnt.ok.ctxOk h0 hnt1) (hnt.ok.tokOk h0 hnt1),
        by simp, Nat.zero_le _⟩ ?_ (by rw [hrun])
    simp only [Cfg.steps, List.length_nil, resNodes, List.map_nil, List.sum_nil]
    omega
  · exact hfail.ne_fuel (by have := hnt.nofuel ctx0 h0; rwa [hnt1] at this) rfl

end

section

open CertTerm

theorem ntTerm_base (env : Env) (hc : env.custom = none) (hr : RecogOk env) (pp : Bool) :
    NtTerm env (nextTokenBase env pp) :=
  ⟨ntOk_base env hc hr pp, fun ctx _ => ntBase_no_fuel env pp ctx⟩

theorem ntTerm_main (env : Env) (he : StringEnv env) (pp : Bool) (fuel : Nat)
    (hlay : ∀ ls ctx, env.t.layoutState = some ls → CtxOk env.input ctx →
      (layoutParse env ls ctx fuel).2 ≠ .fuel) :
    NtTerm env (nextTokenMain env pp fuel) := by
  refine ⟨ntOk_main env he pp fuel, ?_⟩
  · intro ctx hctx hf
    generalize hnm : nextTokenMain env pp fuel ctx = res at hf
    obtain ⟨ctx', o⟩ := res
    dsimp only at hf
    subst hf
    cases nextTokenMain_eq_cases hnm with
    | noLayout _ _ _ hn _ => exact noToken_no_fuel env pp _ (congrArg Prod.snd hn)
    | skipped _ _ _ _ _ _ _ _ _ _ _ hn _ => exact ntBase_no_fuel env pp _ (congrArg Prod.snd hn)
    | back _ _ _ _ _ _ _ hn => exact noToken_no_fuel env pp _ (congrArg Prod.snd hn)
    | layFail ls cx r _ hl hlp hf _ =>
      have := hlay ls _ hl (lexNext_ok env he.custom he.recog ctx (env.t.sorted ctx.state) hctx).1
      rw [hlp] at this
      exact hf.ne_fuel this rfl

/-- **Termination of `LRParser::parse`** (string lexer, whitespace skipping or Layout rule, partial
    parsing on or off): with at least `Cert.termBound g t |input|` fuel the model never answers `.fuel`. -/
theorem parse_terminates (env : Env) (he : StringEnv env) (hne : NonEmptyTokens env)
    (hs : Structural env.g env.t (autosOf env.g env.t))
    (hlayAuto : ∀ ls, env.t.layoutState = some ls → ∃ au ∈ autosOf env.g env.t, au.start = ls)
    (hterm : Cert.terminating env.g env.t = true) (pp : Bool) (fuel : Nat)
    (hfuel : Cert.termBound env.g env.t env.input.length ≤ fuel) :
    (parse env pp fuel).2 ≠ .fuel := by
  obtain ⟨d, hrk, hb⟩ := Cert.terminating_sound hterm
  have hns := he.noShiftStop
  have hM : maxSteps (epsBound d) (kBound d) d.wn env.input.length < fuel := by
    have := hb env.input.length
    omega
  have hlay : ∀ ls ctx, env.t.layoutState = some ls → CtxOk env.input ctx →
      (layoutParse env ls ctx fuel).2 ≠ .fuel := by
    intro ls ctx hls hctx
    obtain ⟨au, hin, hst⟩ := hlayAuto ls hls
    rw [layoutParse_eq]
    subst hst
    exact parseWith_no_fuel env d.U _ hs hin hns hrk
      (ntTerm_base env he.custom he.recog true) hne { ctx with state := au.start } hctx fuel hM
  unfold parse
  exact parseWith_no_fuel env d.U _ hs (mem_autosOf_main _ _) hns hrk
    (ntTerm_main env he pp fuel hlay) hne {} (ctxOk_start env.input) fuel hM

end

end Rustemo
