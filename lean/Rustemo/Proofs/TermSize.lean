import Rustemo.Model.Basic
import Rustemo.Proofs.CoreSound
/-!
C15: derivation trees of a cycle-free grammar, and the trees on the parse stack, are small.  `GRank`: a set `nul` of nullable
nonterminals closed under the productions `U` the parser can use, a ranking `r < W` of the symbols that decreases along unit
derivations (`A → α X β`, `α β` nullable ⇒ `r X < r A`), right-hand sides no longer than `m`.  A `U`-tree with empty yield has at
most `E = (m+1)^W` nodes; one with `y ≥ 1` tokens and root `X` at most `2·(y−1)·K + C·(r X + 1) ≤ (2y−1)·K` (`C = 1 + m·E`,
`K = C·W`): a node with two or more children that have tokens splits the yield, a node with exactly one is a step down `r`.

`stack_bound`: with a ranking `rn < Wn` of the states that decreases along every goto on a nullable nonterminal (`SRank`), the
trees on a `PathInv` stack have at most `(Y + 1)·Wn·E + 2·Y·K` nodes together, `Y` the number of tokens shifted: an entry
without tokens has at most `E` nodes and is a step down `rn`; one with `y` tokens has at most `2y·K` and starts `rn` again
below `Wn`.
-/

namespace Rustemo

mutual
/-- number of nonterminal nodes (= reductions that built the tree) -/
def Tree.nodes : Tree → Nat
  | .leaf _ _ _ _ => 0
  | .node _ _ _ cs => 1 + TreeList.nodes cs
def TreeList.nodes : TreeList → Nat
  | .nil => 0
  | .cons t ts => Tree.nodes t + TreeList.nodes ts
end

mutual
def Tree.Uses (U : Nat → Prop) : Tree → Prop
  | .leaf _ _ _ _ => True
  | .node p _ _ cs => U p ∧ TreeList.Uses U cs
def TreeList.Uses (U : Nat → Prop) : TreeList → Prop
  | .nil => True
  | .cons t ts => Tree.Uses U t ∧ TreeList.Uses U ts
end

def TreeList.eps : TreeList → Nat
  | .nil => 0
  | .cons t ts => (if t.yield = [] then 1 else 0) + ts.eps

def TreeList.full : TreeList → Nat
  | .nil => 0
  | .cons t ts => (if t.yield = [] then 0 else 1) + ts.full

def TreeList.gsum : TreeList → Nat
  | .nil => 0
  | .cons t ts => (if t.yield = [] then 0 else 2 * t.yield.length - 1) + ts.gsum

def TreeList.len : TreeList → Nat
  | .nil => 0
  | .cons _ ts => 1 + ts.len

structure GRank (g : Grammar) (U : Nat → Prop) (nul : Nat → Prop) (r : Nat → Nat) (m W : Nat) : Prop where
  closed : ∀ p pr, U p → g.prods[p]? = some pr → (∀ x ∈ pr.rhs, nul x) → nul pr.lhs
  nulNT : ∀ x, nul x → g.nterms ≤ x
  unit : ∀ p pr, U p → g.prods[p]? = some pr → ∀ pre x post, pr.rhs = pre ++ x :: post →
    (∀ y ∈ pre, nul y) → (∀ y ∈ post, nul y) → g.nterms ≤ x → r x < r pr.lhs
  rhsLen : ∀ p pr, U p → g.prods[p]? = some pr → pr.rhs.length ≤ m
  lhsNT : ∀ p pr, U p → g.prods[p]? = some pr → g.nterms ≤ pr.lhs
  rlt : ∀ x, r x < W

theorem TreeList.len_valid (g : Grammar) : ∀ (cs : TreeList) (Xs : List Nat), cs.Valid g Xs → cs.len = Xs.length
  | .nil, Xs, h => by simp only [TreeList.Valid] at h; subst h; rfl
  | .cons t ts, Xs, h => by
    obtain ⟨X, Xs', rfl, _, hts⟩ := h
    simp only [TreeList.len, List.length_cons, TreeList.len_valid g ts Xs' hts]
    omega

theorem TreeList.eps_le_len : ∀ (cs : TreeList), cs.eps ≤ cs.len
  | .nil => Nat.le_refl _
  | .cons t ts => by
    have := TreeList.eps_le_len ts
    simp only [TreeList.eps, TreeList.len]
    split <;> omega

theorem TreeList.gsum_le : ∀ (cs : TreeList), cs.gsum ≤ 2 * cs.yield.length - 1
  | .nil => Nat.le_refl _
  | .cons t ts => by
    have := TreeList.gsum_le ts
    simp only [TreeList.gsum, TreeList.yield, List.length_append]
    split
    · rename_i h; rw [h]; simp only [List.length_nil]; omega
    · rename_i h
      have : 0 < t.yield.length := List.length_pos_iff.mpr h
      omega

section
variable {g : Grammar} {U : Nat → Prop} {nul : Nat → Prop} {r : Nat → Nat} {m W : Nat}

mutual
theorem Tree.eps_root (hg : GRank g U nul r m W) : ∀ (t : Tree) (X : Nat), t.Valid g X → t.Uses U →
    t.yield = [] → nul X
  | .leaf a _ _ _, X, _, _, hy => by simp [Tree.yield] at hy
  | .node p _ _ cs, X, hv, hu, hy => by
    obtain ⟨pr, hpr, hl, hcs⟩ := hv
    rw [← hl]
    exact hg.closed p pr hu.1 hpr (TreeList.eps_root hg cs pr.rhs hcs hu.2 hy)
theorem TreeList.eps_root (hg : GRank g U nul r m W) : ∀ (cs : TreeList) (Xs : List Nat), cs.Valid g Xs →
    cs.Uses U → cs.yield = [] → ∀ x ∈ Xs, nul x
  | .nil, Xs, hv, _, _ => by simp only [TreeList.Valid] at hv; subst hv; simp
  | .cons t ts, Xs, hv, hu, hy => by
    obtain ⟨X, Xs', rfl, ht, hts⟩ := hv
    simp only [TreeList.yield, List.append_eq_nil_iff] at hy
    intro x hx
    rcases List.mem_cons.mp hx with h | h
    · subst h; exact Tree.eps_root hg t x ht hu.1 hy.1
    · exact TreeList.eps_root hg ts Xs' hts hu.2 hy.2 x h
end

theorem GRank.all_below (hg : GRank g U nul r m W) (p : Nat) (pr : Prod) (hu : U p)
    (hpr : g.prods[p]? = some pr) (hn : ∀ x ∈ pr.rhs, nul x) : ∀ x ∈ pr.rhs, r x < r pr.lhs := by
  intro x hx
  obtain ⟨pre, post, hsplit⟩ := List.append_of_mem hx
  refine hg.unit p pr hu hpr pre x post hsplit ?_ ?_ (hg.nulNT x (hn x hx))
  · intro y hy; exact hn y (by rw [hsplit]; simp [hy])
  · intro y hy; exact hn y (by rw [hsplit]; simp [hy])

theorem pow_step (m k : Nat) : 1 + m * (m + 1) ^ k ≤ (m + 1) ^ (k + 1) := by
  rw [Nat.pow_succ, Nat.mul_comm ((m + 1) ^ k) (m + 1), Nat.add_mul, Nat.one_mul]
  have : 1 ≤ (m + 1) ^ k := Nat.one_le_pow _ _ (by omega)
  omega

mutual
theorem Tree.eps_size (hg : GRank g U nul r m W) : ∀ (t : Tree) (X : Nat), t.Valid g X → t.Uses U →
    t.yield = [] → t.nodes ≤ (m + 1) ^ (r X)
  | .leaf a _ _ _, X, _, _, hy => by simp [Tree.yield] at hy
  | .node p _ _ cs, X, hv, hu, hy => by
    obtain ⟨pr, hpr, hl, hcs⟩ := hv
    have hy' : cs.yield = [] := hy
    have hnul := TreeList.eps_root hg cs pr.rhs hcs hu.2 hy'
    have hbelow := hg.all_below p pr hu.1 hpr hnul
    have hlen := TreeList.len_valid g cs pr.rhs hcs
    have hm := hg.rhsLen p pr hu.1 hpr
    simp only [Tree.nodes]
    rw [← hl]
    cases hk : r pr.lhs with
    | zero =>
      have : pr.rhs = [] := by
        cases hrhs : pr.rhs with
        | nil => rfl
        | cons x xs => have := hbelow x (by rw [hrhs]; simp); omega
      rw [this] at hcs
      cases cs with
      | nil => simp [TreeList.nodes]
      | cons t ts => simp [TreeList.Valid] at hcs
    | succ k =>
      have hsz := TreeList.eps_size hg cs pr.rhs k hcs hu.2 hy' (fun x hx => by have := hbelow x hx; omega)
      have h1 : cs.len * (m + 1) ^ k ≤ m * (m + 1) ^ k := Nat.mul_le_mul_right _ (hlen ▸ hm)
      exact Nat.le_trans (Nat.add_le_add_left (Nat.le_trans hsz h1) 1) (pow_step m k)
theorem TreeList.eps_size (hg : GRank g U nul r m W) : ∀ (cs : TreeList) (Xs : List Nat) (k : Nat),
    cs.Valid g Xs → cs.Uses U → cs.yield = [] → (∀ x ∈ Xs, r x ≤ k) → cs.nodes ≤ cs.len * (m + 1) ^ k
  | .nil, _, _, _, _, _, _ => by simp [TreeList.nodes]
  | .cons t ts, Xs, k, hv, hu, hy, hr => by
    obtain ⟨X, Xs', rfl, ht, hts⟩ := hv
    simp only [TreeList.yield, List.append_eq_nil_iff] at hy
    have h1 := Tree.eps_size hg t X ht hu.1 hy.1
    have h2 := TreeList.eps_size hg ts Xs' k hts hu.2 hy.2 (fun x hx => hr x (by simp [hx]))
    have h3 : (m + 1) ^ (r X) ≤ (m + 1) ^ k := Nat.pow_le_pow_right (Nat.succ_pos m) (hr X (by simp))
    simp only [TreeList.nodes, TreeList.len]
    rw [Nat.add_mul, Nat.one_mul]
    exact Nat.add_le_add (Nat.le_trans h1 h3) h2
end

structure Consts (m W E C K : Nat) : Prop where
  hE : E = (m + 1) ^ W
  hC : C = 1 + m * E
  hK : K = C * W

theorem Consts.eps_le {m W E C K : Nat} (hc : Consts m W E C K) (hg : GRank g U nul r m W)
    (t : Tree) (X : Nat) (hv : t.Valid g X) (hu : t.Uses U) (hy : t.yield = []) : t.nodes ≤ E :=
  hc.hE ▸ Nat.le_trans (Tree.eps_size hg t X hv hu hy)
    (Nat.pow_le_pow_right (Nat.succ_pos m) (Nat.le_of_lt (hg.rlt X)))

theorem Consts.rank_le {m W E C K : Nat} (hc : Consts m W E C K) (hg : GRank g U nul r m W) (X : Nat) :
    C * (r X + 1) ≤ K := by
  rw [hc.hK]; exact Nat.mul_le_mul_left _ (hg.rlt X)

mutual
theorem Tree.size_bound {m W E C K : Nat} (hc : Consts m W E C K) (hg : GRank g U nul r m W) :
    ∀ (t : Tree) (X : Nat), t.Valid g X → t.Uses U → ∀ y, t.yield.length = y + 1 →
      t.nodes ≤ 2 * y * K + C * (r X + 1)
  | .leaf a _ _ _, X, _, _, y, _ => by simp [Tree.nodes]
  | .node p _ _ cs, X, hv, hu, y, hy => by
    obtain ⟨pr, hpr, hl, hcs⟩ := hv
    have hcsb := TreeList.size_bound hc hg cs pr.rhs p pr [] hu.1 hpr rfl (fun _ h => nomatch h) hcs hu.2 y hy
    -- at most `m` children, so the ones without tokens have at most `m·E = C − 1` nodes
    have he : cs.eps * E ≤ m * E := Nat.mul_le_mul_right _ (Nat.le_trans cs.eps_le_len
      (TreeList.len_valid g cs pr.rhs hcs ▸ hg.rhsLen p pr hu.1 hpr))
    have hC := hc.hC
    have hCr : C * (r pr.lhs + 1) = C * r pr.lhs + C := Nat.mul_succ _ _
    simp only [Tree.nodes]
    rw [← hl]
    omega
/-- children, generously: every child with `yᵢ` tokens is charged `(2yᵢ − 1)·K` -/
theorem TreeList.gen_bound {m W E C K : Nat} (hc : Consts m W E C K) (hg : GRank g U nul r m W) :
    ∀ (cs : TreeList) (Xs : List Nat), cs.Valid g Xs → cs.Uses U → cs.nodes ≤ cs.eps * E + cs.gsum * K
  | .nil, _, _, _ => by simp [TreeList.nodes]
  | .cons t ts, Xs, hv, hu => by
    obtain ⟨X, Xs', rfl, ht, hts⟩ := hv
    have h2 := TreeList.gen_bound hc hg ts Xs' hts hu.2
    simp only [TreeList.nodes, TreeList.eps, TreeList.gsum]
    split
    · rename_i hy
      have h1 := hc.eps_le hg t X ht hu.1 hy
      rw [Nat.add_mul, Nat.one_mul, Nat.zero_add, Nat.add_assoc]
      exact Nat.add_le_add h1 h2
    · rename_i hy
      obtain ⟨y, hyy⟩ := Nat.exists_eq_succ_of_ne_zero (mt List.length_eq_zero_iff.mp hy)
      have h1 := Tree.size_bound hc hg t X ht hu.1 y hyy
      have h3 := hc.rank_le hg X
      have h4 : (2 * t.yield.length - 1) * K = 2 * y * K + K := by
        rw [hyy, show 2 * (y + 1) - 1 = 2 * y + 1 from rfl, Nat.add_mul, Nat.one_mul]
      rw [Nat.add_mul (2 * t.yield.length - 1) ts.gsum K, h4, Nat.zero_add]
      omega
/-- children with `y + 1` tokens, seen from inside the production `pr = pre ++ Xs` whose symbols before `Xs` are
    nullable: when only one child has tokens it ranks below the left-hand side; otherwise the yield splits and
    the generous charge is enough -/
theorem TreeList.size_bound {m W E C K : Nat} (hc : Consts m W E C K) (hg : GRank g U nul r m W) :
    ∀ (cs : TreeList) (Xs : List Nat) (p : Nat) (pr : Prod) (pre : List Nat), U p → g.prods[p]? = some pr →
      pr.rhs = pre ++ Xs → (∀ x ∈ pre, nul x) → cs.Valid g Xs → cs.Uses U →
      ∀ y, cs.yield.length = y + 1 → cs.nodes ≤ cs.eps * E + 2 * y * K + C * r pr.lhs
  | .nil, _, _, _, _, _, _, _, _, _, _, _, hy => by simp [TreeList.yield] at hy
  | .cons t ts, Xs, p, pr, pre, hup, hpr, hsplit, hpre, hv, hu, y, hy => by
    obtain ⟨X, Xs', rfl, ht, hts⟩ := hv
    simp only [TreeList.yield, List.length_append] at hy
    simp only [TreeList.nodes, TreeList.eps]
    by_cases hty : t.yield = []
    · have hX := Tree.eps_root hg t X ht hu.1 hty
      have h1 := hc.eps_le hg t X ht hu.1 hty
      have h2 := TreeList.size_bound hc hg ts Xs' p pr (pre ++ [X]) hup hpr (by rw [hsplit]; simp)
        (by
          intro x hx
          rcases List.mem_append.mp hx with h | h
          · exact hpre x h
          · simp at h; subst h; exact hX)
        hts hu.2 y (by rw [hty] at hy; simpa using hy)
      rw [if_pos hty, Nat.add_mul, Nat.one_mul, Nat.add_assoc, Nat.add_assoc]
      rw [Nat.add_assoc] at h2
      exact Nat.add_le_add h1 h2
    · -- the first child with tokens; the rest is charged generously
      obtain ⟨a, hta⟩ := Nat.exists_eq_succ_of_ne_zero (mt List.length_eq_zero_iff.mp hty)
      have h1 := Tree.size_bound hc hg t X ht hu.1 a hta
      have h2 := TreeList.gen_bound hc hg ts Xs' hts hu.2
      have hgs := Nat.mul_le_mul_right K ts.gsum_le
      rw [if_neg hty, Nat.zero_add]
      by_cases hry : ts.yield = []
      · -- the rest has none: a terminal leaf has no nodes, a nonterminal ranks below the left-hand side
        rw [hry, List.length_nil, Nat.zero_mul] at hgs
        rw [hry, List.length_nil, Nat.add_zero, hta] at hy
        cases Nat.succ.inj hy
        rcases Nat.lt_or_ge X g.nterms with hterm | hnt
        · cases t with
          | leaf a sp v l => simp only [Tree.nodes]; omega
          | node q sp l cs' =>
            -- the root of a node is the left-hand side of a used production: a nonterminal
            exfalso
            obtain ⟨pr', hpr', hl', _⟩ := ht
            have := hg.lhsNT q pr' hu.1.1 hpr'
            omega
        · have hrank := hg.unit p pr hup hpr pre X Xs' hsplit hpre
            (TreeList.eps_root hg ts Xs' hts hu.2 hry) hnt
          have h3 : C * (r X + 1) ≤ C * r pr.lhs := Nat.mul_le_mul_left _ hrank
          omega
      · obtain ⟨b, htb⟩ := Nat.exists_eq_succ_of_ne_zero (mt List.length_eq_zero_iff.mp hry)
        have h3 := hc.rank_le hg X
        rw [htb, show 2 * (b + 1) - 1 = 2 * b + 1 from rfl, Nat.add_mul, Nat.one_mul] at hgs
        rw [hta, htb] at hy
        have hyy : y = a + b + 1 := by omega
        rw [hyy, Nat.mul_add 2 (a + b) 1, Nat.mul_add 2 a b, Nat.add_mul _ _ K, Nat.add_mul _ _ K]
        omega
end

theorem TreeList.one_bound {m W E C K : Nat} (hc : Consts m W E C K) (hg : GRank g U nul r m W) :
    ∀ (cs : TreeList) (Xs : List Nat) (p : Nat) (pr : Prod) (pre : List Nat), U p → g.prods[p]? = some pr →
      pr.rhs = pre ++ Xs → (∀ x ∈ pre, nul x) → cs.Valid g Xs → cs.Uses U → cs.full = 1 →
      ∀ y, cs.yield.length = y + 1 → cs.nodes ≤ cs.eps * E + 2 * y * K + C * r pr.lhs :=
  fun cs Xs p pr pre hup hpr hsplit hpre hv hu _ => TreeList.size_bound hc hg cs Xs p pr pre hup hpr hsplit hpre hv hu

theorem Consts.full_le {E C K : Nat} (hc : Consts m W E C K) (hg : GRank g U nul r m W) (t : Tree) (X : Nat)
    (hv : t.Valid g X) (hu : t.Uses U) (hy : t.yield ≠ []) : t.nodes ≤ 2 * t.yield.length * K := by
  obtain ⟨y, hyy⟩ := Nat.exists_eq_succ_of_ne_zero (mt List.length_eq_zero_iff.mp hy)
  have h1 := Tree.size_bound hc hg t X hv hu y hyy
  have h3 := hc.rank_le hg X
  rw [hyy, Nat.mul_succ, Nat.add_mul]
  omega

end

structure SRank (g : Grammar) (t : Table) (nul : Nat → Prop) (rn : Nat → Nat) (Wn : Nat) : Prop where
  dec : ∀ s X s', nul X → t.goto g s X = some s' → rn s' < rn s
  lt : ∀ s, rn s < Wn

def resNodes (res : List Tree) : Nat := (res.map Tree.nodes).sum

section

variable {g : Grammar} {t : Table} {U : Nat → Prop} {nul : Nat → Prop} {r : Nat → Nat} {m W : Nat}

/-- the potential `(rn top + 1)·E` pays for the entries without tokens that may still be pushed -/
theorem stack_bound {rn : Nat → Nat} {Wn E C K : Nat} (hc : Consts m W E C K) (hg : GRank g U nul r m W)
    (hs : SRank g t nul rn Wn) (start : Nat) : ∀ (st : List (Nat × Tree)), PathInv g t start st →
      (∀ tr ∈ st.map Prod.snd, tr.Uses U) →
      resNodes (st.map Prod.snd) + (rn (topOf start st) + 1) * E ≤
        ((yields st).length + 1) * (Wn * E) + 2 * (yields st).length * K
  | [], _, _ => by
    simp only [resNodes, List.map_nil, List.sum_nil, topOf, yields, List.length_nil, Nat.zero_add, Nat.one_mul,
      Nat.mul_zero, Nat.zero_mul, Nat.add_zero]
    exact Nat.mul_le_mul_right E (hs.lt start)
  | (s, tr) :: below, hp, hu => by
    obtain ⟨⟨X, hv, htr⟩, hbelow⟩ := hp
    have ih := stack_bound hc hg hs start below hbelow (fun x hx => hu x (List.mem_cons_of_mem _ hx))
    have hut := hu tr List.mem_cons_self
    simp only [resNodes] at ih
    simp only [resNodes, List.map_cons, List.sum_cons, topOf, yields, List.length_append]
    by_cases hy : tr.yield = []
    · have h1 := hc.eps_le hg tr X hv hut hy
      have hX := Tree.eps_root hg tr X hv hut hy
      rw [Table.trans_nonterm (hg.nulNT X hX)] at htr
      have hdec : (rn s + 1) * E + E ≤ (rn (topOf start below) + 1) * E := by
        rw [← Nat.succ_mul]; exact Nat.mul_le_mul_right E (Nat.succ_le_succ (hs.dec _ X s hX htr))
      simp only [hy, List.length_nil, Nat.add_zero]
      omega
    · have h1 := hc.full_le hg tr X hv hut hy
      have h2 : (rn s + 1) * E ≤ Wn * E := Nat.mul_le_mul_right E (hs.lt s)
      have h3 : Wn * E ≤ tr.yield.length * (Wn * E) := Nat.le_mul_of_pos_left _ (List.length_pos_iff.mpr hy)
      rw [Nat.add_right_comm (yields below).length, Nat.add_mul _ tr.yield.length, Nat.mul_add 2, Nat.add_mul _ _ K]
      omega

end

/-- the right-hand side of `stack_bound` with the tokens shifted added, at `n` tokens: a bound on the iterations of the loop -/
def maxSteps (E K Wn n : Nat) : Nat := n + ((n + 1) * Wn) * E + (2 * n) * K

/-- what `Cert.terminating` gives (`Cert.terminating_sound`) -/
structure Ranked (g : Grammar) (t : Table) (U : Nat → Prop) (E K Wn : Nat) : Prop where
  used : ∀ state kind p len acts, t.cell state kind = Action.reduce p len :: acts → U p
  ranks : ∃ m W C nul r rn, Consts m W E C K ∧ GRank g U nul r m W ∧ SRank g t nul rn Wn

end Rustemo
