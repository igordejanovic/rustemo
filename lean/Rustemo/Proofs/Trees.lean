import Rustemo.Model.Core
import Rustemo.Proofs.ListFacts
/-!
Facts about `Tree` / `TreeList` and derivations that mention no table.
-/

namespace Rustemo

def ValidList (g : Grammar) (l : List Tree) (Xs : List Nat) : Prop := (TreeList.ofList l).Valid g Xs

theorem yield_ofList (l : List Tree) : (TreeList.ofList l).yield = (l.map Tree.yield).flatten := by
  induction l with
  | nil => simp [TreeList.ofList, TreeList.yield]
  | cons t ts ih => simp [TreeList.ofList, TreeList.yield, ih]

/-- how the predicates defined along `Tree`/`TreeList` (`SpanOk`, `Uses`, `AllLay`, `Ordered`) are read on the parser's
    `List Tree` -/
theorem TreeList.ofList_all {PL : TreeList → Prop} {P : Tree → Prop} (h0 : PL .nil)
    (h1 : ∀ t ts, P t → PL ts → PL (.cons t ts)) : ∀ l : List Tree, (∀ t ∈ l, P t) → PL (TreeList.ofList l)
  | [], _ => h0
  | t :: ts, h => h1 t _ (h t List.mem_cons_self) (ofList_all h0 h1 ts fun x hx => h x (List.mem_cons_of_mem _ hx))

theorem validList_singleton {g : Grammar} {ts : List Tree} {X : Nat} (h : ValidList g ts [X]) :
    ∃ T, ts = [T] ∧ T.Valid g X := by
  match ts, h with
  | [T], ⟨_, _, hX, hv, _⟩ => cases hX; exact ⟨T, rfl, hv⟩
  | _ :: _ :: _, ⟨_, _, hX, _, ⟨_, _, hX', _, _⟩⟩ => cases hX; cases hX'

theorem validList_append (g : Grammar) (l1 l2 : List Tree) (X1 X2 : List Nat) :
    ValidList g l1 X1 → ValidList g l2 X2 → ValidList g (l1 ++ l2) (X1 ++ X2) := by
  induction l1 generalizing X1 with
  | nil => intro h1 h2; simp [ValidList] at h1; subst h1; simpa using h2
  | cons t ts ih =>
    intro h1 h2
    obtain ⟨X, Xs', rfl, hv, hl⟩ := h1
    exact ⟨X, Xs' ++ X2, by simp, hv, ih _ hl h2⟩

theorem validList_of_all2 {g : Grammar} {l : List Tree} {Xs : List Nat}
    (h : Front.All2 (fun tr X => tr.Valid g X) l Xs) : ValidList g l Xs := by
  induction h with
  | nil => exact rfl
  | cons hv _ ih => exact ⟨_, _, rfl, hv, ih⟩

theorem valid_length (g : Grammar) : ∀ (cs : TreeList) (Xs : List Nat), cs.Valid g Xs →
    cs.toList.length = Xs.length
  | .nil, Xs, h => by simp [TreeList.Valid] at h; simp [TreeList.toList, h]
  | .cons c cs', Xs, h => by
    obtain ⟨Y, Xs', rfl, _, hv⟩ := h
    simp [TreeList.toList, valid_length g cs' Xs' hv]

def Sentence (g : Grammar) (w : List Nat) : Prop := ∃ tr : Tree, tr.Valid g g.startIdx ∧ tr.yield = w

mutual
theorem Tree.yield_lt (g : Grammar) : ∀ (t : Tree) (X : Nat), t.Valid g X → ∀ a ∈ t.yield, a < g.nterms
  | .leaf k _ _ _, X, hv, a, ha => by
    simp only [Tree.yield, List.mem_singleton] at ha
    simp only [Tree.Valid] at hv
    rw [ha]; exact hv.2
  | .node p _ _ cs, X, hv, a, ha => by
    simp only [Tree.Valid] at hv
    obtain ⟨pr, _, _, hcs⟩ := hv
    simp only [Tree.yield] at ha
    exact TreeList.yield_lt g cs pr.rhs hcs a ha
theorem TreeList.yield_lt (g : Grammar) :
    ∀ (ts : TreeList) (Xs : List Nat), ts.Valid g Xs → ∀ a ∈ ts.yield, a < g.nterms
  | .nil, _, _, a, ha => by simp [TreeList.yield] at ha
  | .cons t ts, Xs, hv, a, ha => by
    simp only [TreeList.Valid] at hv
    obtain ⟨X, Xs', _, h1, h2⟩ := hv
    simp only [TreeList.yield, List.mem_append] at ha
    rcases ha with ha | ha
    · exact Tree.yield_lt g t X h1 a ha
    · exact TreeList.yield_lt g ts Xs' h2 a ha
end

theorem sentence_lt {g : Grammar} {w : List Nat} (h : Sentence g w) : ∀ a ∈ w, a < g.nterms := by
  obtain ⟨tr, hv, hy⟩ := h
  rw [← hy]
  exact Tree.yield_lt g tr _ hv

mutual
theorem Tree.validB_sound (g : Grammar) : ∀ (t : Tree) (X : Nat), t.validB g X = true → t.Valid g X
  | .leaf a _ _ _, X, h => by
    simp only [Tree.validB, Bool.and_eq_true, beq_iff_eq, decide_eq_true_eq] at h
    exact h
  | .node p _ _ cs, X, h => by
    simp only [Tree.validB] at h
    split at h
    · rename_i pr hpr
      simp only [Bool.and_eq_true, beq_iff_eq] at h
      exact ⟨pr, hpr, h.1, TreeList.validB_sound g cs pr.rhs h.2⟩
    · simp at h
theorem TreeList.validB_sound (g : Grammar) : ∀ (ts : TreeList) (Xs : List Nat),
    ts.validB g Xs = true → ts.Valid g Xs
  | .nil, Xs, h => by
    simp only [TreeList.validB, List.isEmpty_iff] at h
    exact h
  | .cons t ts, Xs, h => by
    simp only [TreeList.validB] at h
    split at h
    · simp at h
    · rename_i X Xs'
      simp only [Bool.and_eq_true] at h
      exact ⟨X, Xs', rfl, Tree.validB_sound g t X h.1, TreeList.validB_sound g ts Xs' h.2⟩
end

theorem sentence_of_validB (g : Grammar) (tr : Tree) (w : List Nat)
    (h : (tr.validB g g.startIdx && tr.yield == w) = true) : Sentence g w := by
  simp only [Bool.and_eq_true, beq_iff_eq] at h
  exact ⟨tr, Tree.validB_sound g tr _ h.1, h.2⟩

def ViablePrefix (g : Grammar) (p : List Nat) : Prop := ∃ rest, Sentence g (p ++ rest)

theorem viablePrefix_of_sentence {g : Grammar} {w : List Nat} (h : Sentence g w) : ViablePrefix g w :=
  ⟨[], by simpa using h⟩

theorem viablePrefix_take {g : Grammar} {p : List Nat} (h : ViablePrefix g p) (n : Nat) :
    ViablePrefix g (p.take n) := by
  obtain ⟨rest, hs⟩ := h
  refine ⟨p.drop n ++ rest, ?_⟩
  rw [← List.append_assoc, List.take_append_drop]; exact hs

theorem viablePrefix_nil_iff {g : Grammar} : ViablePrefix g [] ↔ ∃ w, Sentence g w := by
  constructor
  · intro ⟨r, h⟩; exact ⟨r, by simpa using h⟩
  · intro ⟨w, h⟩; exact ⟨w, by simpa using h⟩

def HasTree (g : Grammar) (X : Nat) : Prop := ∃ tr : Tree, tr.Valid g X

theorem validList_of_hasTree (g : Grammar) : ∀ (Xs : List Nat), (∀ X ∈ Xs, HasTree g X) →
    ∃ l : List Tree, ValidList g l Xs
  | [], _ => ⟨[], rfl⟩
  | X :: Xs, h => by
    obtain ⟨tr, htr⟩ := h X List.mem_cons_self
    obtain ⟨l, hl⟩ := validList_of_hasTree g Xs (fun Y hY => h Y (List.mem_cons_of_mem _ hY))
    exact ⟨tr :: l, X, Xs, rfl, htr, hl⟩

theorem hasTree_prod (g : Grammar) (p : Nat) (pr : Prod) (hp : g.prods[p]? = some pr)
    (h : ∀ X ∈ pr.rhs, HasTree g X) : HasTree g pr.lhs := by
  obtain ⟨l, hl⟩ := validList_of_hasTree g pr.rhs h
  refine ⟨Tree.mk p l, ?_⟩
  simp only [Tree.mk, Tree.Valid]
  exact ⟨pr, hp, rfl, hl⟩

/-! plain (undecorated) trees: what the token-level parser builds -/

mutual
def Tree.IsPlain : Tree → Prop
  | .leaf _ sp v l => sp = default ∧ v = (0, 0) ∧ l = none
  | .node _ sp l cs => sp = default ∧ l = none ∧ TreeList.IsPlain cs
def TreeList.IsPlain : TreeList → Prop
  | .nil => True
  | .cons t ts => Tree.IsPlain t ∧ TreeList.IsPlain ts
end

mutual
def Tree.plain : Tree → Tree
  | .leaf a _ _ _ => .leaf a default (0, 0) none
  | .node p _ _ cs => .node p default none (TreeList.plain cs)
def TreeList.plain : TreeList → TreeList
  | .nil => .nil
  | .cons t ts => .cons (Tree.plain t) (TreeList.plain ts)
end

mutual
theorem Tree.plain_isPlain : ∀ t : Tree, t.plain.IsPlain
  | .leaf _ _ _ _ => ⟨rfl, rfl, rfl⟩
  | .node _ _ _ cs => ⟨rfl, rfl, TreeList.plain_isPlain cs⟩
theorem TreeList.plain_isPlain : ∀ ts : TreeList, ts.plain.IsPlain
  | .nil => trivial
  | .cons t ts => ⟨Tree.plain_isPlain t, TreeList.plain_isPlain ts⟩
end

mutual
theorem Tree.plain_yield : ∀ t : Tree, t.plain.yield = t.yield
  | .leaf _ _ _ _ => rfl
  | .node _ _ _ cs => by simp [Tree.plain, Tree.yield, TreeList.plain_yield cs]
theorem TreeList.plain_yield : ∀ ts : TreeList, ts.plain.yield = ts.yield
  | .nil => rfl
  | .cons t ts => by simp [TreeList.plain, TreeList.yield, Tree.plain_yield t, TreeList.plain_yield ts]
end

mutual
theorem Tree.plain_valid (g : Grammar) : ∀ (t : Tree) (X : Nat), t.Valid g X → t.plain.Valid g X
  | .leaf _ _ _ _, _, h => h
  | .node _ _ _ cs, _, ⟨pr, hpr, hl, hcs⟩ => ⟨pr, hpr, hl, TreeList.plain_valid g cs pr.rhs hcs⟩
theorem TreeList.plain_valid (g : Grammar) : ∀ (ts : TreeList) (Xs : List Nat), ts.Valid g Xs → ts.plain.Valid g Xs
  | .nil, _, h => h
  | .cons t ts, _, ⟨X, Xs', he, hv, hvs⟩ => ⟨X, Xs', he, Tree.plain_valid g t X hv, TreeList.plain_valid g ts Xs' hvs⟩
end

theorem TreeList.ofList_toList (cs : TreeList) : TreeList.ofList cs.toList = cs := by
  induction cs using TreeList.rec (motive_1 := fun _ => True) with
  | leaf => trivial
  | node => trivial
  | nil => rfl
  | cons t ts _ ih => simp [TreeList.toList, TreeList.ofList, ih]

end Rustemo
