import Rustemo.Proofs.TLR
import Rustemo.Proofs.ViableCert
/-!
C12.  No early error: two runs on inputs with a common prefix coincide until it is consumed (`trun_prefix`,
`Proofs/TRun.lean`), and a viable prefix is the prefix of an accepted input (completeness).  No late error: every stack of
a structurally certified automaton spells a viable prefix (`viable_item`; `StructuralRN` is enough, so the GLR
engine's stacks are covered).  Merged LALR lookaheads delay an error by reductions, never by a shift.
-/

namespace Rustemo

theorem validList_of_drop (g : Grammar) (hP : Productive g) (p : Nat) (pr : Prod)
    (hp : g.prods[p]? = some pr) (d : Nat) : ∃ l : List Tree, ValidList g l (pr.rhs.drop d) :=
  validList_of_hasTree g _ (fun X hX => hP p pr hp X (List.mem_of_mem_drop hX))

/-- The top state holds an item `[q: α.β]`; by the path lemma the top `|α|` entries spell `α`, below them sits a state
    with `[q: .αβ]`, demanded (`Anch`) by an item `[r: γ.Aδ]` of that state, and so on down to the start state; every
    symbol still to come derives a terminal string (`Productive`). -/
theorem viable_item {g : Grammar} {t : Table} {autos : List Auto} (hs : StructuralRN g t autos)
    (hA : Anchored g t autos) (hP : Productive g)
    {au : Auto} (hin : au ∈ autos)
    (haug : ∃ pr, g.prods[au.aug]? = some pr ∧ pr.rhs = [au.sym]) :
    ∀ (n : Nat) (st : List (Nat × Tree)), st.length = n → PathInv g t au.start st →
      ∀ q e, Anch g t autos (topOf au.start st) q e →
      ∀ prq, g.prods[q]? = some prq → ∀ ts : List Tree, ValidList g ts (prq.rhs.drop e) →
      ∃ (T : Tree) (rest : List Nat), T.Valid g au.sym ∧
        T.yield = yields st ++ (ts.map Tree.yield).flatten ++ rest := by
  intro n
  induction n using Nat.strongRecOn with
  | _ n ih =>
    intro st hlen hpath q e hanch
    induction hanch with
    | kernel q d hi0 =>
      intro prq hprq ts hts
      obtain ⟨pr, hpr, _, hle, h0, hdrop, hvl⟩ := path_lemma_valid hs hin hpath hi0
      obtain rfl : pr = prq := Option.some.inj (hpr.symm.trans hprq)
      have hlen' : (st.drop (d+1)).length < n := by
        rw [List.length_drop, ← hlen]; exact Nat.sub_lt_self (Nat.succ_pos d) hle
      have hvl' : ValidList g ((st.take (d+1)).reverse.map (·.2) ++ ts) (pr.rhs.drop 0) := by
        have := validList_append g _ _ _ _ hvl hts
        rwa [List.take_append_drop] at this
      obtain ⟨T, rest, hT, hy⟩ := ih _ hlen' (st.drop (d+1)) rfl hdrop q 0 (hA _ q 0 h0) pr hprq _ hvl'
      refine ⟨T, rest, hT, ?_⟩
      rw [hy, List.map_append, List.flatten_append, yields_take_drop st (d+1)]
      simp [List.append_assoc]
    | aug a ha hsa hia =>
      intro prq hprq ts hts
      have hnil := stack_nil_of_top_start hs ha (pathInv_iff.mp hpath) hsa
      subst hnil
      have hau : a = au := hs.distinct a ha au hin hsa.symm
      subst hau
      obtain ⟨pr, hpr, hrhs⟩ := haug
      obtain rfl : pr = prq := Option.some.inj (hpr.symm.trans hprq)
      rw [hrhs] at hts
      simp only [List.drop_zero] at hts
      obtain ⟨T, rfl, hv⟩ := validList_singleton hts
      exact ⟨T, [], hv, by simp [yields]⟩
    | clos q e p prq pr _ hprq hpr hrhs hip ihq =>
      intro prp hprp ts hts
      obtain rfl : prp = pr := Option.some.inj (hprp.symm.trans hpr)
      simp only [List.drop_zero] at hts
      obtain ⟨ts2, hts2⟩ := validList_of_drop g hP q prq hprq (e+1)
      have hTp : (Tree.mk p ts).Valid g prp.lhs := by
        simp only [Tree.mk, Tree.Valid]
        exact ⟨prp, hpr, rfl, hts⟩
      have hvl : ValidList g (Tree.mk p ts :: ts2) (prq.rhs.drop e) := by
        rw [drop_eq_cons_iff.mpr ⟨hrhs, rfl⟩]; exact ⟨prp.lhs, _, rfl, hTp, hts2⟩
      obtain ⟨T, rest, hT, hy⟩ := ihq prq hprq _ hvl
      refine ⟨T, (ts2.map Tree.yield).flatten ++ rest, hT, ?_⟩
      rw [hy]
      simp [Tree.mk, Tree.yield, yield_ofList, List.append_assoc]

theorem top_has_item (g : Grammar) (t : Table) (hN : NonEmptyTargets g t) (st : List (Nat × Tree))
    (hp : PathInv g t 0 st) : ∃ p d, t.hasItem (topOf 0 st) p d := by
  rcases (pathInv_iff.mp hp).top with h | ⟨s, X, htr⟩
  · rw [h]; exact hN.start
  · exact hN.target s X _ htr

theorem pathInv_viable {g : Grammar} {t : Table} (hs : StructuralRN g t (autosOf g t)) (hV : ViableOk g t) (hW : GWF g)
    (st : List (Nat × Tree)) (hp : PathInv g t 0 st) : ViablePrefix g (yields st) := by
  obtain ⟨p, d, hi⟩ := top_has_item g t hV.nonempty st hp
  obtain ⟨pr, hpr, _⟩ := hs.item_prod _ p d hi
  obtain ⟨ts, hts⟩ := validList_of_drop g hV.prod p pr hpr d
  obtain ⟨pr0, hpr0, _, hr0⟩ := hW.aug0
  obtain ⟨T, rest, hT, hy⟩ := viable_item hs hV.anch hV.prod (mem_autosOf_main g t)
    ⟨pr0, hpr0, hr0⟩ st.length st rfl hp p d (hV.anch _ p d hi) pr hpr ts hts
  exact ⟨(ts.map Tree.yield).flatten ++ rest, T, hT, by rw [hy, List.append_assoc]⟩

theorem pathInv_sentence {g : Grammar} {t : Table} (hs : StructuralRN g t (autosOf g t)) (st : List (Nat × Tree))
    (hp : PathInv g t 0 st) {x : Nat} (hacc : Action.accept ∈ t.cell (topOf 0 st) x) : Sentence g (yields st) := by
  obtain ⟨s, T, rfl, hv⟩ := accept_stack hs (mem_autosOf_main g t) (pathInv_iff.mp hp) hacc
  exact ⟨T, hv, by simp [yields]⟩

section
variable {g : Grammar} {t : Table} (hc : Certified g t)
include hc

theorem reaches_viable (hV : ViableOk g t) {w : List Nat} {c : TCfg} (hr : Reaches g t ⟨⟨[], []⟩, w⟩ c) :
    c.c.shifted.reverse ++ c.rest = w ∧ ViablePrefix g c.c.shifted.reverse :=
  have hinv := hc.reaches_tinv hr
  ⟨hinv.split, hinv.cinv.yld ▸ pathInv_viable hc.structural.toRN hV hc.gwf _ hinv.cinv.path⟩

theorem viable_no_early_error (q y : List Nat) (hv : ViablePrefix g q) (fuel k s : Nat)
    (h : tparse g t (q ++ y) fuel = .error k s) : k ≤ y.length := by
  obtain ⟨x, tx, hvx, hy⟩ := hv
  obtain ⟨F, hF⟩ := hc.accepts tx hvx
  rw [hy] at hF
  exact trun_prefix_no_error g t x y F ⟨[], []⟩ q _ hF fuel k s h

theorem viable_is_shifted (q y : List Nat) (hnz : ∀ b ∈ q, b ≠ 0) (hv : ViablePrefix g q) :
    ∃ c, Reaches g t ⟨⟨[], []⟩, q ++ y⟩ ⟨c, y⟩ ∧ c.shifted = q.reverse := by
  obtain ⟨x, tx, hvx, hy⟩ := hv
  obtain ⟨F, hF⟩ := hc.accepts tx hvx
  rw [hy] at hF
  obtain ⟨c, hr⟩ := trun_prefix_shifted g t hc.acceptStop x y F ⟨[], []⟩ q _ hnz hF
  refine ⟨c, hr, ?_⟩
  have := (hc.reaches_tinv hr).split
  simp only at this
  have := List.append_cancel_right this
  rw [← this, List.reverse_reverse]

end

end Rustemo
