import Rustemo.Model.CertViable
import Rustemo.Proofs.CertSound
/-!
What "no late error" (C12) asks beyond the structural certificate, each with the soundness of its checker: the grammar is
reduced (`Productive`; the checker iterates the set of symbols known to derive a terminal string), every item of a state
is justified from its kernel by closure steps (`Anchored`; the checker marks items until nothing changes, `AnchInv`), and
the targets of transitions are non-empty states (`NonEmptyTargets`).  Together: `ViableOk`.
-/
namespace Rustemo

def Productive (g : Grammar) : Prop :=
  ∀ (p : Nat) (pr : Prod), g.prods[p]? = some pr → ∀ X ∈ pr.rhs, HasTree g X

theorem rhsKnown_sound (g : Grammar) (known rhs : List Nat) (hk : ∀ Y ∈ known, HasTree g Y)
    (h : Cert.rhsKnown g known rhs = true) : ∀ X ∈ rhs, HasTree g X := by
  intro X hX
  unfold Cert.rhsKnown at h
  rw [List.all_eq_true] at h
  have := h X hX
  simp only [Bool.or_eq_true, decide_eq_true_eq, List.contains_iff_mem] at this
  rcases this with hlt | hmem
  · exact ⟨Tree.tok X, by simp [Tree.tok, Tree.Valid, hlt]⟩
  · exact hk X hmem

theorem prodStep_sound (g : Grammar) (known : List Nat) (hk : ∀ Y ∈ known, HasTree g Y) :
    ∀ Y ∈ Cert.prodStep g known, HasTree g Y := by
  intro Y hY
  unfold Cert.prodStep at hY
  rw [List.mem_append] at hY
  rcases hY with hY | hY
  · exact hk Y hY
  · rw [List.mem_map] at hY
    obtain ⟨pr, hpr, rfl⟩ := hY
    rw [List.mem_filter] at hpr
    obtain ⟨hmem, hcond⟩ := hpr
    simp only [Bool.and_eq_true] at hcond
    obtain ⟨p, hp⟩ : ∃ p : Nat, g.prods[p]? = some pr := Array.getElem?_of_mem (Array.mem_toList_iff.mp hmem)
    exact hasTree_prod g p pr hp (rhsKnown_sound g known pr.rhs hk hcond.2)

theorem prodIter_sound (g : Grammar) : ∀ (n : Nat) (known : List Nat), (∀ Y ∈ known, HasTree g Y) →
    ∀ Y ∈ Cert.prodIter g n known, HasTree g Y := by
  intro n
  induction n with
  | zero => intro known hk; simpa [Cert.prodIter] using hk
  | succ n ih =>
    intro known hk
    unfold Cert.prodIter
    simp only
    split
    · exact hk
    · exact ih _ (prodStep_sound g known hk)

theorem Cert.productive_sound (g : Grammar) (h : Cert.productive g = true) : Productive g := by
  intro p pr hp X hX
  unfold Cert.productive at h
  simp only at h
  rw [List.all_eq_true] at h
  exact rhsKnown_sound g _ pr.rhs
    (prodIter_sound g _ [] (by simp)) (h pr (mem_prods_toList hp)) X hX

/-- `Anch g t autos s p d`: item `[p, d]` of state `s` has a well-founded justification: it is a kernel
    item, or the augmented item of an automaton starting in `s`, or demanded (closure) by a justified
    item of the same state -/
inductive Anch (g : Grammar) (t : Table) (autos : List Auto) (s : Nat) : Nat → Nat → Prop
  | kernel (p d : Nat) : t.hasItem s p (d+1) → Anch g t autos s p (d+1)
  | aug (a : Auto) : a ∈ autos → s = a.start → t.hasItem s a.aug 0 → Anch g t autos s a.aug 0
  | clos (q e p : Nat) (prq pr : Prod) : Anch g t autos s q e →
      g.prods[q]? = some prq → g.prods[p]? = some pr → prq.rhs[e]? = some pr.lhs →
      t.hasItem s p 0 → Anch g t autos s p 0

theorem Anch.hasItem {g : Grammar} {t : Table} {autos : List Auto} {s p d : Nat} (h : Anch g t autos s p d) :
    t.hasItem s p d := by
  cases h with
  | kernel _ _ hi => exact hi
  | aug _ _ _ hi => exact hi
  | clos _ _ _ _ _ _ _ _ _ hi => exact hi

def Anchored (g : Grammar) (t : Table) (autos : List Auto) : Prop :=
  ∀ s p d, t.hasItem s p d → Anch g t autos s p d

/-- the invariant of the marking loop for state `s` -/
def AnchInv (g : Grammar) (t : Table) (autos : List Auto) (s : Nat) (st : State) (anch : List Item) : Prop :=
  ∀ it ∈ anch, it ∈ st.items ∧ Anch g t autos s it.prod it.dot

section
variable (g : Grammar) (t : Table) (autos : List Auto) (s : Nat) (st : State)
  (hst : t.states[s]? = some st)
include hst

theorem anchInv_init :
    AnchInv g t autos s st (st.items.filter (Cert.isKernel autos s)) := by
  intro it hit
  rw [List.mem_filter] at hit
  obtain ⟨hmem, hk⟩ := hit
  refine ⟨hmem, ?_⟩
  have hi : t.hasItem s it.prod it.dot := ⟨st, hst, it, hmem, rfl, rfl⟩
  cases hd : it.dot with
  | succ d => rw [hd] at hi; exact .kernel _ d hi
  | zero =>
    unfold Cert.isKernel at hk
    simp only [hd, bne_self_eq_false, Bool.false_or, List.any_eq_true, Bool.and_eq_true,
      beq_iff_eq] at hk
    obtain ⟨a, ha, hstart, haug⟩ := hk
    rw [hd] at hi
    rw [← haug]
    exact .aug a ha hstart.symm (by rw [haug]; exact hi)

theorem anchStep_inv (anch : List Item) (h : AnchInv g t autos s st anch) :
    AnchInv g t autos s st (Cert.anchStep g st.items anch) := by
  intro it hit
  unfold Cert.anchStep at hit
  rw [List.mem_append] at hit
  rcases hit with hit | hit
  · exact h it hit
  · rw [List.mem_filter] at hit
    obtain ⟨hmem, hc⟩ := hit
    simp only [Bool.and_eq_true, beq_iff_eq, List.any_eq_true] at hc
    obtain ⟨hd, jt, hjt, hdem⟩ := hc
    refine ⟨hmem, ?_⟩
    obtain ⟨hjmem, hja⟩ := h jt hjt
    unfold Cert.demands at hdem
    split at hdem
    · rename_i pr hpr
      obtain ⟨prq, hprq, hX⟩ := rhsAt_eq_some.mp (eq_of_beq hdem)
      rw [hd]
      exact .clos jt.prod jt.dot it.prod prq pr hja hprq hpr hX
        ⟨st, hst, it, hmem, rfl, hd⟩
    · simp at hdem

theorem anchIter_inv : ∀ (n : Nat) (anch : List Item), AnchInv g t autos s st anch →
    AnchInv g t autos s st (Cert.anchIter g st.items n anch) := by
  intro n
  induction n with
  | zero => intro anch h; simpa [Cert.anchIter] using h
  | succ n ih =>
    intro anch h
    unfold Cert.anchIter
    split
    · exact h
    · exact ih _ (anchStep_inv g t autos s st hst anch h)

end

theorem Cert.anchored_sound (g : Grammar) (t : Table) (autos : List Auto)
    (h : Cert.anchored g t autos = true) : Anchored g t autos := by
  intro s p d ⟨st, hst, it, hit, hp, hd⟩
  have := forStates_iff.mp h _ _ hst
  unfold Cert.anchoredState at this
  simp only at this
  rw [List.all_eq_true] at this
  have hc := this it hit
  rw [List.contains_iff_mem] at hc
  have := (anchIter_inv g t autos s st hst _ _ (anchInv_init g t autos s st hst) it hc).2
  rw [hp, hd] at this
  exact this

structure NonEmptyTargets (g : Grammar) (t : Table) : Prop where
  start : ∃ p d, t.hasItem 0 p d
  target : ∀ s X s', t.trans g s X s' → ∃ p d, t.hasItem s' p d

theorem stateNonEmpty_sound {t : Table} {s : Nat} (h : t.stateNonEmpty s = true) : ∃ p d, t.hasItem s p d := by
  unfold Table.stateNonEmpty at h
  split at h
  · rename_i st hst
    cases hi : st.items with
    | nil => simp [hi] at h
    | cons it rest => exact ⟨it.prod, it.dot, st, hst, it, by simp [hi], rfl, rfl⟩
  · simp at h

theorem Cert.targetsNonEmpty_sound (g : Grammar) (t : Table) (h : Cert.targetsNonEmpty t = true) :
    NonEmptyTargets g t := by
  unfold Cert.targetsNonEmpty at h
  simp only [Bool.and_eq_true] at h
  obtain ⟨h0, hall⟩ := h
  refine ⟨stateNonEmpty_sound h0, ?_⟩
  intro s X s' htr
  obtain ⟨st, hst, hc⟩ := trans_cases htr
  have := (Bool.and_eq_true _ _).mp (forStates_iff.mp hall _ _ hst)
  rcases hc with ⟨_, hm⟩ | ⟨_, hm⟩
  · exact stateNonEmpty_sound (forCells_iff.mp this.1 _ _ hm)
  · exact stateNonEmpty_sound (forGotos_iff.mp this.2 _ _ hm)

/-- what `Cert.viable` establishes -/
structure ViableOk (g : Grammar) (t : Table) : Prop where
  anch : Anchored g t (autosOf g t)
  prod : Productive g
  nonempty : NonEmptyTargets g t

theorem Cert.viable_sound {g : Grammar} {t : Table} (h : Cert.viable g t (autosOf g t) = true) : ViableOk g t := by
  simp only [Cert.viable, Bool.and_eq_true] at h
  exact ⟨Cert.anchored_sound _ _ _ h.1.2, Cert.productive_sound _ h.1.1, Cert.targetsNonEmpty_sound _ _ h.2⟩

theorem Cert.viable_terms (g : Grammar) (ts : Array Terminal) (t : Table) :
    Cert.viable { g with terms := ts } t (autosOf { g with terms := ts } t) = Cert.viable g t (autosOf g t) := by
  have hp : ∀ n known, Cert.prodIter { g with terms := ts } n known = Cert.prodIter g n known := by
    intro n
    induction n with
    | zero => intro _; rfl
    | succ n ih => intro known; simp only [Cert.prodIter, ih]; rfl
  have ha : ∀ items n anch, Cert.anchIter { g with terms := ts } items n anch = Cert.anchIter g items n anch := by
    intro items n
    induction n with
    | zero => intro _; rfl
    | succ n ih => intro anch; simp only [Cert.anchIter, ih]; rfl
  simp only [Cert.viable, Cert.productive, Cert.productiveSet, hp, Cert.anchored, Cert.anchoredState, ha]
  rfl

end Rustemo
