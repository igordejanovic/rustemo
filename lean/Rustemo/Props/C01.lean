import Rustemo.Proofs.TLR
import Rustemo.Props.Example
import Rustemo.Proofs.LexTokRun
import Rustemo.Proofs.LexTokExample
/-!
# C01 — a deterministic LR parser accepts exactly the language of its grammar

`tparse` (Model/Core.lean) is the LR stack machine of `LRParser::parse_with_context` fed from a token
list the way rustemo's context-aware lexer feeds it when terminals cannot be confused with each other
(distinct single-character recognizers): the next token is offered iff the current state has an
action for it, and lexing is redone after every reduction.  The byte-level model `parse` (Model/LR.lean) refines
the same core (`step_refines`, `Proofs/LRSound.lean`); the remaining step "string lexer on such terminals = this lexing
rule" is the simulation theorem in the second half of this file (`C01_bytes_agree_with_tokens`,
`C01_bytes_accept_exactly`; notes/Viable.md), and `tparse` is run next to `parse` and the real
parser on every generated input.

`certC01` = structural + completeness (lookahead post-fixpoint incl. a verified FIRST/nullable
post-fixpoint, reduce entries for every lookahead, every cell at most one action) + accept only on STOP.
It is executed by the driver on the table dumped from the real compiler, for LALR and LALR_PAGER.
A table that passes has no cell with two candidates — "no disambiguation took effect".
-/
namespace Rustemo.Props.C01
open Rustemo

def certC01 (g : Grammar) (t : Table) : Bool :=
  Cert.structural g t (autosOf g t) && Cert.complete g t && Cert.acceptStop t

theorem certC01_sound {g : Grammar} {t : Table} (h : certC01 g t = true) : Certified g t := by
  simp only [certC01, Bool.and_eq_true] at h
  obtain ⟨hC, hW⟩ := Cert.complete_sound g t h.1.2
  exact ⟨Cert.structural_sound _ _ _ h.1.1, hC, hW, Cert.acceptStop_sound h.2⟩

theorem certC01_terms (g : Grammar) (ts : Array Terminal) (t : Table) :
    certC01 { g with terms := ts } t = certC01 g t := by
  simp only [certC01, Cert.complete_terms]
  rfl

/-- **Soundness**: whatever is accepted is a sentence, and the tree returned is a derivation tree of
    exactly the input. -/
theorem C01_accepted_is_sentence (g : Grammar) (t : Table) (hcert : certC01 g t = true)
    (w : List Nat) (hnz : ∀ x ∈ w, x ≠ 0) (fuel : Nat) (tr : Tree)
    (h : tparse g t w fuel = .accept tr) : tr.Valid g g.startIdx ∧ tr.yield = w :=
  (certC01_sound hcert).sound hnz h

/-- **Completeness**: every sentence is accepted, and the parser returns its derivation tree. -/
theorem C01_sentence_is_accepted (g : Grammar) (t : Table) (hcert : certC01 g t = true)
    (tx : Tree) (hv : tx.Valid g g.startIdx) :
    ∃ fuel, tparse g t tx.yield fuel = .accept tx.plain :=
  (certC01_sound hcert).accepts tx hv

/-- **C01**: Ok if and only if the input is a sentence of the grammar. -/
theorem C01_lr_accepts_exactly (g : Grammar) (t : Table) (hcert : certC01 g t = true)
    (w : List Nat) (hnz : ∀ x ∈ w, x ≠ 0) :
    (∃ fuel tr, tparse g t w fuel = .accept tr) ↔ Sentence g w :=
  (certC01_sound hcert).accepts_exactly w hnz

theorem trun_mono (g : Grammar) (t : Table) (n : Nat) (c : TCfg) (tr : Tree)
    (h : trun g t n c = .accept tr) (k : Nat) : trun g t (n + k) c = .accept tr :=
  trun_mono_result g t n c _ h TResult.noConfusion k

/-- **A grammar whose table is certified deterministic is unambiguous**: two derivation trees of the
    same input from the start symbol are the same tree (up to decorations). -/
theorem C01_deterministic_is_unambiguous (g : Grammar) (t : Table) (hcert : certC01 g t = true)
    (t1 t2 : Tree) (h1 : t1.Valid g g.startIdx) (h2 : t2.Valid g g.startIdx)
    (hy : t1.yield = t2.yield) : t1.plain = t2.plain := by
  obtain ⟨f1, e1⟩ := C01_sentence_is_accepted g t hcert t1 h1
  obtain ⟨f2, e2⟩ := C01_sentence_is_accepted g t hcert t2 h2
  rw [hy] at e1
  exact TResult.accept.inj (trun_det e1 e2 TResult.noConfusion TResult.noConfusion)

/-- non-vacuity: the hand-compiled table of `S: 'a' S | EMPTY` passes the whole certificate -/
theorem certC01_Example : certC01 Example.g Example.t = true := by decide +kernel
example : certC01 Example.g Example.t = true := certC01_Example

/-! ## From tokens to bytes: the string lexer on single-character terminals

The theorems above are about `tparse` (token level).  What is diffed against the real `LRParser` is the
byte-level model `parse` (Model/LR.lean).  For the grammars C01 generates — every terminal a string
recognizer of ONE ASCII character, pairwise distinct, no Layout rule — the two coincide:
`Cert.singleCharLexer g t` (executable; run by the driver on every case as `cert singlechar`) and
`CharEnv env` (default string lexer, recognizers = `charRecog`, i.e. `starts_with` of the terminal's
character and STOP at the end of the input; whitespace skipping off, or on with no whitespace byte in
the input) give a step-for-step simulation (`Proofs/LexTokRun.lean`): `nextTokenMain` in a state offers
exactly the terminal whose character is the next byte iff that terminal has a non-empty cell in the
state, else it reports the state's expected list at that byte — which is `tstep`'s lookup of the cell
of the next token.  A byte that is no terminal's character is the token `g.nterms`, which no cell
accepts. -/

/-- **Byte level = token level**, for every fuel: Ok ⟷ accept (same fuel); `Err(expected ks)` at byte
    offset `p` ⟷ token-level error with `|input| - p` tokens remaining in a state `s` whose
    `sorted_terminals` are `ks` (one more unit of fuel: the byte-level loop lexes at the end of an
    iteration); panic ⟷ panic; out of fuel ⟷ out of fuel. -/
theorem C01_bytes_agree_with_tokens (env : Env) (hlex : Cert.singleCharLexer env.g env.t = true)
    (henv : CharEnv env) (fuel : Nat) :
    Agree env.t env.input.length (parse env false fuel).2
      (tparse env.g env.t (tokensOf env.g env.input) fuel)
      (tparse env.g env.t (tokensOf env.g env.input) (fuel + 1)) := by
  have hc := Cert.singleCharLexer_sound _ _ hlex
  unfold parse
  rw [parseWith_eq]
  exact lexed_agree env henv hc fuel fuel (run_sim env henv hc fuel fuel) [] _ [] none none {}
    ⟨⟨[], []⟩, tokensOf env.g env.input⟩
    ⟨⟨rfl, rfl⟩, rfl, hc.start_range, Nat.zero_le _, (toksFrom_zero env.g env.input).symm⟩

theorem C01_bytes_ok_iff_tokens_accept (env : Env) (hlex : Cert.singleCharLexer env.g env.t = true)
    (henv : CharEnv env) (fuel : Nat) :
    (∃ ctx r, parse env false fuel = (ctx, .ok r)) ↔
    ∃ tr, tparse env.g env.t (tokensOf env.g env.input) fuel = .accept tr := by
  rw [← agree_ok_iff (C01_bytes_agree_with_tokens env hlex henv fuel)]
  constructor
  · intro ⟨ctx, r, h⟩; exact ⟨r, by rw [h]⟩
  · intro ⟨r, h⟩; exact ⟨(parse env false fuel).1, r, by rw [← h]⟩

/-- a byte-level error is the token-level error: reported at byte offset `p.pos` = index of the
    rejected token (`k = |input| - p.pos` tokens remain), expected list = `sorted_terminals` of the
    state `s` in which `tparse` reports it -/
theorem C01_bytes_error_is_token_error (env : Env) (hlex : Cert.singleCharLexer env.g env.t = true)
    (henv : CharEnv env) (fuel : Nat) (ctx : Ctx) (e : PErr) (h : parse env false fuel = (ctx, .err e)) :
    ∃ k s p, e = .expected p ((env.t.sorted s).map (·.1)) ∧ p.pos + k = env.input.length ∧
      tparse env.g env.t (tokensOf env.g env.input) (fuel + 1) = .error k s := by
  have := C01_bytes_agree_with_tokens env hlex henv fuel
  rw [h] at this
  obtain ⟨k, s, p, h1, h2, h3, _⟩ := this
  exact ⟨k, s, p, h1, h2, h3⟩

/-- … and conversely -/
theorem C01_token_error_is_bytes_error (env : Env) (hlex : Cert.singleCharLexer env.g env.t = true)
    (henv : CharEnv env) (fuel k s : Nat)
    (h : tparse env.g env.t (tokensOf env.g env.input) (fuel + 1) = .error k s) :
    ∃ ctx p, parse env false fuel = (ctx, .err (.expected p ((env.t.sorted s).map (·.1)))) ∧
      p.pos + k = env.input.length := by
  have hag := C01_bytes_agree_with_tokens env hlex henv fuel
  have hmono : ∀ r, tparse env.g env.t (tokensOf env.g env.input) fuel = r → r ≠ .fuel → r = .error k s :=
    fun r hr hne => (trun_mono_result env.g env.t fuel _ r hr hne 1).symm.trans h
  cases ho : (parse env false fuel).2 with
  | ok r =>
    rw [ho] at hag
    obtain ⟨tr, htr⟩ := hag
    cases hmono _ htr (by simp)
  | err e =>
    rw [ho] at hag
    obtain ⟨k', s', p, h1, h2, h3, _⟩ := hag
    rw [h] at h3
    injection h3 with hk hs
    subst hk hs h1
    exact ⟨(parse env false fuel).1, p, by rw [← ho], h2⟩
  | panic m =>
    rw [ho] at hag
    obtain ⟨m', hm⟩ := hag
    cases hmono _ hm (by simp)
  | fuel =>
    rw [ho] at hag
    exact absurd h (hag.2 k s)

/-- **C01 at the byte level**: for a certified deterministic table of a single-character grammar the
    byte-level parser returns Ok on `bs` iff `bs.map charToTerm` is a sentence of the grammar. -/
theorem C01_bytes_accept_exactly (env : Env) (hcert : certC01 env.g env.t = true)
    (hlex : Cert.singleCharLexer env.g env.t = true) (henv : CharEnv env) :
    (∃ fuel ctx r, parse env false fuel = (ctx, .ok r)) ↔ Sentence env.g (tokensOf env.g env.input) := by
  have hsc := Cert.singleCharLexer_sound _ _ hlex
  rw [← C01_lr_accepts_exactly env.g env.t hcert _ (tokensOf_ne_zero hsc env.input)]
  constructor
  · intro ⟨fuel, ctx, r, h⟩
    exact ⟨fuel, (C01_bytes_ok_iff_tokens_accept env hlex henv fuel).mp ⟨ctx, r, h⟩⟩
  · intro ⟨fuel, h⟩
    exact ⟨fuel, (C01_bytes_ok_iff_tokens_accept env hlex henv fuel).mpr h⟩

/-- the same with every hypothesis an executable check (what the driver evaluates per case and input:
    `cert c01`, `cert singlechar`, `charenv`) -/
theorem C01_bytes_accept_exactly_checked (env : Env)
    (h : (certC01 env.g env.t && Cert.singleCharLexer env.g env.t && charEnvOk env) = true) :
    (∃ fuel ctx r, parse env false fuel = (ctx, .ok r)) ↔ Sentence env.g (tokensOf env.g env.input) := by
  simp only [Bool.and_eq_true] at h
  exact C01_bytes_accept_exactly env h.1.1 h.1.2 (charEnvOk_sound env h.2)

/-! ### non-vacuity -/

theorem certC01_g1 : certC01 Example3.g1 Example.t = true := (certC01_terms Example.g _ _).trans certC01_Example
theorem singleChar_g1 : Cert.singleCharLexer Example3.g1 Example.t = true := by decide +kernel
theorem certC01_Example2 : certC01 Example2.g Example2.t = true := by decide +kernel
theorem certC01_g2 : certC01 Example3.g2 Example2.t = true := (certC01_terms Example2.g _ _).trans certC01_Example2
theorem singleChar_g2 : Cert.singleCharLexer Example3.g2 Example2.t = true := by decide +kernel
theorem axd_rejected :
    Example3.errOf (parse (Example3.envOf Example3.g2 Example2.t Example3.axd false) false 50).2 = some (2, [3]) := by
  decide +kernel

example : (certC01 Example3.g1 Example.t && Cert.singleCharLexer Example3.g1 Example.t &&
    charEnvOk (Example3.envOf Example3.g1 Example.t [97, 97] true)) = true := by
  rw [certC01_g1, singleChar_g1]; decide +kernel

example : certC01 Example3.g1 Example.t = true ∧ Cert.singleCharLexer Example3.g1 Example.t = true :=
  ⟨certC01_g1, singleChar_g1⟩
set_option maxRecDepth 8192 in
example : certC01 Example3.g2 Example2.t = true ∧ Cert.singleCharLexer Example3.g2 Example2.t = true :=
  ⟨certC01_g2, singleChar_g2⟩

/-- the environments satisfy `CharEnv` (whitespace skipping off / on without whitespace bytes) -/
example : CharEnv (Example3.envOf Example3.g2 Example2.t Example3.axc false) := ⟨fun _ _ _ _ => rfl, rfl, Or.inl rfl⟩
example : CharEnv (Example3.envOf Example3.g2 Example2.t Example3.axc true) :=
  ⟨fun _ _ _ _ => rfl, rfl, Or.inr (by decide +kernel)⟩

/-- "axc" is accepted, "axd" is rejected at byte 2 expecting `c` (kind 3) after the reduction `A: x`,
    "a?c" is rejected at byte 1 expecting `x` (kind 5) -/
example : Example.isOk (parse (Example3.envOf Example3.g2 Example2.t Example3.axc false) false 50).2 = true ∧
    Example3.errOf (parse (Example3.envOf Example3.g2 Example2.t Example3.axd false) false 50).2 = some (2, [3]) ∧
    Example3.errOf (parse (Example3.envOf Example3.g2 Example2.t Example3.aqc false) false 50).2 = some (1, [5]) ∧
    tokensOf Example3.g2 Example3.aqc = [1, 6, 3] :=
  ⟨by decide +kernel, axd_rejected, by decide +kernel, by decide +kernel⟩

end Rustemo.Props.C01
