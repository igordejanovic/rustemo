import Rustemo.Proofs.LRSound
import Rustemo.Proofs.CertSound
import Rustemo.Proofs.Example
import Rustemo.Props.Example
/-!
# C02 — every successful LR parse yields a valid derivation tree of the consumed input

`parse` is the byte-level model of `LRParser::parse`
(`Model/LR.lean`), tied to the real runtime by the correspondence check; `Cert.structural`
is the executable certificate run on the table dumped from the real compiler.
-/
namespace Rustemo.Props.C02
open Rustemo

/-- **Any lexer.**  `nt` is an arbitrary "next token" function (it may return any kind, any slice,
    and change the context arbitrarily): if the parser loop started in the start state ends with
    `ok r` on a structurally certified table, then `r.tree` is a derivation tree of the grammar
    from the start symbol and its leaves are, in order, exactly the tokens that were shifted. -/
theorem C02_tree_is_derivation_any_lexer (env : Env) (nt : Ctx → Ctx × Outcome Tok)
    (ctx0 : Ctx) (fuel : Nat) (ctx : Ctx) (r : ParseResult)
    (hcert : Cert.structural env.g env.t (autosOf env.g env.t) = true)
    (hrun : parseWith env nt 0 ctx0 fuel = (ctx, .ok r)) :
    r.tree.Valid env.g env.g.startIdx ∧ r.tree.yield = (r.hist.map (·.kind)).reverse :=
  parseWith_sound env nt (Cert.structural_sound _ _ _ hcert) (mem_autosOf_main _ _) ctx0 fuel ctx r hrun

/-- **`LRParser::parse` with the default string lexer**, whitespace skipping or Layout rule,
    partial parsing on or off, any recognizers (`env.recog`), any input. -/
theorem C02_tree_is_derivation (env : Env) (partialParse : Bool) (fuel : Nat) (ctx : Ctx)
    (r : ParseResult)
    (hcert : Cert.structural env.g env.t (autosOf env.g env.t) = true)
    (hrun : parse env partialParse fuel = (ctx, .ok r)) :
    r.tree.Valid env.g env.g.startIdx ∧ r.tree.yield = (r.hist.map (·.kind)).reverse :=
  C02_tree_is_derivation_any_lexer env _ {} fuel ctx r hcert hrun

/-- non-vacuity: the hypotheses of `C02_tree_is_derivation` are met by a concrete run -/
example : Cert.structural Example.env.g Example.env.t (autosOf Example.env.g Example.env.t) = true ∧
    Example.isOk (parse Example.env false 100).2 = true := ⟨Example.checks.1, Example.checks.2.2.2⟩

/-- **Enabling partial parsing never turns an accepted input into a rejected or differently parsed
    one.**  Any table, any lexer the model has (string lexer with whitespace skipping or a Layout
    rule, the adversarial user lexers), any input: if `parse` with partial parsing off returns
    `ok r` in final context `ctx`, then with partial parsing on it returns the same `ok r` (same
    tree with the same spans and layout, same token history) in the same final context.  (`partial_parse`
    only changes what `next_token` answers when no token is found, `noToken`; an accepted run with
    the flag off never got there.) -/
theorem C02_partial_conservative (env : Env) (fuel : Nat) (ctx : Ctx) (r : ParseResult)
    (hrun : parse env false fuel = (ctx, .ok r)) : parse env true fuel = (ctx, .ok r) := by
  unfold parse at hrun ⊢
  exact parseWith_ext env _ _ (ntMain_partial_ext env fuel) 0 {} fuel ctx r hrun

/-- non-vacuity: an accepted run with partial parsing off -/
example : Example.isOk (parse Example.env false 100).2 = true := Example.checks.2.2.2

end Rustemo.Props.C02
