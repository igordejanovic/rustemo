import Rustemo.Proofs.GlrOutcome
import Rustemo.Proofs.GlrExampleNul
import Rustemo.Proofs.Trees
/-!
# C03 — the GLR forest contains exactly the derivation trees of the input

Two parts: the forest API (first half, see the last paragraph) and the graph-structured-stack engine (section
"The GSS engine", model `Glr.parse` of Model/Glr.lean, tied to `GlrParser::parse` by correspondence on every input):
proved on certified tables are (a) every tree of the forest is a derivation tree of the input modulo elision
(`C03_engine_sound`), no panic (`C03_engine_no_panic*`), and, under the token-level lexer hypothesis `LexDet`,
(d) completeness (`C03_engine_complete`).  Of (c), no duplicates, the statement with the coarse relation `Tree.EqElide` is false
(`C03_engine_no_duplicates_coarse_is_false`); the statement with `Tree.SameDerivation`
(`C03_engine_no_duplicates_statement`) is proved only from three facts about the possibility lists (`C03_engine_no_duplicates_from_poss_facts`); it is otherwise decided by
correspondence with an independent derivation enumerator on generated grammars and inputs.

The forest API, for every SPPF shape (the SPPF is an inductive value, i.e. acyclic): the weighted
mixed-radix index decoding of `Forest::get_tree` / `Tree::children` / `find_tree_root`
enumerates the canonical enumeration `allTrees` — each tree of the forest exactly once, by index
and by iteration, and `None` from `solutions()` on.
-/
namespace Rustemo.Props.C03
open Rustemo.Forest

/-- `get_tree i` is the i-th tree of the canonical enumeration, the number of trees is
    `solutions()`, and every index at or beyond `solutions()` yields no tree. -/
theorem C03_forest_enum (f : Forest) (hw : f.roots.WF) :
    (∀ i, f.getTree i = f.allTrees[i]?) ∧ f.allTrees.length = f.solutions ∧
    (∀ i, f.solutions ≤ i → f.getTree i = none) := by
  refine ⟨fun i => NList.get_eq f.roots i hw, NList.len_all f.roots, ?_⟩
  intro i hi
  unfold Forest.getTree
  rw [NList.get_eq f.roots i hw]
  exact List.getElem?_eq_none (by rw [NList.len_all]; exact hi)

/-- enumerating by index over `0 .. solutions()-1` yields every tree exactly once, in order -/
theorem C03_by_index_is_all (f : Forest) (hw : f.roots.WF) :
    (List.range f.solutions).map f.getTree = f.allTrees.map some := by
  apply List.ext_getElem
  · rw [List.length_map, List.length_range, List.length_map]
    exact (NList.len_all f.roots).symm
  · intro i _ h2
    rw [List.getElem_map, List.getElem_range, List.getElem_map]
    exact (NList.get_eq f.roots i hw).trans (List.getElem?_eq_getElem (List.length_map some ▸ h2))

/-- `Forest::iter` / `into_iter` (call `get_tree(0), get_tree(1), …` until `None`) yields exactly
    `allTrees` -/
theorem C03_iteration_is_all (f : Forest) (hw : f.roots.WF) (fuel : Nat) (h : f.solutions ≤ fuel) :
    f.iterate fuel 0 = f.allTrees := by
  rw [iterate_eq f hw fuel 0 (by omega)]
  simp

/-- non-vacuity: an ambiguous forest (two roots sharing nothing, one with a packed child) -/
example : (NList.cons (.nonterm 1 (.cons (.mk (.cons (.term 1 0) (.cons (.term 2 0) .nil))) .nil))
           (.cons (.term 3 0) .nil)).WF := by
  simp [NList.WF, SNode.WF, PList.WF, Parent.WF, NList.sum, SNode.solutions]

/-! ## The GSS engine (`GlrParser::parse`, model `Glr.parse` in Model/Glr.lean)

`Cert.glr` (Model/GlrCert.lean) is an executable certificate run by the driver on the table the real compiler
produced (`glr cert`): the structural certificate with right-nulled reduce entries licensed by a ranked list
of nullable symbols (`Cert.nulOk`, proved sound: every listed symbol derives the empty string), the
accessing-symbol check and `Cert.total` for the main automaton.  Regex engines, lexer (string lexer or
adversarial user lexers), whitespace/Layout handling, partial parsing and fuel are arbitrary. -/

open Rustemo Rustemo.Glr

/-- **(a) Soundness of the engine.**  Every tree `Forest::get_tree(i)` + `Tree::build` can return from the forest
    the engine builds is a derivation tree from the start symbol MODULO elision of right-nulled tails
    (`Tree.ValidElided`: at every node the children derive a prefix of the production and every missing symbol
    derives the empty string); its leaves are tokens the engine shifted on the consecutive levels
    0, 1, …, n-1 of the graph structured stack (`LeavesAt`; the kinds of these tokens are the yield); and it is
    the elision of a FULL derivation tree of the start symbol with the same yield. -/
theorem C03_engine_sound (env : Env) (hcert : Cert.glr env.g env.t = true) (partialParse : Bool) (fuel : Nat)
    (r : GlrResult) (h : Glr.parse env partialParse fuel = .ok r) (i : Nat) (tr : Tree)
    (ht : r.getTree i = some tr) :
    tr.ValidElided env.g env.g.startIdx ∧
    (∃ n, LeavesAt r.gss (toksOf tr) 0 n) ∧ (toksOf tr).map (·.kind) = tr.yield ∧
    ∃ full : Tree, full.Valid env.g env.g.startIdx ∧ full.yield = tr.yield ∧ full.ElidedFrom tr := by
  obtain ⟨n, hv, hl⟩ := result_trees_ok (Glr.parse_sound (tableOk_of_cert env hcert) partialParse fuel r h) i tr ht
  exact ⟨hv, ⟨n, hl⟩, toksOf_kinds tr, Tree.complete_elided env.g tr _ hv⟩

/-- the same for the span-free trees of the enumeration model: the forest handed to `Model/Forest.lean` is the
    erasure of the engine's decorated forest, index by index -/
theorem C03_engine_forest_is_erasure (r : GlrResult) (i : Nat) :
    r.forest.getTree i = (r.getTree i).map treeToF ∧ r.forest.solutions = r.droots.sum :=
  ⟨DNList.get_erase _ i, DNList.sum_erase _⟩

/-- the engine's forest satisfies the hypothesis of `C03_forest_enum` (no parent link without solutions — the
    case in which `Tree::children` divides by zero) whenever its unfolding is not cut (acyclic SPPF) -/
theorem C03_engine_forest_wf (env : Env) (hcert : Cert.glr env.g env.t = true) (partialParse : Bool) (fuel : Nat)
    (r : GlrResult) (h : Glr.parse env partialParse fuel = .ok r) (hc : r.droots.hasCut = false) :
    r.forest.roots.WF :=
  forest_wf (Glr.parse_sound (tableOk_of_cert env hcert) partialParse fuel r h) hc

/-- **(b) No panic.**  No `unwrap` / `expect` / index of `glr/parser.rs` and `glr/gss.rs` that the model marks as
    `.panic site` is reachable on a certified table, provided the nested LR layout parser does not panic … -/
theorem C03_engine_no_panic (env : Env) (hcert : Cert.glr env.g env.t = true) (hl : LayoutSafe env)
    (partialParse : Bool) (fuel : Nat) : ∀ site, Glr.parse env partialParse fuel ≠ .panic site :=
  Glr.parse_no_panic env hcert hl partialParse fuel

/-- … which is void for a grammar without a Layout rule … -/
theorem C03_engine_no_panic_no_layout (env : Env) (hcert : Cert.glr env.g env.t = true)
    (hnl : env.t.layoutState = none) (partialParse : Bool) (fuel : Nat) :
    ∀ site, Glr.parse env partialParse fuel ≠ .panic site :=
  Glr.parse_no_panic env hcert (layoutSafe_of_none env hnl) partialParse fuel

/-- … and follows from the LR certificate `Cert.lr` (C15) for tables without right-nulled entries
    (GLR over `LALR` / `LALR_PAGER` tables, Layout rule or not). -/
theorem C03_engine_no_panic_plain_table (env : Env) (hcert : Cert.glr env.g env.t = true)
    (hlr : Cert.lr env.g env.t = true) (partialParse : Bool) (fuel : Nat) :
    ∀ site, Glr.parse env partialParse fuel ≠ .panic site :=
  Glr.parse_no_panic env hcert (layoutSafe_of_lr env hlr) partialParse fuel

/-- **(b), fully certified.**  With the layout automaton covered by the certificate as well (`Cert.glrLayout`:
    it is one of the automata of the structural certificate and passes `Cert.total`; trivially true without a
    Layout rule) no hypothesis is left: the nested LR layout parser is panic free on right-nulled tables too
    (`Proofs/NoPanic.lean::layoutSafe_of_rn`, through `Proofs/GlrCertOk.lean::layoutSafe_of_cert`), so `GlrParser::parse` reaches no panic site, whatever the input, the recognizers,
    the lexer, partial parsing and the fuel. -/
theorem C03_engine_no_panic_certified (env : Env) (hcert : Cert.glr env.g env.t = true)
    (hlay : Cert.glrLayout env.g env.t = true) (partialParse : Bool) (fuel : Nat) :
    ∀ site, Glr.parse env partialParse fuel ≠ .panic site :=
  Glr.parse_no_panic env hcert (layoutSafe_of_cert env hcert hlay) partialParse fuel

/-- **(d) Completeness of the engine, full statement** (theorem `C03_engine_complete`).  For a table passing `Cert.glr`
    and the completeness certificate `Cert.completeRN` (lookahead post-fixpoint: closure and transitions as in
    `Cert.complete`; EVERY right-nulled reduction present for each lookahead of its item; at most one shift per
    cell; STOP never shifted), under the token-level lexer hypothesis `LexDet`: if the token kinds are a sentence, the engine does not
    report an error, and every (acyclic: unfolding not cut) forest it returns contains every derivation tree of the
    sentence modulo elision (`Tree.EqElide`). -/
def C03_engine_complete_statement : Prop :=
  ∀ (env : Env), Cert.glr env.g env.t = true → Cert.completeRN env.g env.t = true →
  ∀ (partialParse : Bool) (fuel n : Nat) (tok : Nat → Tok) (P L : Nat → Pos),
    LexDet env partialParse fuel n tok P L →
  ∀ (full : Tree), full.Valid env.g env.g.startIdx → full.yield = (List.range n).map (fun i => (tok i).kind) →
    (∀ e, Glr.parse env partialParse fuel ≠ .err e) ∧
    ∀ r, Glr.parse env partialParse fuel = .ok r → r.droots.hasCut = false →
      ∃ i tr, r.getTree i = some tr ∧ Tree.EqElide full tr

/-- (c) with the coarse relation `Tree.EqElide` ("equal up to decorations and ANY trailing
    empty-yield children"): two different indices never give `EqElide` trees.  **FALSE** — see
    `C03_engine_no_duplicates_coarse_is_false`. -/
def C03_engine_no_duplicates_coarse_statement : Prop :=
  ∀ (env : Env), Cert.glr env.g env.t = true → Cert.completeRN env.g env.t = true →
  ∀ (partialParse : Bool) (fuel : Nat) (r : GlrResult), Glr.parse env partialParse fuel = .ok r →
  ∀ (i j : Nat) (ti tj : Tree), r.getTree i = some ti → r.getTree j = some tj → Tree.EqElide ti tj → i = j

/-- **The coarse no-duplicates statement is false** (counterexample, kernel-evaluated on the real LALR_RN table of
    `S: Ta A; A: B | C; B: EMPTY; C: EMPTY`, input `a`): the engine returns the two trees `S(a, A(B))` and
    `S(a, A(C))` — two different derivations, both correct (the real parser gives the same two trees) — and they are
    `EqElide`, because `EqElide` identifies any two tails of empty yield.  So "no duplicates" must be stated with
    "elisions of ONE full derivation tree" (`Tree.SameDerivation`, Proofs/GlrElide.lean); this is a defect of the
    coarse statement, not of the engine. -/
theorem C03_engine_no_duplicates_coarse_is_false : ¬ C03_engine_no_duplicates_coarse_statement := by
  intro H
  obtain ⟨r, a, b, hr, ha, hb, hab⟩ := Glr.ExampleNul.dupWitness_sound _ Glr.ExampleNul.dupWitness_run
  have := H Glr.ExampleNul.env Glr.ExampleNul.certs.1 Glr.ExampleNul.certs.2.1 false 9 r hr 0 1 a b ha hb hab
  omega

/-- **(c) No duplicates, full statement**: two different indices of a result (acyclic unfolding) never
    give trees that are elisions of ONE full derivation tree (`Tree.SameDerivation`: same productions and token kinds
    wherever both keep a node; what one of them drops is a tail of empty yield of the common tree). -/
def C03_engine_no_duplicates_statement : Prop :=
  ∀ (env : Env), Cert.glr env.g env.t = true → Cert.completeRN env.g env.t = true →
  ∀ (partialParse : Bool) (fuel : Nat) (r : GlrResult), Glr.parse env partialParse fuel = .ok r →
  r.droots.hasCut = false →
  ∀ (i j : Nat) (ti tj : Tree), r.getTree i = some ti → r.getTree j = some tj → Tree.SameDerivation ti tj → i = j

/-- **(c) No duplicates FROM three facts about the possibility lists** (under `LexDet`).
    Certified table, `LexDet`, `Glr.parse = ok r`, acyclic unfolding.  IF in the result graph every possibility list
    (a) has no repeated node, (b) holds at most one terminal node, (c) holds no two non-terminal nodes of ONE production
    whose children lists are prefix-comparable (`Glr.PossFacts` — what `is_new_solution` and the fold are meant to
    guarantee), and the root list has no repetition, THEN two different indices never give the same derivation
    (`Tree.SameDerivation`).  Proved from the run invariant: one head per (level, state) (`RunInv.hfun`), one edge per
    pair of heads, transitions are functions, every tree below an edge spans exactly the levels of the edge — so two
    children lists that differ first at position `i` lead to heads of different levels there, i.e. to sub-trees of
    different yield length (`Proofs/GlrNoDup.lean::NoDupG.edge_eq`, `U_cross`, `U_nodup`); the index decoding is injective on an enumeration of
    pairwise different derivations (`getTree_nodup`).
    NOT proved: that the run establishes `PossFacts` and a repetition-free root list.  (c) needs more than the fold
    condition: `is_new_solution` treats a possibility of the SAME length as different without comparing it
    (parser.rs:577-593, model `differs`), so "no two equal children lists" rests on "no path is reduced twice", i.e.
    on every (start edge / head, production, length) being queued at most once over the whole reducer run (a history
    invariant; it also needs cells without repeated actions, which no certificate states yet); (b) and the root list
    rest on "every head registers its shift / accept once". -/
theorem C03_engine_no_duplicates_from_poss_facts (env : Env) (hcert : Cert.glr env.g env.t = true)
    (hcomp : Cert.completeRN env.g env.t = true) (partialParse : Bool) (fuel n : Nat) (tok : Nat → Tok) (P L : Nat → Pos)
    (hL : LexDet env partialParse fuel n tok P L) (r : GlrResult) (hr : Glr.parse env partialParse fuel = .ok r)
    (hc : r.droots.hasCut = false) (hp : Glr.PossFacts r.gss) (hroots : r.roots.Nodup)
    (i j : Nat) (ti tj : Tree) (hi : r.getTree i = some ti) (hj : r.getTree j = some tj)
    (hsame : Tree.SameDerivation ti tj) : i = j := by
  exact Glr.parse_nodup (certs_sound hcert hcomp) hL hr hp hroots hc hi hj hsame

/-- The two runs of the engine on the example grammar (real LALR_RN table, Proofs/GlrExample.lean) that the
    non-vacuity examples below speak of, inputs `aa` and `aaa`: each run is evaluated once, for everything that is
    said about its result. -/
theorem run_aa : Glr.nodupHypsB (Glr.parse (Glr.Example.env 2) false 9) = true ∧
    Glr.Example.solutionsOf (Glr.parse (Glr.Example.env 2) false 9) = some 2 := by decide +kernel

theorem run_aaa : Glr.nodupHypsB (Glr.parse (Glr.Example.env 3) false 12) = true ∧
    Glr.Example.solutionsOf (Glr.parse (Glr.Example.env 3) false 12) = some 3 := by decide +kernel

/-- non-vacuity of `C03_engine_no_duplicates_from_poss_facts`: its extra hypotheses (`PossFacts`, repetition-free
    roots, no cut) hold of the engine's result on the ambiguous right-nullable example grammar, input `aaa` (3 trees),
    by evaluation (`possFactsB_sound`); `LexDet` on `aa` is `Glr.Example.lexDet_aa`
    (Proofs/GlrExampleLex.lean). -/
example : Glr.nodupHypsB (Glr.parse (Glr.Example.env 3) false 12) = true := run_aaa.1
example : Glr.nodupHypsB (Glr.parse (Glr.Example.env 2) false 9) = true := run_aa.1

/-- **(d), first step: reduction closure of the GSS** (Scott–Johnstone's key lemma for RNGLR, for
    THIS implementation: FIFO queue, breadth-first path search on the graph as it is when the reduction is
    processed, re-queueing only over a NEW edge, the fold of a solution into a prefix-comparable one).
    One run of the reducer over a sub-frontier (`reducerLoop`, level `F`, lookahead kind `a`) on a certified table,
    started in a state that satisfies the engine invariant `RInv`, the shape invariants `UInv` (one edge per
    pair of heads, one head per state in the sub-frontier, level-internal edges inside the sub-frontier, no head above
    level `F`, no edge to a higher level, every head of the sub-frontier has a lookahead of kind `a`), with
    every queued reduction starting in the sub-frontier (`QSub`) and every chain covered or pending (`RCInv`).
    When the loop ends (`ok`, any fuel) the queue is empty and EVERY chain is COVERED: for every root head `u`
    whose state holds the initial item `[A → . α, a]`, every chain of parent links from `u` spelling a prefix
    `α[0..l)` up to a head of the sub-frontier, with `α[l..]` nullable from the first head of level `F` on and
    the goto state alive on `a`, the edge from the head for `goto(state u, A)` down to `u` carries a possibility of
    that production whose children list is prefix-comparable with the chain.  No reduction path is lost,
    whatever the order in which heads and edges appeared.  This is the statement the fold defect F25, a missing
    re-queue (mutation iii-a) or missing right-nulled table entries (seeded c-C03, excluded by
    `Cert.completeRN`) would violate. -/
theorem C03_engine_reduction_closure (env : Env) (hcert : Cert.glr env.g env.t = true)
    (hcomp : Cert.completeRN env.g env.t = true) (F a fuel : Nat) (rs rs' : RState)
    (hI : RInv env F rs) (hU : UInv F a rs.gss rs.sub) (hq : QSub rs) (hrc : RCInv env F a rs)
    (h : reducerLoop env fuel rs = .ok rs') :
    RInv env F rs' ∧ UInv F a rs'.gss rs'.sub ∧ rs'.queue = [] ∧
    ∀ (u p : Nat) (pr : Prod) (P : List Nat) (s' : Nat), KChain env F a rs'.gss rs'.sub u p pr P s' →
      Covered rs' u p P s' := by
  obtain ⟨k1, _, k3, k4, k5⟩ := reducerLoop_closure (certs_sound hcert hcomp) fuel rs rs' hI hU hq hrc h
  exact ⟨k1, k3, k4, k5⟩

/-- **(d), second step: completeness FROM the closure properties** (the forward induction over the
    derivation tree, Jourdan–Pottier–Leroy's `push_tree` / `push_list` carried out on the graph structured stack).
    Let `r` be a result of the engine on a certified table and suppose that in its graph every level `k ≤ n` is
    *done* (`LevelDone`: the sub-frontier `subs k` is closed under reductions — the conclusion of
    `C03_engine_reduction_closure` —, every shift on `tok k` from it was performed, every head of level `k` whose
    state is alive on `tok k` belongs to it), the start head is in `subs 0`, `tok n` is STOP, and the heads of
    `subs n` that accept on STOP contribute their possibilities to the roots.  Then EVERY derivation tree of the
    token kinds `tok 0 … tok (n-1)` from the start symbol is returned by `getTree` modulo elision (`Tree.EqElide`),
    provided the unfolding is not cut (acyclic SPPF).  Uses the liveness lemma (`live_list`: a state holding an item
    whose rest can start with `a` has an action on `a`, so "no actions ⇒ skip" never drops a needed reduction).
    That the run establishes `LevelDone` for every level under `LexDet` is `Proofs/GlrRunLoop.lean::mainLoop_inv` (used by
    `C03_engine_complete`). -/
theorem C03_engine_complete_from_closure (env : Env) (hcert : Cert.glr env.g env.t = true)
    (hcomp : Cert.completeRN env.g env.t = true) (partialParse : Bool) (fuel : Nat) (r : GlrResult)
    (h : Glr.parse env partialParse fuel = .ok r) (hc : r.droots.hasCut = false)
    (tok : Nat → Tok) (n : Nat) (subs : Nat → SubFrontier)
    (hdone : ∀ k, k ≤ n → LevelDone env r.gss tok k (subs k)) (hstart : (0, 0) ∈ subs 0)
    (hstop : (tok n).kind = 0)
    (hacc : ∀ (s v : Nat), (s, v) ∈ subs n → Action.accept ∈ env.t.cell s 0 →
      ∀ (e : Nat) (ed : Edge), r.gss.edges[e]? = some ed → ed.src = v → ∀ m ∈ ed.poss, m ∈ r.roots)
    (full : Tree) (hv : full.Valid env.g env.g.startIdx) (hy : full.yield = kindsOf tok 0 n) :
    ∃ i tr, r.getTree i = some tr ∧ Tree.EqElide full tr := by
  obtain ⟨hT, hC, hW⟩ := certs_sound hcert hcomp
  have hr := Glr.parse_sound hT partialParse fuel r h
  obtain ⟨s', v, e, ed, m, k, tr, k1, k2, k3, k4, _, k6, k7, k8⟩ :=
    accept_of_allDone ⟨hT, hC, hW, hr.g, hdone⟩ hstart hstop full hv hy
  obtain ⟨i, hi⟩ := getTree_of_root hr hc (hacc s' v k1 k2 e ed k3 k4 m k6) k7
  exact ⟨i, tr, hi, k8⟩

/-- **(d) Completeness of the engine** (the full statement `C03_engine_complete_statement`).
    For a table passing `Cert.glr` and `Cert.completeRN`, under the token-level lexer hypothesis `LexDet` (tokens
    `tok 0 … tok (n-1)`, end token `tok n` of kind STOP; a head of level `i` is offered exactly `tok i` iff its state
    has an action on that kind): if the token kinds are a sentence with derivation tree `full`, then `Glr.parse`
    (any fuel; `partialParse` is free, but with it on `LexDet` hardly ever holds: header of Proofs/GlrLexDet.lean) does NOT return an error, and every result whose SPPF unfolding is not cut
    (acyclic) returns, for some index, a tree equal to `full` modulo elision.  Hence: every derivation tree of the
    sentence is in the forest; a fold defect (F25), a missing re-queue, a lost sub-frontier head, a wrong shift merge,
    an accept that is not recorded or missing right-nulled table entries would each falsify it.
    Proof: run invariant `RunInv` over the main loop (`Proofs/GlrRunLoop.lean::mainLoop_inv`; one level,
    `Proofs/GlrRunLevel.lean::frontierStep_run`): `create_frontier` under `LexDet`
    (`createFrontier_run`), the closure invariant at the start of the reducer (`start_closure`), reduction closure
    (`closureRule`) conjoined with the book-keeping `RB` (shifts/accepts recorded, lower levels framed), the shifter
    (`shifter_run`), persistence of finished levels (`LevelDone.frame`), then `accept_of_allDone` + `getTree_of_root`.
    What it does NOT say: nothing about inputs on which the real lexer is not token-deterministic (`LexDet` is a
    hypothesis, validated by the correspondence runs, not proved of the lexer model); cyclic SPPFs are excluded;
    termination (fuel) is not proved (a `timeout` outcome satisfies the statement vacuously). -/
theorem C03_engine_complete : C03_engine_complete_statement := by
  intro env hcert hcomp pp fuel n tok P L hL full hv hy
  have hK := certs_sound hcert hcomp
  have hgood := parse_complete_roots hK hL full hv hy
  constructor
  · intro e he
    rw [he] at hgood
    exact hgood
  · intro r hr hcut
    rw [hr] at hgood
    obtain ⟨m, k, tr, hm, hinu, heq⟩ := hgood
    obtain ⟨i, hi⟩ := getTree_of_root (Glr.parse_sound hK.table pp fuel r hr) hcut hm hinu
    exact ⟨i, tr, hi, heq⟩

theorem glr_tree_full (env : Env) (hcert : Cert.glr env.g env.t = true) (hcomp : Cert.completeRN env.g env.t = true)
    {pp : Bool} {fuel n : Nat} {tok : Nat → Tok} {P L : Nat → Pos} (hL : LexDet env pp fuel n tok P L)
    {r : GlrResult} (hr : Glr.parse env pp fuel = .ok r) {i : Nat} {tr : Tree} (hi : r.getTree i = some tr) :
    ∃ full : Tree, full.Valid env.g env.g.startIdx ∧ full.yield = C07.kinds n tok ∧ full.ElidedFrom tr := by
  obtain ⟨hve, hy⟩ := parse_trees (certs_sound hcert hcomp) hL hr hi
  obtain ⟨full, hv, hfy, hel⟩ := Tree.complete_elided env.g tr _ hve
  exact ⟨full, hv, hfy.trans hy, hel⟩

theorem example_certs : Cert.glr Glr.Example.g Glr.Example.t = true ∧
    Cert.completeRN Glr.Example.g Glr.Example.t = true := ⟨Glr.Example.certs.1, Glr.Example.certs.2.1⟩

/-- non-vacuity of `C03_engine_complete`: its hypotheses hold of the example grammar (real LALR_RN table) on the input
    `aa` — both certificates, and the lexer hypothesis `LexDet` (tokens `a`, `a`, STOP; proved for ALL heads) … -/
example : LexDet (Glr.Example.env 2) false 9 2 Glr.Example.tok Glr.Example.pos Glr.Example.pos := Glr.Example.lexDet_aa

/-- … so for the derivation `S ⇒ a S A ⇒ a (a S A) A` with every `S`, `A` below EMPTY (one of the two derivations of
    `aa`; the engine's trees elide the trailing EMPTY children) the theorem yields: no error, and the tree is among
    the results modulo elision. -/
def fullAA : Tree :=
  .node 1 default none (.cons (.leaf 1 default (0, 1) none) (.cons
    (.node 1 default none (.cons (.leaf 1 default (1, 1) none) (.cons (.node 2 default none .nil)
      (.cons (.node 4 default none .nil) .nil))))
    (.cons (.node 4 default none .nil) .nil)))

example : (∀ e, Glr.parse (Glr.Example.env 2) false 9 ≠ .err e) ∧
    ∀ r, Glr.parse (Glr.Example.env 2) false 9 = .ok r → r.droots.hasCut = false →
      ∃ i tr, r.getTree i = some tr ∧ Tree.EqElide fullAA tr :=
  C03_engine_complete (Glr.Example.env 2) example_certs.1 example_certs.2 false 9 2 Glr.Example.tok
    Glr.Example.pos Glr.Example.pos Glr.Example.lexDet_aa fullAA
    (Tree.validB_sound _ _ _ (by decide +kernel)) (by decide +kernel)

/-- non-vacuity of the certificates of the closure theorem: the real LALR_RN table of the example grammar -/
example : Cert.completeRN Glr.Example.g Glr.Example.t = true := example_certs.2

/-- non-vacuity: the certificate holds of the table the real compiler builds for the right-nullable ambiguous
    grammar `S: 'a' S A | EMPTY; A: 'a' | EMPTY` (right-nulled reductions `reduce 1 1`, `reduce 1 2`) … -/
example : Cert.glr Glr.Example.g Glr.Example.t = true := example_certs.1

/-- … the engine accepts `aa` and `aaa` with 2 and 3 trees, rejects nothing it should accept … -/
example : Glr.Example.solutionsOf (Glr.parse (Glr.Example.env 2) false 9) = some 2 := run_aa.2
example : Glr.Example.solutionsOf (Glr.parse (Glr.Example.env 3) false 12) = some 3 := run_aaa.2

/-- … and `LayoutSafe` / `Cert.glrLayout` hold of it (no Layout rule). -/
example : (Glr.Example.env 2).t.layoutState = none := rfl
example : Cert.glrLayout Glr.Example.g Glr.Example.t = true := Glr.Example.certs.2.2

end Rustemo.Props.C03
