import Rustemo.Props.C07
import Rustemo.Props.C12Glr
import Rustemo.Props.C01
import Rustemo.Proofs.GlrLexDetWs
import Rustemo.Proofs.LexTokExample
/-!
# C03 / C07 / C12 (GLR) at the byte level: the lexer hypothesis `LexDet` discharged

The completeness-type theorems of the GLR engine (`C03_engine_complete`, Props/C07.lean, Props/C12Glr.lean) carry the
token-level lexer HYPOTHESIS `LexDet`.  For the grammars the checks generate — every terminal a string recognizer
of ONE ASCII character, pairwise distinct, no Layout rule — `LexDet` is PROVED of the lexer model
(`Proofs/GlrLexDet.lean::lexDet_bytes`: `find_lookaheads` = `lexNext` + longest-match / grammar-order filters), so
the theorems below have executable hypotheses only:

* table: `Cert.glr`, `Cert.completeRN` (`Cert.viable` for the error theorem);
* grammar / table: `Cert.singleCharLexer env.g env.t` (the certificate of the LR half, Model/LexTok.lean: one-character
  string terminals, distinct; `sorted_terminals` of a state = its terminals with actions; NO Layout rule);
* run: `charEnvOk env` (default string lexer; recognizer matrix = those recognizers on the input; whitespace skipping
  off, or on with no whitespace byte in the input — the same restriction as `C01_bytes_accept_exactly_checked`),
  `lexUniqueOk env` (grammar-order filter on, or no state lists a terminal twice in `sorted_terminals`) and — only
  where the input is not already assumed to be a sentence — `knownBytes env.g env.input` (every byte is a terminal's
  character).  `glrCharEnvOk env` is the conjunction of the three.
* FULL parse only (`partialParse = false`): with partial parsing `LexDet` is false of the lexer (a state without an
  action on the next token but with one on STOP is offered a synthetic STOP, `stopOrNone`).

The token string is `tokensOf env.g env.input = input.map (charToTerm g)` (one token per byte), the positions are
`bytePos env k` (byte offset `k`).  The second part of the file ("with whitespace between the tokens") drops the
whitespace restriction of `charEnvOk` on the GLR side: hypotheses `charEnvWsOk`, `knownToks`, token string
`tokensOfWs`.  Not claimed: termination (fuel); inputs with a byte that is no terminal's character (for the `ok` /
error theorems), partial parsing, Layout rules, multi-character or regex terminals, user lexers.
-/
namespace Rustemo.Props.C03Bytes
open Rustemo Rustemo.Glr Rustemo.Props.C01 Rustemo.Props.C03 Rustemo.Props.C07 Rustemo.Props.C12Glr

/-- **C03 (d) at the byte level: completeness of the GLR engine, no lexer hypothesis.**  Certified right-nulled table
    of a single-character grammar, string lexer on the bytes: if the tokens of the input are a sentence with derivation
    tree `full`, `Glr.parse` (full parse, any fuel) does not return an error and every result with an acyclic SPPF
    contains `full` modulo elision. -/
theorem C03_bytes_engine_complete (env : Env) (hcert : Cert.glr env.g env.t = true)
    (hcomp : Cert.completeRN env.g env.t = true) (hlex : Cert.singleCharLexer env.g env.t = true)
    (henv : charEnvOk env = true) (huniq : lexUniqueOk env = true) (fuel : Nat)
    (full : Tree) (hv : full.Valid env.g env.g.startIdx) (hy : full.yield = tokensOf env.g env.input) :
    (∀ e, Glr.parse env false fuel ≠ .err e) ∧
    ∀ r, Glr.parse env false fuel = .ok r → r.droots.hasCut = false →
      ∃ i tr, r.getTree i = some tr ∧ Tree.EqElide full tr := by
  have hknown := knownBytes_of_sentence (g := env.g) (input := env.input) ⟨full, hv, hy⟩
  obtain ⟨hL, hk⟩ := lexDet_checked env hlex henv hknown huniq fuel
  exact C03_engine_complete env hcert hcomp false fuel _ _ _ _ hL full hv (by rw [hy, ← hk])

/-- **Sentences never error (GLR, bytes).** -/
theorem C12_glr_bytes_sentences_never_error (env : Env) (hcert : Cert.glr env.g env.t = true)
    (hcomp : Cert.completeRN env.g env.t = true) (hlex : Cert.singleCharLexer env.g env.t = true)
    (henv : charEnvOk env = true) (huniq : lexUniqueOk env = true) (fuel : Nat)
    (hs : Sentence env.g (tokensOf env.g env.input)) : ∀ e, Glr.parse env false fuel ≠ .err e := by
  obtain ⟨full, hv, hy⟩ := hs
  exact (C03_bytes_engine_complete env hcert hcomp hlex henv huniq fuel full hv hy).1

/-- **`ok` only on a sentence, never with an empty forest (GLR, bytes).**  `knownBytes`: every input byte is a
    terminal's character (an input with another byte is outside `LexDet`). -/
theorem C12_glr_bytes_ok_only_on_sentence (env : Env) (hcert : Cert.glr env.g env.t = true)
    (hcomp : Cert.completeRN env.g env.t = true) (hlex : Cert.singleCharLexer env.g env.t = true)
    (henv : charEnvOk env = true) (hknown : knownBytes env.g env.input = true) (huniq : lexUniqueOk env = true)
    (fuel : Nat) (r : GlrResult) (hr : Glr.parse env false fuel = .ok r) :
    Sentence env.g (tokensOf env.g env.input) ∧ r.roots ≠ [] := by
  obtain ⟨hL, hk⟩ := lexDet_checked env hlex henv hknown huniq fuel
  rw [← hk]
  exact C12_glr_ok_only_on_sentence env hcert hcomp false fuel _ _ _ _ hL r hr

/-- a forest from which a tree can be taken ⇒ sentence (GLR, bytes) -/
theorem C12_glr_bytes_nonsentence_not_accepted (env : Env) (hcert : Cert.glr env.g env.t = true)
    (hcomp : Cert.completeRN env.g env.t = true) (hlex : Cert.singleCharLexer env.g env.t = true)
    (henv : charEnvOk env = true) (hknown : knownBytes env.g env.input = true) (huniq : lexUniqueOk env = true)
    (fuel : Nat) (r : GlrResult) (hr : Glr.parse env false fuel = .ok r) (i : Nat) (tr : Tree)
    (_hi : r.getTree i = some tr) : Sentence env.g (tokensOf env.g env.input) :=
  (C12_glr_bytes_ok_only_on_sentence env hcert hcomp hlex henv hknown huniq fuel r hr).1

theorem glrLayout_of_singleChar {g : Grammar} {t : Table} (hlex : Cert.singleCharLexer g t = true) :
    Cert.glrLayout g t = true := by
  unfold Cert.glrLayout; rw [(Cert.singleCharLexer_sound _ _ hlex).noLayout]

/-- **A non-sentence is answered with an error (GLR, bytes)** — whenever the run ends (`hterm`; termination is not
    proved).  `Cert.glrLayout` is void here (no Layout rule). -/
theorem C12_glr_bytes_nonsentence_errors (env : Env) (hcert : Cert.glr env.g env.t = true)
    (hcomp : Cert.completeRN env.g env.t = true) (hlex : Cert.singleCharLexer env.g env.t = true)
    (henv : charEnvOk env = true) (hknown : knownBytes env.g env.input = true) (huniq : lexUniqueOk env = true)
    (fuel : Nat) (hns : ¬ Sentence env.g (tokensOf env.g env.input))
    (hterm : Glr.parse env false fuel ≠ .fuel) : ∃ e, Glr.parse env false fuel = .err e := by
  obtain ⟨hL, hk⟩ := lexDet_checked env hlex henv hknown huniq fuel
  rw [← hk] at hns
  exact C12_glr_nonsentence_errors env hcert hcomp
    (glrLayout_of_singleChar hlex) false fuel _ _ _ _ hL hns hterm

/-- **The error points at the first offending byte (GLR, bytes).**  With `Cert.viable` in addition: an error of
    `Glr.parse` is `expected p ks` at the position `p = bytePos env k` of byte `k` (`p.pos = k ≤ |input|`; `k = |input|`:
    end of input), `ks ≠ []`, the tokens of the first `k` bytes are a viable prefix (no late error) and those of the
    first `k + 1` bytes are not (`k < |input|`), resp. the input is not a sentence (`k = |input|`) (no early error) —
    the statement of the LR half (`C12_error_at_first_offending_token`, Props/C12.lean) for the GLR engine. -/
theorem C12_glr_bytes_error_at_first_offending_token (env : Env) (hcert : Cert.glr env.g env.t = true)
    (hcomp : Cert.completeRN env.g env.t = true)
    (hviab : Cert.viable env.g env.t (autosOf env.g env.t) = true)
    (hlex : Cert.singleCharLexer env.g env.t = true)
    (henv : charEnvOk env = true) (hknown : knownBytes env.g env.input = true) (huniq : lexUniqueOk env = true)
    (fuel : Nat) (e : PErr) (he : Glr.parse env false fuel = .err e) :
    ∃ (k : Nat) (ks : List Nat) (p : Pos), k ≤ env.input.length ∧ e = .expected p ks ∧ p = bytePos env k ∧ p.pos = k ∧
      ks ≠ [] ∧
      ViablePrefix env.g ((tokensOf env.g env.input).take k) ∧
      (k < env.input.length → ¬ ViablePrefix env.g ((tokensOf env.g env.input).take (k + 1))) ∧
      (k = env.input.length → ¬ Sentence env.g (tokensOf env.g env.input)) := by
  obtain ⟨hL, hk⟩ := lexDet_checked env hlex henv hknown huniq fuel
  obtain ⟨k, ks, h1, h2, h3, h4, h5, h6⟩ := error_at_first_offending_of_lexDet env hcert hcomp hviab fuel hL hk e he
  have hn : (tokensOf env.g env.input).length = env.input.length := by simp [tokensOf]
  rw [hn] at h1 h5 h6
  exact ⟨k, ks, bytePos env k, h1, h2, rfl, bytePos_pos env k h1, h3, h4, h5, h6⟩

/-- hence `k` is THE first offending byte: no longer prefix of the token string is viable -/
theorem C12_glr_bytes_error_index_is_first_offending (env : Env) (k : Nat) (hk : k ≤ env.input.length)
    (hlate : k < env.input.length → ¬ ViablePrefix env.g ((tokensOf env.g env.input).take (k + 1))) :
    ∀ j, j ≤ env.input.length → ViablePrefix env.g ((tokensOf env.g env.input).take j) → j ≤ k := by
  intro j hj hv
  rcases Nat.lt_or_ge k j with hlt | hge
  · have := viablePrefix_take hv (k + 1)
    rw [List.take_take, Nat.min_eq_left (by omega)] at this
    exact absurd this (hlate (by omega))
  · exact hge

/-- **GLR accepts iff LR accepts (bytes on the GLR side, tokens on the LR side).**  `t_lr`: a table of the same
    grammar passing `certC01`; `tparse` runs on the tokens of the input. -/
theorem C07_bytes_glr_accepts_iff_lr_accepts (g : Grammar) (t_lr : Table) (hlr : certC01 g t_lr = true)
    (env : Env) (hg : env.g = g) (hcert : Cert.glr env.g env.t = true) (hcomp : Cert.completeRN env.g env.t = true)
    (hlex : Cert.singleCharLexer env.g env.t = true)
    (henv : charEnvOk env = true) (hknown : knownBytes env.g env.input = true) (huniq : lexUniqueOk env = true)
    (fuel : Nat) :
    ((∃ r i tr, Glr.parse env false fuel = .ok r ∧ r.getTree i = some tr) →
      ∃ f lt, tparse g t_lr (tokensOf g env.input) f = .accept lt) ∧
    ((∃ f lt, tparse g t_lr (tokensOf g env.input) f = .accept lt) →
      (∀ e, Glr.parse env false fuel ≠ .err e) ∧
      ∀ r, Glr.parse env false fuel = .ok r → r.droots.hasCut = false → ∃ i tr, r.getTree i = some tr) := by
  obtain ⟨hL, hk⟩ := lexDet_checked env hlex henv hknown huniq fuel
  have := C07_glr_accepts_iff_lr_accepts g t_lr hlr env hg hcert hcomp false fuel _ _ _ _ hL
  rw [show kinds _ _ = _ from hk, hg] at this
  exact this

/-- **GLR accepts iff LR accepts, both on the bytes.**  `envLR`: the LR parser's environment on the same grammar and
    input (its own table, passing `certC01` and `Cert.singleCharLexer`, its own recognizer matrix passing `charEnvOk`).
    (→) a GLR forest from which a tree can be taken ⇒ the byte-level LR parser returns `Ok` for some fuel;
    (←) the LR parser returns `Ok` ⇒ the GLR parser (any fuel) does not return an error and every acyclic forest it
    returns yields a tree.  Here `knownBytes` is needed for (→) only and (←) does not need it, so it is dropped from
    (←) by deriving it from the sentence. -/
theorem C07_bytes_glr_accepts_iff_lr_bytes_accepts (envLR : Env)
    (hlr : (certC01 envLR.g envLR.t && Cert.singleCharLexer envLR.g envLR.t && charEnvOk envLR) = true)
    (env : Env) (hg : env.g = envLR.g) (hin : env.input = envLR.input)
    (hcert : Cert.glr env.g env.t = true) (hcomp : Cert.completeRN env.g env.t = true)
    (hlex : Cert.singleCharLexer env.g env.t = true)
    (henv : charEnvOk env = true) (huniq : lexUniqueOk env = true) (fuel : Nat) :
    (knownBytes env.g env.input = true →
      (∃ r i tr, Glr.parse env false fuel = .ok r ∧ r.getTree i = some tr) →
      ∃ f ctx res, Rustemo.parse envLR false f = (ctx, .ok res)) ∧
    ((∃ f ctx res, Rustemo.parse envLR false f = (ctx, .ok res)) →
      (∀ e, Glr.parse env false fuel ≠ .err e) ∧
      ∀ r, Glr.parse env false fuel = .ok r → r.droots.hasCut = false → ∃ i tr, r.getTree i = some tr) := by
  have hiff := Rustemo.Props.C01.C01_bytes_accept_exactly_checked envLR hlr
  constructor
  · intro hknown ⟨r, i, tr, hr, hi⟩
    have hs := C12_glr_bytes_nonsentence_not_accepted env hcert hcomp hlex henv hknown huniq fuel r hr i tr hi
    rw [hg, hin] at hs
    exact hiff.mpr hs
  · intro h
    have hs := hiff.mp h
    rw [← hg, ← hin] at hs
    obtain ⟨full, hv, hy⟩ := hs
    obtain ⟨h1, h2⟩ := C03_bytes_engine_complete env hcert hcomp hlex henv huniq fuel full hv hy
    refine ⟨h1, ?_⟩
    intro r hr hc
    obtain ⟨i, tr, hi, _⟩ := h2 r hr hc
    exact ⟨i, tr, hi⟩

/-! ## with whitespace between the tokens

`charEnvOk` (shared with the LR half) excludes inputs with whitespace when whitespace skipping is on.  For the GLR
engine the restriction is not needed (`Proofs/GlrLexDetWs.lean`): with `charEnvWsOk env` (= `charEnvOk` without that
clause) the token string is `tokensOfWs env.g env.skipWs env.input` — skip whitespace (`StringLexer::skip`), one token
per byte the lexer stops at (Model/GlrLexCert.lean; equal to `tokensOf` when there is nothing to skip,
`tokensOfWs_noskip`) —, token `k` starts at `tokStart env k`, and `knownToks` says that every byte the lexer stops at
is a terminal's character. -/

/-- C03 (d), bytes with whitespace -/
theorem C03_bytes_ws_engine_complete (env : Env) (hcert : Cert.glr env.g env.t = true)
    (hcomp : Cert.completeRN env.g env.t = true) (hlex : Cert.singleCharLexer env.g env.t = true)
    (henv : charEnvWsOk env = true) (huniq : lexUniqueOk env = true) (fuel : Nat)
    (full : Tree) (hv : full.Valid env.g env.g.startIdx)
    (hy : full.yield = tokensOfWs env.g env.skipWs env.input) :
    (∀ e, Glr.parse env false fuel ≠ .err e) ∧
    ∀ r, Glr.parse env false fuel = .ok r → r.droots.hasCut = false →
      ∃ i tr, r.getTree i = some tr ∧ Tree.EqElide full tr := by
  have hknown := knownBytes_ws_of_sentence (g := env.g) (b := env.skipWs) (input := env.input) ⟨full, hv, hy⟩
  obtain ⟨hL, hk⟩ := lexDet_ws_checked env hlex henv hknown huniq fuel
  exact C03_engine_complete env hcert hcomp false fuel _ _ _ _ hL full hv (by rw [hy, ← hk])

theorem C12_glr_bytes_ws_sentences_never_error (env : Env) (hcert : Cert.glr env.g env.t = true)
    (hcomp : Cert.completeRN env.g env.t = true) (hlex : Cert.singleCharLexer env.g env.t = true)
    (henv : charEnvWsOk env = true) (huniq : lexUniqueOk env = true) (fuel : Nat)
    (hs : Sentence env.g (tokensOfWs env.g env.skipWs env.input)) : ∀ e, Glr.parse env false fuel ≠ .err e := by
  obtain ⟨full, hv, hy⟩ := hs
  exact (C03_bytes_ws_engine_complete env hcert hcomp hlex henv huniq fuel full hv hy).1

theorem C12_glr_bytes_ws_ok_only_on_sentence (env : Env) (hcert : Cert.glr env.g env.t = true)
    (hcomp : Cert.completeRN env.g env.t = true) (hlex : Cert.singleCharLexer env.g env.t = true)
    (henv : charEnvWsOk env = true) (hknown : knownToks env.g env.skipWs env.input = true)
    (huniq : lexUniqueOk env = true) (fuel : Nat) (r : GlrResult) (hr : Glr.parse env false fuel = .ok r) :
    Sentence env.g (tokensOfWs env.g env.skipWs env.input) ∧ r.roots ≠ [] := by
  obtain ⟨hL, hk⟩ := lexDet_ws_checked env hlex henv hknown huniq fuel
  rw [← hk]
  exact C12_glr_ok_only_on_sentence env hcert hcomp false fuel _ _ _ _ hL r hr

theorem C12_glr_bytes_ws_nonsentence_errors (env : Env) (hcert : Cert.glr env.g env.t = true)
    (hcomp : Cert.completeRN env.g env.t = true) (hlex : Cert.singleCharLexer env.g env.t = true)
    (henv : charEnvWsOk env = true) (hknown : knownToks env.g env.skipWs env.input = true)
    (huniq : lexUniqueOk env = true) (fuel : Nat)
    (hns : ¬ Sentence env.g (tokensOfWs env.g env.skipWs env.input))
    (hterm : Glr.parse env false fuel ≠ .fuel) : ∃ e, Glr.parse env false fuel = .err e := by
  obtain ⟨hL, hk⟩ := lexDet_ws_checked env hlex henv hknown huniq fuel
  rw [← hk] at hns
  exact C12_glr_nonsentence_errors env hcert hcomp
    (glrLayout_of_singleChar hlex) false fuel _ _ _ _ hL hns hterm

/-- the error is reported at the START of the first offending token (`tokStart env k`: whitespace in front of it
    skipped; `k` = number of tokens: at the end of the input) -/
theorem C12_glr_bytes_ws_error_at_first_offending_token (env : Env) (hcert : Cert.glr env.g env.t = true)
    (hcomp : Cert.completeRN env.g env.t = true)
    (hviab : Cert.viable env.g env.t (autosOf env.g env.t) = true)
    (hlex : Cert.singleCharLexer env.g env.t = true)
    (henv : charEnvWsOk env = true) (hknown : knownToks env.g env.skipWs env.input = true)
    (huniq : lexUniqueOk env = true) (fuel : Nat) (e : PErr) (he : Glr.parse env false fuel = .err e) :
    ∃ (k : Nat) (ks : List Nat), k ≤ (tokensOfWs env.g env.skipWs env.input).length ∧
      e = .expected (tokStart env k) ks ∧ ks ≠ [] ∧
      ViablePrefix env.g ((tokensOfWs env.g env.skipWs env.input).take k) ∧
      (k < (tokensOfWs env.g env.skipWs env.input).length →
        ¬ ViablePrefix env.g ((tokensOfWs env.g env.skipWs env.input).take (k + 1))) ∧
      (k = (tokensOfWs env.g env.skipWs env.input).length →
        ¬ Sentence env.g (tokensOfWs env.g env.skipWs env.input)) := by
  obtain ⟨hL, hk⟩ := lexDet_ws_checked env hlex henv hknown huniq fuel
  exact error_at_first_offending_of_lexDet env hcert hcomp hviab fuel hL hk e he

theorem C07_bytes_ws_glr_accepts_iff_lr_accepts (g : Grammar) (t_lr : Table) (hlr : certC01 g t_lr = true)
    (env : Env) (hg : env.g = g) (hcert : Cert.glr env.g env.t = true) (hcomp : Cert.completeRN env.g env.t = true)
    (hlex : Cert.singleCharLexer env.g env.t = true)
    (henv : charEnvWsOk env = true) (hknown : knownToks env.g env.skipWs env.input = true)
    (huniq : lexUniqueOk env = true) (fuel : Nat) :
    ((∃ r i tr, Glr.parse env false fuel = .ok r ∧ r.getTree i = some tr) →
      ∃ f lt, tparse g t_lr (tokensOfWs g env.skipWs env.input) f = .accept lt) ∧
    ((∃ f lt, tparse g t_lr (tokensOfWs g env.skipWs env.input) f = .accept lt) →
      (∀ e, Glr.parse env false fuel ≠ .err e) ∧
      ∀ r, Glr.parse env false fuel = .ok r → r.droots.hasCut = false → ∃ i tr, r.getTree i = some tr) := by
  obtain ⟨hL, hk⟩ := lexDet_ws_checked env hlex henv hknown huniq fuel
  have := C07_glr_accepts_iff_lr_accepts g t_lr hlr env hg hcert hcomp false fuel _ _ _ _ hL
  rw [show kinds _ _ = _ from hk, hg] at this
  exact this

/-! ### non-vacuity -/

def termsA : Array Terminal := #[Example3.mkTerm "STOP" none, Example3.mkTerm "Ta" (some (.str "a"))]

/-- the ambiguous right-nullable grammar `S: 'a' S A | EMPTY; A: 'a' | EMPTY` (real LALR_RN table), terminal records
    added -/
def gAmb : Grammar := { Glr.Example.g with terms := termsA }
/-- its environment on the bytes `aa`, string lexer (`charRecog`), whitespace skipping on -/
def envAmb : Env := Example3.envOf gAmb Glr.Example.t [97, 97] true

/-- `S: Ta A; A: B | C; B: EMPTY; C: EMPTY` (language `{a}`), real LALR_RN table, on `aa` -/
def gErr : Grammar := { Glr.ExampleNul.g with terms := termsA }
def envErr : Env := Example3.envOf gErr Glr.ExampleNul.t [97, 97] true

/-- the deterministic grammar `S: A S | EMPTY; A: 'a'` with both real tables, on `aa` -/
def gDet : Grammar := { Glr.ExampleDet.g with terms := termsA }
def envDetRN : Env := Example3.envOf gDet Glr.ExampleDet.tRN [97, 97] true
def envDetLR : Env := Example3.envOf gDet Glr.ExampleDet.tLR [97, 97] true

theorem glrCharEnvOk_iff (env : Env) : glrCharEnvOk env = true ↔
    charEnvOk env = true ∧ knownBytes env.g env.input = true ∧ lexUniqueOk env = true := by
  simp only [glrCharEnvOk, Bool.and_eq_true, and_assoc]

/- The checks of the three tables and of the runs on `aa`, evaluated once each; the examples below take their
   hypotheses from here. -/
theorem tableAmb_ok : Cert.glr gAmb Glr.Example.t = true ∧ Cert.completeRN gAmb Glr.Example.t = true ∧
    Cert.singleCharLexer gAmb Glr.Example.t = true :=
  ⟨(Cert.glr_terms Glr.Example.g _ _).trans Glr.Example.certs.1,
    (Cert.completeRN_terms Glr.Example.g _ _).trans Glr.Example.certs.2.1, by decide +kernel⟩
theorem tableErr_ok : Cert.glr gErr Glr.ExampleNul.t = true ∧ Cert.completeRN gErr Glr.ExampleNul.t = true ∧
    Cert.viable gErr Glr.ExampleNul.t (autosOf gErr Glr.ExampleNul.t) = true ∧
    Cert.singleCharLexer gErr Glr.ExampleNul.t = true :=
  ⟨(Cert.glr_terms Glr.ExampleNul.g _ _).trans Glr.ExampleNul.certs.1,
    (Cert.completeRN_terms Glr.ExampleNul.g _ _).trans Glr.ExampleNul.certs.2.1,
    (Cert.viable_terms Glr.ExampleNul.g _ _).trans Glr.ExampleNul.certs.2.2.1, by decide +kernel⟩
theorem tableDetRN_ok : Cert.glr gDet Glr.ExampleDet.tRN = true ∧ Cert.completeRN gDet Glr.ExampleDet.tRN = true ∧
    Cert.singleCharLexer gDet Glr.ExampleDet.tRN = true :=
  ⟨(Cert.glr_terms Glr.ExampleDet.g _ _).trans exampleDet_certs.2.1,
    (Cert.completeRN_terms Glr.ExampleDet.g _ _).trans exampleDet_certs.2.2.1, by decide +kernel⟩
theorem tableDetLR_ok : certC01 gDet Glr.ExampleDet.tLR = true ∧ Cert.singleCharLexer gDet Glr.ExampleDet.tLR = true ∧
    charEnvOk envDetLR = true :=
  ⟨(certC01_terms Glr.ExampleDet.g _ _).trans exampleDet_certs.1, by decide +kernel, by decide +kernel⟩
theorem envDetLR_ok :
    (certC01 envDetLR.g envDetLR.t && Cert.singleCharLexer envDetLR.g envDetLR.t && charEnvOk envDetLR) = true := by
  simp only [Bool.and_eq_true]
  exact ⟨⟨tableDetLR_ok.1, tableDetLR_ok.2.1⟩, tableDetLR_ok.2.2⟩
theorem envAmb_ok : charEnvOk envAmb = true ∧ knownBytes envAmb.g envAmb.input = true ∧ lexUniqueOk envAmb = true := by
  decide +kernel
theorem envErr_ok : charEnvOk envErr = true ∧ knownBytes envErr.g envErr.input = true ∧ lexUniqueOk envErr = true := by
  decide +kernel
theorem envDetRN_ok : charEnvOk envDetRN = true ∧ knownBytes envDetRN.g envDetRN.input = true ∧ lexUniqueOk envDetRN = true := by
  decide +kernel

theorem fullAA_valid : fullAA.Valid gAmb gAmb.startIdx ∧ fullAA.yield = [1, 1] :=
  ⟨Tree.validB_sound _ _ _ (by decide +kernel), by decide +kernel⟩

/-- every executable hypothesis holds of the three environments -/
example : Cert.glr envAmb.g envAmb.t = true ∧ Cert.completeRN envAmb.g envAmb.t = true ∧
    Cert.singleCharLexer envAmb.g envAmb.t = true ∧ glrCharEnvOk envAmb = true :=
  ⟨tableAmb_ok.1, tableAmb_ok.2.1, tableAmb_ok.2.2, (glrCharEnvOk_iff _).mpr envAmb_ok⟩
example : Cert.glr envErr.g envErr.t = true ∧ Cert.completeRN envErr.g envErr.t = true ∧
    Cert.viable envErr.g envErr.t (autosOf envErr.g envErr.t) = true ∧
    Cert.singleCharLexer envErr.g envErr.t = true ∧ glrCharEnvOk envErr = true :=
  ⟨tableErr_ok.1, tableErr_ok.2.1, tableErr_ok.2.2.1, tableErr_ok.2.2.2, (glrCharEnvOk_iff _).mpr envErr_ok⟩
example : Cert.glr envDetRN.g envDetRN.t = true ∧ Cert.completeRN envDetRN.g envDetRN.t = true ∧
    Cert.singleCharLexer envDetRN.g envDetRN.t = true ∧ glrCharEnvOk envDetRN = true ∧
    (certC01 envDetLR.g envDetLR.t && Cert.singleCharLexer envDetLR.g envDetLR.t && charEnvOk envDetLR) = true :=
  ⟨tableDetRN_ok.1, tableDetRN_ok.2.1, tableDetRN_ok.2.2, (glrCharEnvOk_iff _).mpr envDetRN_ok, envDetLR_ok⟩

example : tokensOf envAmb.g envAmb.input = [1, 1] := by decide +kernel

/-- `LexDet` of `aa` from the checks (what `Glr.Example.lexDet_aa` establishes by evaluating all states) -/
example : LexDet envAmb false 9 2 (byteTok envAmb) (bytePos envAmb) (bytePos envAmb) :=
  (lexDet_checked envAmb tableAmb_ok.2.2 envAmb_ok.1 envAmb_ok.2.1 envAmb_ok.2.2 9).1

/-- C03: the derivation `fullAA` of `aa` (Props/C03.lean) is in every forest of the byte-level run, and the run does
    return a forest with 2 trees -/
example : (∀ e, Glr.parse envAmb false 9 ≠ .err e) ∧
    ∀ r, Glr.parse envAmb false 9 = .ok r → r.droots.hasCut = false →
      ∃ i tr, r.getTree i = some tr ∧ Tree.EqElide fullAA tr :=
  C03_bytes_engine_complete envAmb tableAmb_ok.1 tableAmb_ok.2.1 tableAmb_ok.2.2 envAmb_ok.1 envAmb_ok.2.2 9 fullAA
    fullAA_valid.1 fullAA_valid.2
example : Glr.Example.solutionsOf (Glr.parse envAmb false 9) = some 2 := by decide +kernel

/-- C12: the run on `aa` of the grammar with language `{a}` ends in an error at byte 1 expecting STOP, and the theorem
    applies: `[1]` is a viable prefix, `[1, 1]` is not -/
example : Glr.ExampleErr.errOf (Glr.parse envErr false 9) = some (1, 1, 1, [0]) := by decide +kernel
example :=
  C12_glr_bytes_error_at_first_offending_token envErr tableErr_ok.1 tableErr_ok.2.1 tableErr_ok.2.2.1
    tableErr_ok.2.2.2 envErr_ok.1 envErr_ok.2.1 envErr_ok.2.2 9
example :=
  C12_glr_bytes_ok_only_on_sentence envAmb tableAmb_ok.1 tableAmb_ok.2.1 tableAmb_ok.2.2 envAmb_ok.1 envAmb_ok.2.1 envAmb_ok.2.2 9
example : ∀ e, Glr.parse envAmb false 9 ≠ .err e :=
  C12_glr_bytes_sentences_never_error envAmb tableAmb_ok.1 tableAmb_ok.2.1 tableAmb_ok.2.2 envAmb_ok.1 envAmb_ok.2.2 9
    ⟨fullAA, fullAA_valid.1, fullAA_valid.2⟩

/-- C07: both byte-level parsers accept `aa` -/
example :=
  C07_bytes_glr_accepts_iff_lr_bytes_accepts envDetLR envDetLR_ok envDetRN rfl rfl
    tableDetRN_ok.1 tableDetRN_ok.2.1 tableDetRN_ok.2.2 envDetRN_ok.1 envDetRN_ok.2.2 9
example :=
  C07_bytes_glr_accepts_iff_lr_accepts gDet Glr.ExampleDet.tLR tableDetLR_ok.1 envDetRN rfl
    tableDetRN_ok.1 tableDetRN_ok.2.1 tableDetRN_ok.2.2 envDetRN_ok.1 envDetRN_ok.2.1 envDetRN_ok.2.2 9
example : Glr.Example.solutionsOf (Glr.parse envDetRN false 9) = some 1 ∧
    Example.isOk (Rustemo.parse envDetLR false 50).2 = true := by decide +kernel

/-! non-vacuity of the whitespace versions: `a a\n` (bytes 97 32 97 10), whitespace skipping on -/

def envAmbWs : Env := Example3.envOf gAmb Glr.Example.t [97, 32, 97, 10] true
def envErrWs : Env := Example3.envOf gErr Glr.ExampleNul.t [97, 32, 32, 97] true

theorem glrCharEnvWsOk_iff (env : Env) : glrCharEnvWsOk env = true ↔
    charEnvWsOk env = true ∧ knownToks env.g env.skipWs env.input = true ∧ lexUniqueOk env = true := by
  simp only [glrCharEnvWsOk, Bool.and_eq_true, and_assoc]

theorem envWs_ok : glrCharEnvWsOk envAmbWs = true ∧ glrCharEnvWsOk envErrWs = true ∧ charEnvOk envAmbWs = false ∧
    tokensOfWs envAmbWs.g envAmbWs.skipWs envAmbWs.input = [1, 1] := by decide +kernel

example : glrCharEnvWsOk envAmbWs = true ∧ glrCharEnvWsOk envErrWs = true ∧ charEnvOk envAmbWs = false ∧
    tokensOfWs envAmbWs.g envAmbWs.skipWs envAmbWs.input = [1, 1] := envWs_ok

example : (∀ e, Glr.parse envAmbWs false 9 ≠ .err e) ∧
    ∀ r, Glr.parse envAmbWs false 9 = .ok r → r.droots.hasCut = false →
      ∃ i tr, r.getTree i = some tr ∧ Tree.EqElide fullAA tr :=
  have h := (glrCharEnvWsOk_iff envAmbWs).mp envWs_ok.1
  C03_bytes_ws_engine_complete envAmbWs tableAmb_ok.1 tableAmb_ok.2.1 tableAmb_ok.2.2 h.1 h.2.2 9 fullAA
    fullAA_valid.1 (fullAA_valid.2.trans envWs_ok.2.2.2.symm)
example : Glr.Example.solutionsOf (Glr.parse envAmbWs false 9) = some 2 := by decide +kernel

/-- the error is reported at byte 3 (line 1, column 3): the start of the second `a`, after the two blanks -/
example : Glr.ExampleErr.errOf (Glr.parse envErrWs false 9) = some (3, 1, 3, [0]) ∧
    tokStart envErrWs 1 = ⟨3, 1, 3⟩ := by decide +kernel
example :=
  have h := (glrCharEnvWsOk_iff envErrWs).mp envWs_ok.2.1
  C12_glr_bytes_ws_error_at_first_offending_token envErrWs tableErr_ok.1 tableErr_ok.2.1 tableErr_ok.2.2.1
    tableErr_ok.2.2.2 h.1 h.2.1 h.2.2 9

end Rustemo.Props.C03Bytes
