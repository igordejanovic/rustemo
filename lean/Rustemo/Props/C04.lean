import Rustemo.Proofs.Cover
import Rustemo.Props.Example
/-!
# C04 — the LR table is a faithful core-preserving compression of canonical LR(1)

`Canon.build` (Model/Canon.lean) is the textbook canonical LR(1) construction and is the definition
C04 refers to (trusted base).  `Cover.check` is executed by the driver on every table dumped from the
real compiler (three table types, GLR algorithm so that cells keep every candidate); the theorems
say what a passed check means.  Universality over grammars is by running the verified check on
every generated grammar, not by a theorem about rustemo's construction algorithm (that stretch
theorem, `construction_covers`, is not proved).
-/
namespace Rustemo.Props.C04
open Rustemo Cover

/-- **The certificate is sound**: a passed check establishes the property text for that table. -/
theorem C04_cover_sound (g : Grammar) (t : Table) (au : Canon.Automaton) (rel : List (Nat × Nat))
    (s0 : Nat) (rn : Bool) (h : Cover.verify g t au rel s0 rn = true) :
    FaithfulCompression g t au rel s0 rn := verify_sound g t au rel s0 rn h

/-- what the driver's `cover` command reports as `ok` is exactly a passed `verify` on the relation it
    computed against `Canon.build` -/
theorem C04_check_ok_means_verified (g : Grammar) (t : Table) (s0 aug : Nat) (rn : Bool) (fuel : Nat)
    (h : (Cover.check g t s0 aug rn fuel).ok = true) :
    ∃ rel, FaithfulCompression g t (Canon.build g aug fuel) rel s0 rn := by
  unfold Cover.check at h
  simp only at h
  split at h
  · simp at h
  · rename_i rel hrel
    split at h
    · simp at h
    · exact ⟨rel, verify_sound _ _ _ _ _ _ h⟩

/-- non-vacuity: the hand-compiled table of `S: 'a' S | EMPTY` passes against the canonical
    automaton built by `Canon.build` -/
example : (Cover.check Example.g Example.t 0 0 false 50).ok = true := by decide +kernel

end Rustemo.Props.C04
