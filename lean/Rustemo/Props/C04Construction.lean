import Rustemo.Proofs.TableComplete
import Rustemo.Proofs.TableCerts
import Rustemo.Proofs.TableFuel
import Rustemo.Proofs.TLR
import Rustemo.Props.Example
import Rustemo.Props.C02
import Rustemo.Props.C03
import Rustemo.Props.C14
import Rustemo.Props.C13
/-!
# C01 / C04 (C02, C13–C15 hypotheses) — the table CONSTRUCTION inside the model

`Table.build g s fuel` (Model/Table.lean) is the executable transcription of `LRTable::new`
(rustemo-compiler/src/table/mod.rs: `first_sets`, `LRState::closure`, `calc_states` with `merge_state`
— LALR union and the Pager/Menhir weak-compatibility test —, `propagate_follows`, `calculate_reductions`
through `Resolve.cell`, `sort_terminals`).  It is compared with the table the real compiler builds, whole
table by whole table, by the driver command `table` on every case of C04 and C05 (Tie A, notes/Table.md).

The theorems below hold for EVERY grammar satisfying the decidable well-formedness `Table.gwf`
(what `GrammarBuilder` guarantees; evaluated by the driver on every dumped grammar) and every fuel:
whatever the construction returns passes the certificates the parsing theorems ask for — no
certificate run on the individual table is needed for tables of the model construction.
-/
namespace Rustemo.Props.C04Construction
open Rustemo Rustemo.Table

/-- **The construction never panics** (a): for every well-formed grammar, all settings (three table types,
    both algorithms) and every fuel, no `unwrap` / index / `assert!` / checked arithmetic of `LRTable::new`
    is reached — `first_sets[..]`, `nonterminals[..]`, `assert_eq!(prods.len(), 1)`, `state.actions[..]`,
    `state.gotos[..]`, the `unwrap()` of `merge_state`, `target_item.position - 1` and `self.states[..]`
    of `propagate_follows`, `terminals[..]` (`sort_terminals` has no arithmetic: its key is a pair), and the three sites of
    the conflict resolution (`assert!(shifts.len() <= 1)`, `max_prior_for_term[..]`, `panic!`).  The
    outcome is a table, the diagnostic "First set empty" (`.err`), or `.fuel`. -/
theorem construction_no_panic (g : Grammar) (hg : gwf g = true) (s : Settings) (fuel : Nat) (site : String) :
    build g s fuel ≠ .panic site := by
  rcases build_spec (GW.of_gwf hg) s fuel with ⟨X, hX⟩ | h
  · rw [hX]; nofun
  · exact h.toSafe.ne_panic site

/-- **Fuel only bounds the loops** (a): a result other than `.fuel` is the result for every larger fuel
    (any grammar). `.fuel` itself means one of the five loops (`while additions`, closure `loop`, state
    queue, `while changed`, and the closure refreshes inside it) took more rounds than `fuel`. -/
theorem construction_fuel_monotone (g : Grammar) (s : Settings) (n m : Nat) (hle : n ≤ m)
    (h : build g s n ≠ .fuel) : build g s m = build g s n := by
  unfold build at h ⊢
  refine bind_mono h (firstSets_mono hle) fun fs _ h1 => bind_mono h1 (fun _ => rfl) fun rn _ h2 => ?_
  cases he : emptyFirst fs with
  | some X => rfl
  | none =>
    simp only [he] at h2 ⊢
    exact bind_mono h2 (calcStates_mono hle) fun sts0 _ h3 => bind_mono h3 (layoutStates_mono hle)
      fun ls _ h4 => bind_mono h4 (propagate_mono hle n m _ hle) fun _ _ _ => rfl

/-- **construction_structural** (LALR, LALR_PAGER; both algorithms; any settings, priorities,
    associativities; Layout rule or not).  A table returned by the construction passes the structural
    certificate over all its automata — the hypothesis of C02 (`C02_tree_is_derivation`), C13, C14, C15
    and of the soundness half of C01.  Conflict resolution included: the cells are the resolved ones. -/
theorem construction_structural (g : Grammar) (hg : gwf g = true) (s : Settings) (fuel : Nat) (t : Table)
    (h : build g s fuel = .ok t) (htt : s.tableType ≠ "LALR_RN") :
    Cert.structural g t (autosOf g t) = true :=
  build_structural hg h htt

theorem construction_structural_prop (g : Grammar) (hg : gwf g = true) (s : Settings) (fuel : Nat) (t : Table)
    (h : build g s fuel = .ok t) (htt : s.tableType ≠ "LALR_RN") : Structural g t (autosOf g t) :=
  Cert.structural_sound g t _ (build_structural hg h htt)

/-- **construction_structural, right-nulled form** (all three table types, in particular LALR_RN): the
    structural certificate with the reduce clause of `Cert.glr` — `Reduce(p, len)` needs the item
    `(p, len)`, `len ≤ |rhs p|`, and every symbol of `rhs p` from `len` on nullable — holds, with the
    nullable symbols read off rustemo's own FIRST sets (`rnNul`: EMPTY is a member); and every such symbol
    does derive the empty string, so the proposition `StructuralRN` that the GLR soundness / no-panic
    theorems (C03, C15) use holds of every table of the model construction. -/
theorem construction_structural_rn (g : Grammar) (hg : gwf g = true) (s : Settings) (fuel : Nat) (t : Table)
    (h : build g s fuel = .ok t) :
    Cert.structuralRN g t (autosOf g t) (rnNul g t.firsts) = true ∧ (∀ X ∈ rnNul g t.firsts, Nullable g X) ∧
      StructuralRN g t (autosOf g t) := by
  obtain ⟨_, _, hF⟩ := build_final hg h
  have hn := rnNul_nullable hF.firstsOk
  exact ⟨build_structuralRN hg h, hn, Cert.structuralRN_sound g t _ _ hn (build_structuralRN hg h)⟩

/-- ACCEPT only ever sits in the STOP column (all three table types) -/
theorem construction_accept_on_stop (g : Grammar) (hg : gwf g = true) (s : Settings) (fuel : Nat) (t : Table)
    (h : build g s fuel = .ok t) : ∀ st a, Action.accept ∈ t.cell st a → a = 0 :=
  build_accept_stop hg h

/-- **construction_complete** (LALR, LALR_PAGER; grammar without Layout rule).  If no cell of the
    table ever had two candidates (`Table.rawDeterministic`, computed from items and lookaheads — so no
    priority / associativity / prefer-shift choice was exercised), the table is COMPLETE: closure and
    transitions carry every lookahead in `FIRST(β a)` (semantic FIRST, by derivation trees), every
    completed item has its reduce entry on every lookahead, ACCEPT for the completed augmented item, at
    most one action per cell.  This is the conclusion of the completeness certificate `Cert.complete`
    (`Cert.complete_sound`), obtained here from the exit conditions of the construction's own fixpoint
    loops: `first_sets` (post-fixpoint of the FIRST equations), `LRState::closure` (no `change`),
    `propagate_follows` (no `changed`). -/
theorem construction_complete (g : Grammar) (hg : gwf g = true) (hnl : g.auglIdx = none) (s : Settings)
    (fuel : Nat) (t : Table) (h : build g s fuel = .ok t) (htt : s.tableType ≠ "LALR_RN")
    (hraw : t.rawDeterministic g = true) : Complete g t ∧ GWF g := by
  have hG := GW.of_gwf hg
  obtain ⟨sts, autos, hF⟩ := build_final hg h
  exact ⟨hF.complete hG hnl (hF.rn htt) hraw, GWF_of_GW hG⟩

/-- **C01 for the model construction, no certificate run.**  For every well-formed grammar without
    Layout rule whose LALR / LALR_PAGER table, as the construction builds it, has no cell with two
    candidates: the token-level LR parser over that table accepts exactly the sentences of the grammar,
    and returns the derivation tree. -/
theorem C01_construction_accepts_exactly (g : Grammar) (hg : gwf g = true) (hnl : g.auglIdx = none)
    (s : Settings) (fuel : Nat) (t : Table) (h : build g s fuel = .ok t) (htt : s.tableType ≠ "LALR_RN")
    (hraw : t.rawDeterministic g = true) (w : List Nat) (hnz : ∀ x ∈ w, x ≠ 0) :
    (∃ n tr, tparse g t w n = .accept tr) ↔ Sentence g w :=
  have ⟨hC, hW⟩ := construction_complete g hg hnl s fuel t h htt hraw
  Certified.accepts_exactly ⟨construction_structural_prop g hg s fuel t h htt, hC, hW, build_accept_stop hg h⟩ w hnz

/-- **construction_lookaheads_exact** (d, the part that is proved; all three table types, both algorithms,
    Layout rule or not, Pager splitting included).  Let `sts` be the automaton the construction has built when
    conflict resolution starts (the final table has exactly its items with their lookaheads, its gotos, and of
    its SHIFT entries those that resolution kept).  Then for every state `i`, item `(p, d)` and terminal `a`:

      `a` is a lookahead of `(p, d)` in state `i`   ⟺   `Just g t.firsts autos sts i p d a`,

    where `Just` (Proofs/TableJust.lean) is defined from the grammar, rustemo's FIRST sets and the recorded
    TRANSITIONS alone: STOP on a start item; `gen` — `a ∈ FIRST(β)` for a closure item of a reachable
    `[A → α.Bβ]`; `prop` — β nullable, inside a state; `trans` — along a transition.  So nothing is lost
    (⇐: the sets are closed under the LALR(1) equations — `first_sets`, closure and `propagate_follows` reach
    their fixpoints) and NOTHING IS INVENTED (⇒: every lookahead ever added by closure, `merge_state` or
    `propagate_follows` has such a derivation): the lookahead sets are the LEAST solution of the LALR(1)
    generation / propagation equations over the automaton that was built.  Not proved (C04's remaining step,
    decided per table by `Cover.check`): that this automaton is the merge of the canonical LR(1) automaton and
    that the least solution is the union of the canonical lookaheads. -/
theorem construction_lookaheads_exact (g : Grammar) (hg : gwf g = true) (s : Settings) (fuel : Nat) (t : Table)
    (h : build g s fuel = .ok t) :
    ∃ (sts : Array State) (autos : List (Nat × Nat)), AutosOf g t autos ∧ sts.size = t.states.size ∧
      (∀ (i : Nat) (st' : State), t.states[i]? = some st' → ∃ st, sts[i]? = some st ∧ st'.items = st.items ∧
        st'.gotos = st.gotos ∧
        ∀ a s', Action.shift s' ∈ st'.actions.getD a [] → Action.shift s' ∈ st.actions.getD a []) ∧
      ∀ i p d a, (∃ st it, sts[i]? = some st ∧ it ∈ st.items ∧ it.prod = p ∧ it.dot = d ∧ a ∈ it.la) ↔
        Just g t.firsts autos sts i p d a := by
  obtain ⟨sts, autos, hF⟩ := build_final hg h
  exact ⟨sts, autos, hF.autosOk, hF.size.symm, hF.before, fun i p d a => hF.just_iff⟩

/-- **C02 for every grammar, no certificate run** (LALR, LALR_PAGER; Layout rule or not; with or without
    conflicts resolved by priorities / associativity / prefer-shift; partial parsing on or off; any recognizers;
    any input; any fuel).  Whatever table the model of `LRTable::new` returns for a well-formed grammar, every
    successful run of the byte-level model of `LRParser::parse` on it yields a derivation tree of the start symbol
    whose frontier is exactly the consumed token sequence: `construction_structural` discharges the certificate
    hypothesis of `C02_tree_is_derivation`.  The model table is the real table by the whole-table correspondence
    of C04/C05 (driver command `table`), so for tables of the current compiler C02 does not rest on a
    per-table certificate run alone. -/
theorem C02_construction_tree_is_derivation (g : Grammar) (hg : gwf g = true) (s : Settings) (fuelT : Nat)
    (t : Table) (h : build g s fuelT = .ok t) (htt : s.tableType ≠ "LALR_RN")
    (env : Env) (heg : env.g = g) (het : env.t = t)
    (partialParse : Bool) (fuel : Nat) (ctx : Ctx) (r : ParseResult)
    (hrun : parse env partialParse fuel = (ctx, .ok r)) :
    r.tree.Valid g g.startIdx ∧ r.tree.yield = (r.hist.map (·.kind)).reverse := by
  subst heg het
  exact Props.C02.C02_tree_is_derivation env partialParse fuel ctx r
    (construction_structural env.g hg s fuelT env.t h htt) hrun

/-- the same with ANY non-model "next token" function (user lexers): the tree of every successful run of the parser
    loop over a table of the construction is a derivation tree of the tokens the lexer delivered -/
theorem C02_construction_tree_is_derivation_any_lexer (g : Grammar) (hg : gwf g = true) (s : Settings)
    (fuelT : Nat) (t : Table) (h : build g s fuelT = .ok t) (htt : s.tableType ≠ "LALR_RN")
    (env : Env) (heg : env.g = g) (het : env.t = t)
    (nt : Ctx → Ctx × Outcome Tok) (ctx0 : Ctx) (fuel : Nat) (ctx : Ctx) (r : ParseResult)
    (hrun : parseWith env nt 0 ctx0 fuel = (ctx, .ok r)) :
    r.tree.Valid g g.startIdx ∧ r.tree.yield = (r.hist.map (·.kind)).reverse := by
  subst heg het
  exact Props.C02.C02_tree_is_derivation_any_lexer env nt ctx0 fuel ctx r
    (construction_structural env.g hg s fuelT env.t h htt) hrun

/-- **C03 soundness over tables of the construction** (all three table types, in particular LALR_RN).  For a table
    the model of `LRTable::new` returns, the structural half of `Cert.glr` (`nulOk` + `structuralRN`: every
    right-nulled reduce entry stands on its item and elides only nullable symbols) is `construction_structural_rn`;
    what is left as executable hypotheses are the two table-shape certificates `Cert.symbolsOk` (the recorded state
    symbol is the transition symbol) and `Cert.total` (every index in a cell is in range), which are NOT yet proved
    of the construction.  Then every tree of every successful run of the GLR engine model is the elision of a full
    derivation tree of the start symbol with the same yield. -/
theorem C03_construction_engine_sound_partial (g : Grammar) (hg : gwf g = true) (s : Settings) (fuelT : Nat)
    (t : Table) (h : build g s fuelT = .ok t) (env : Env) (heg : env.g = g) (het : env.t = t)
    (hsym : Cert.symbolsOk g t = true) (htot : Cert.total g t 0 = true)
    (partialParse : Bool) (fuel : Nat) (r : Rustemo.Glr.GlrResult)
    (hrun : Rustemo.Glr.parse env partialParse fuel = .ok r) (i : Nat) (tr : Tree)
    (ht : r.getTree i = some tr) :
    tr.ValidElided g g.startIdx ∧
    ∃ full : Tree, full.Valid g g.startIdx ∧ full.yield = tr.yield ∧ full.ElidedFrom tr := by
  subst heg het
  have hT : Rustemo.Glr.TableOk env :=
    ⟨(construction_structural_rn env.g hg s fuelT env.t h).2.2, Cert.symbolsOk_sound _ _ hsym,
      Cert.total_sound _ _ _ htot⟩
  obtain ⟨n, hv, _⟩ := Rustemo.Glr.result_trees_ok (Rustemo.Glr.parse_sound hT partialParse fuel r hrun) i tr ht
  exact ⟨hv, Tree.complete_elided env.g tr _ hv⟩

/-- **No SHIFT in the STOP column of any constructed table** (all three table types): a SHIFT entry of the final
    table was a SHIFT entry before resolution (`Final.shift_before`), every such entry stands on an item whose symbol after the
    dot is the column (`StC.cellsound`, part of the invariant `InvC` of `calc_states`), and no right-hand side of a
    well-formed grammar contains STOP (`stop_cell_empty`).  This is the hypothesis `Cert.noShiftStop` of C13 / C14, as a proposition. -/
theorem construction_no_shift_stop (g : Grammar) (hg : gwf g = true) (s : Settings) (fuel : Nat) (t : Table)
    (h : build g s fuel = .ok t) : NoShiftStop t := by
  obtain ⟨sts, autos, hF⟩ := build_final hg h
  exact hF.no_shift_stop (GW.of_gwf hg)

/-- **C13 for every grammar, no certificate run** (LALR, LALR_PAGER, LALR_RN tables driven by the LR parser; Layout rule
    or whitespace skipping; partial parsing on or off): the tree of every successful run of the byte-level model of
    `LRParser::parse` over a constructed table satisfies the span specification at every node. -/
theorem C13_construction_lr_spans (g : Grammar) (hg : gwf g = true) (s : Settings) (fuelT : Nat)
    (t : Table) (h : build g s fuelT = .ok t) (env : Env) (het : env.t = t)
    (hc : env.custom = none) (hr : RecogOk env)
    (partialParse : Bool) (fuel : Nat) (ctx : Ctx) (r : ParseResult)
    (hrun : parse env partialParse fuel = (ctx, .ok r)) : r.tree.SpanOk env.input := by
  subst het
  exact parse_spans env ⟨hc, hr, construction_no_shift_stop g hg s fuelT env.t h⟩ partialParse fuel ctx r hrun

/-- **C14 round trip for every grammar, no certificate run** (LALR, LALR_PAGER; whitespace skipping on or off; no
    Layout rule): both certificate hypotheses of `C14_roundtrip` are discharged by the construction theorems. -/
theorem C14_construction_roundtrip (g : Grammar) (hg : gwf g = true) (s : Settings) (fuelT : Nat)
    (t : Table) (h : build g s fuelT = .ok t) (htt : s.tableType ≠ "LALR_RN")
    (env : Env) (heg : env.g = g) (het : env.t = t)
    (hc : env.custom = none) (hl : t.layoutState = none) (hr : RecogOk env)
    (partialParse : Bool) (fuel : Nat) (ctx : Ctx) (r : ParseResult)
    (hrun : parse env partialParse fuel = (ctx, .ok r)) :
    Tree.flat env.input r.tree ++ layBytes env.input ctx.lay = env.input.take ctx.pos.pos := by
  subst heg het
  exact parse_roundtrip env ⟨hc, hr, construction_no_shift_stop env.g hg s fuelT env.t h⟩ hl
    (construction_structural_prop env.g hg s fuelT env.t h htt) partialParse fuel ctx r hrun

/-- **Every SHIFT and GOTO target of a constructed table is a state of the table** (all three table types): two of the
    six clauses of `Cert.total` (`shift_range`, `goto_range` — the runtime's `self.definition.actions(state, ..)` /
    `goto(state, ..)` never index outside the table), from the invariant `Inv.trans` of `calc_states` and the fact that
    resolution only removes SHIFT entries and leaves GOTOs alone. -/
theorem construction_targets_in_range (g : Grammar) (hg : gwf g = true) (s : Settings) (fuel : Nat) (t : Table)
    (h : build g s fuel = .ok t) :
    (∀ i a s', Action.shift s' ∈ t.cell i a → s' < t.states.size) ∧
    (∀ i A s', t.goto g i A = some s' → s' < t.states.size) := by
  obtain ⟨sts, autos, hF⟩ := build_final hg h
  exact hF.targets_in_range

/-- **No REDUCE by an augmented production in any constructed table** (all three table types; the `no_reduce_aug`
    clause of `Cert.total`): the completed augmented item yields ACCEPT, never a reduction — the parser loop's
    `production lhs → goto` lookup after a reduction is never asked for the augmented symbol. -/
theorem construction_no_reduce_aug (g : Grammar) (hg : gwf g = true) (s : Settings) (fuel : Nat) (t : Table)
    (h : build g s fuel = .ok t) :
    ∀ i a p len, Action.reduce p len ∈ t.cell i a → g.isAug p = false := by
  obtain ⟨sts, autos, hF⟩ := build_final hg h
  exact hF.no_reduce_aug

/-! ## non-vacuity: `S: 'a' S | EMPTY` -/

/-- the grammar of `Props/Example.lean` with its terminal records (STOP, `a`) -/
def gT : Grammar := { Example.g with terms := #[
  { name := "STOP", prio := 10, assoc := .none, recog := none, hasContent := false, reachable := false },
  { name := "a", prio := 10, assoc := .none, recog := some (.str "a"), hasContent := false, reachable := true }] }

def lalr : Settings := { tableType := "LALR" }

def skeleton (t : Table) : List (Nat × List Item × List (List Action) × List (Option Nat)) :=
  t.states.toList.map fun st => (st.symbol, st.items, st.actions.toList, st.gotos.toList)

def okAnd (r : Res Table) (p : Table → Bool) : Bool :=
  match r with
  | .ok t => p t
  | _ => false

theorem okAnd_and {r : Res Table} {p q : Table → Bool} (h : okAnd r (fun t => p t && q t) = true) :
    okAnd r p = true ∧ okAnd r q = true := by
  cases r with
  | ok t => exact Bool.and_eq_true_iff.mp h
  | _ => cases h

/-- what the examples below observe of the LALR table of `gT`, in one statement so that `build gT lalr 20` is
    evaluated once -/
theorem gT_lalr : okAnd (build gT lalr 20) (fun t =>
    (skeleton t == skeleton Example.t) && (t.rawDeterministic gT &&
      (Example.isOk (parse { Example.env with g := gT, t := t } false 100).2 &&
        (Cert.noShiftStop t && t.layoutState.isNone)))) = true := by decide +kernel

theorem gT_rn : okAnd (build gT { tableType := "LALR_RN", glr := true } 20) (fun t =>
    ((t.cell 1 0).contains (Action.reduce 1 1) && t.rnLens == some #[0, 1, 0]) &&
      (Cert.symbolsOk gT t && Cert.total gT t 0 &&
        (match Rustemo.Glr.parse { Example.env with g := gT, t := t } false 100 with
         | .ok r => (r.getTree 0).isSome
         | _ => false))) = true := by decide +kernel

/-- the model construction reproduces the hand-compiled table of `Props/Example.lean`: same states in
    the same order, same items and lookaheads, same cells, same gotos (the example table carries no
    lexical data: `sorted_terminals` / max priorities are not compared) -/
example : okAnd (build gT lalr 20) (fun t => skeleton t == skeleton Example.t) = true := (okAnd_and gT_lalr).1

/-- the hypotheses of the theorems hold of it: well-formed grammar, no Layout rule, LALR, the construction
    returns a table, and no cell of it ever had two candidates -/
example : gwf gT = true ∧ gT.auglIdx = none ∧ lalr.tableType ≠ "LALR_RN" ∧
    okAnd (build gT lalr 20) (fun t => t.rawDeterministic gT) = true :=
  ⟨by decide +kernel, rfl, by decide, (okAnd_and (okAnd_and gT_lalr).2).1⟩

/-- the right-nulled table of the same grammar has a right-nulled entry (`S: 'a' . S` reduces with length
    1 on STOP) and the construction returns it with the same fuel -/
example : okAnd (build gT { tableType := "LALR_RN", glr := true } 20)
    (fun t => (t.cell 1 0).contains (Action.reduce 1 1) && t.rnLens == some #[0, 1, 0]) = true := (okAnd_and gT_rn).1

/-- the hypotheses of `C02_construction_tree_is_derivation` are met: the byte-level parser model succeeds on the
    example input over the table the CONSTRUCTION returned (not the hand-compiled one) -/
example : okAnd (build gT lalr 20)
    (fun t => Example.isOk (parse { Example.env with g := gT, t := t } false 100).2) = true :=
  (okAnd_and (okAnd_and (okAnd_and gT_lalr).2).2).1

/-- the hypotheses of `C03_construction_engine_sound_partial` are met: on the right-nulled table the CONSTRUCTION
    returned, both remaining certificates hold and the GLR engine model succeeds with at least one tree -/
example : okAnd (build gT { tableType := "LALR_RN", glr := true } 20)
    (fun t => Cert.symbolsOk gT t && Cert.total gT t 0 &&
      (match Rustemo.Glr.parse { Example.env with g := gT, t := t } false 100 with
       | .ok r => (r.getTree 0).isSome
       | _ => false)) = true := (okAnd_and gT_rn).2

/-- the hypotheses of `C13_construction_lr_spans` / `C14_construction_roundtrip` are met on the constructed table, and
    `construction_no_shift_stop` is observed on it (the successful run
    is the example above; `RecogOk` mentions only `recog` and `input`, those of `Example.env`: example in `Props/C13.lean`) -/
example : okAnd (build gT lalr 20) (fun t => Cert.noShiftStop t && t.layoutState.isNone) = true :=
  (okAnd_and (okAnd_and (okAnd_and gT_lalr).2).2).2

end Rustemo.Props.C04Construction
