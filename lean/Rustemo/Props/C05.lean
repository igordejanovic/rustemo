import Rustemo.Proofs.ResolveClosedForm
import Rustemo.Model.ResolveOps
/-!
# C05 — conflicts resolve by the documented priority/associativity/prefer-shift rules

`Resolve.addReduce` / `Resolve.cell` (`Model/Resolve.lean`) transcribe
`LRTable::calculate_reductions` (rustemo-compiler/src/table/mod.rs) and are tied to the real
compiler by the correspondence check (every cell of every state of every generated grammar);
`Doc.resolveSR` / `Doc.resolveRR` / `Doc.resolveCell` are the documented rule.

`fx : Fixes` says which of the repairs `/verif/notes/C05-fix-{1,2,3}.diff` the modelled code
contains; `Fixes.none` is the code before any repair, `Fixes.current` (used by the driver) the
code in /repo now.  Universal theorems carry the repair they need as a hypothesis on `fx`;
`C05_counterexample_*` show that the hypothesis cannot be dropped: the statement is FALSE of the
unrepaired code (`Fixes.none`), each with a witness replayed against the real compiler
(`/verif/notes/C05.md`).
-/
namespace Rustemo.Props.C05
open Rustemo Rustemo.Resolve

/-- **SHIFT/REDUCE = documented rule** (needs C05-fix-1).  For every priority of the production
    and of the shift (any naturals), every associativity of production and terminal, EMPTY or
    not, every setting, `nops`/`nopse`: the cell `[Shift]` met by a reducing item ends up as the
    documented rule says — the shift alone, the reduction alone, or both (conflict). -/
theorem C05_sr_matches_doc (fx : Fixes) (hfix : fx.termAssoc = true) (cfg : Cfg)
    (info : Nat → PInfo) (ta : Assoc) (sp : Nat) (r : Red) (s : Nat) :
    addReduce fx cfg info ta (some sp) r [.shift s] =
      .ok (keepSR (.shift s) (.reduce r.prod r.pos)
        (Doc.resolveSR (compare (info r.prod).prio sp) (info r.prod).assoc ta
          ((info r.prod).len == 0) cfg.ps cfg.pse (info r.prod).nops (info r.prod).nopse)) :=
  addReduce_single (sh := .shift s) rfl (shp := sp) rfl (.inl hfix)

/-- non-vacuity: `E: E '+' E {left}` against the shift of `+`, equal priority: the reduction stays -/
example : addReduce Fixes.all ⟨false, false, true⟩ (fun _ => { prio := 10, assoc := .left, len := 3 })
    .none (some 10) ⟨1, 3⟩ [.shift 3] = .ok [.reduce 1 3] := rfl

/-- **The same for the code before repair**, outside the defect: whenever the terminal has no
    associativity of its own or the priorities differ. -/
theorem C05_sr_matches_doc_unrepaired (fx : Fixes) (hfix : fx.termAssoc = false) (cfg : Cfg)
    (info : Nat → PInfo) (ta : Assoc) (sp : Nat) (r : Red) (s : Nat)
    (hdom : ta = .none ∨ compare (info r.prod).prio sp ≠ .eq) :
    addReduce fx cfg info ta (some sp) r [.shift s] =
      .ok (keepSR (.shift s) (.reduce r.prod r.pos)
        (Doc.resolveSR (compare (info r.prod).prio sp) (info r.prod).assoc ta
          ((info r.prod).len == 0) cfg.ps cfg.pse (info r.prod).nops (info r.prod).nopse)) :=
  addReduce_single (sh := .shift s) rfl (shp := sp) rfl (.inr hdom)

example : (Assoc.none = Assoc.none ∨ compare 10 10 ≠ Ordering.eq) := .inl rfl

/-- **F1 — terminal-level associativity is inverted (counterexample, code before repair).**
    `Else: 'else' {shift}` (= `right`) at equal priority: the documented rule keeps the shift,
    the code keeps the REDUCTION; with `{reduce}` (= `left`) it is the other way round. -/
theorem C05_counterexample_terminal_assoc :
    addReduce Fixes.none ⟨false, false, true⟩ (fun _ => { len := 4 }) .right (some 10) ⟨1, 4⟩ [.shift 7]
        = .ok [.reduce 1 4] ∧
      Doc.resolveSR (compare 10 10) .none .right false false true false false = .shift ∧
    addReduce Fixes.none ⟨false, false, true⟩ (fun _ => { len := 4 }) .left (some 10) ⟨1, 4⟩ [.shift 7]
        = .ok [.shift 7] ∧
      Doc.resolveSR (compare 10 10) .none .left false false true false false = .reduce :=
  ⟨rfl, rfl, rfl, rfl⟩

/-- **ACCEPT is resolved like a SHIFT of default priority 10.** -/
theorem C05_accept_like_shift (fx : Fixes) (hfix : fx.termAssoc = true) (cfg : Cfg)
    (info : Nat → PInfo) (ta : Assoc) (sp : Option Nat) (r : Red) :
    addReduce fx cfg info ta sp r [.accept] =
      .ok (keepSR .accept (.reduce r.prod r.pos)
        (Doc.resolveSR (compare (info r.prod).prio 10) (info r.prod).assoc ta
          ((info r.prod).len == 0) cfg.ps cfg.pse (info r.prod).nops (info r.prod).nopse)) :=
  addReduce_single (sh := .accept) rfl (shp := 10) rfl (.inl hfix)

example : addReduce Fixes.all ⟨false, false, false⟩ (fun _ => { len := 1 }) .none none ⟨2, 1⟩ [.accept]
    = .ok [.accept, .reduce 2 1] := rfl

/-- **REDUCE/REDUCE = documented rule** (needs C05-fix-3).  The higher priority stays; on equal
    priority GLR keeps both, LR prefers the non-empty one and keeps both otherwise.  Emptiness of
    the reduction already in the cell is read off its length (`len == 0`), of the new one off its
    production; the two notions coincide for LALR / LALR_PAGER tables. -/
theorem C05_rr_matches_doc (fx : Fixes) (hfix : fx.emptyRR = true) (cfg : Cfg) (info : Nat → PInfo)
    (ta : Assoc) (sp : Option Nat) (r : Red) (p1 l1 : Nat) :
    addReduce fx cfg info ta sp r [.reduce p1 l1] =
      .ok (keepRR (.reduce p1 l1) (.reduce r.prod r.pos)
        (Doc.resolveRR cfg.glr (compare (info p1).prio (info r.prod).prio) (l1 == 0)
          ((info r.prod).len == 0))) :=
  addReduce_single_reduce (.inl hfix)

example : addReduce Fixes.all ⟨false, false, false⟩ (fun _ => {}) .none none ⟨2, 0⟩ [.reduce 1 0]
    = .ok [.reduce 1 0, .reduce 2 0] := rfl

/-- **The same for the code before repair**, outside the defect: unless LR, equal priority and
    both reductions EMPTY. -/
theorem C05_rr_matches_doc_unrepaired (fx : Fixes) (hfix : fx.emptyRR = false) (cfg : Cfg)
    (info : Nat → PInfo) (ta : Assoc) (sp : Option Nat) (r : Red) (p1 l1 : Nat)
    (hdom : ¬ (cfg.glr = false ∧ (info p1).prio = (info r.prod).prio ∧ l1 = 0 ∧ (info r.prod).len = 0)) :
    addReduce fx cfg info ta sp r [.reduce p1 l1] =
      .ok (keepRR (.reduce p1 l1) (.reduce r.prod r.pos)
        (Doc.resolveRR cfg.glr (compare (info p1).prio (info r.prod).prio) (l1 == 0)
          ((info r.prod).len == 0))) :=
  addReduce_single_reduce (.inr fun _ hx => List.mem_singleton.mp hx ▸ hdom)

/-- **N1 — LR, two EMPTY reductions of equal priority: the later one silently evicts the earlier
    (counterexample, code before repair).**  `S: A x | B x; A: EMPTY; B: EMPTY;` compiles without
    any conflict; the documented rule has nothing that applies, so both must stay (and the
    conflict be reported).  With a SHIFT in the cell both EMPTY reductions vanish. -/
theorem C05_counterexample_rr_empty_empty :
    addReduce Fixes.none ⟨false, false, false⟩ (fun _ => {}) .none none ⟨4, 0⟩ [.reduce 3 0]
        = .ok [.reduce 4 0] ∧
      Doc.resolveRR false (compare 10 10) true true = .both ∧
    addReduce Fixes.none ⟨false, false, false⟩ (fun _ => {}) .none (some 10) ⟨5, 0⟩ [.shift 1, .reduce 4 0]
        = .ok [.shift 1] :=
  ⟨rfl, rfl, rfl⟩

/-- **Never invents.**  Whatever a cell holds in the end was put there by `calc_states` (`init`),
    is the ACCEPT of the completed augmented item, or is the reduction of one of the reducing
    items that carry the terminal as lookahead.  Any code variant, any history. -/
theorem C05_never_invents (fx : Fixes) (cfg : Cfg) (info : Nat → PInfo) (ta : Assoc)
    (sp : Option Nat) (init : List Action) (evs : List Ev) (c : List Action)
    (h : cell fx cfg info ta sp init evs = .ok c) (a : Action) (ha : a ∈ c) :
    a ∈ init ∨ (a = .accept ∧ Ev.accept ∈ evs) ∨ ∃ r, Ev.red r ∈ evs ∧ a = .reduce r.prod r.pos :=
  mem_cell fx cfg info ta sp evs init c h a ha

example : cell Fixes.none ⟨false, false, false⟩ (fun _ => { len := 1 }) .none (some 10) [.shift 1]
    [.red ⟨1, 1⟩] = .ok [.shift 1, .reduce 1 1] := rfl

/-- **F9 — `assert!(actions.len() == 1)` fires on a three-way conflict (counterexample, code
    before repair).**  Minimal cell: a SHIFT and a reduction of the same priority (kept side by
    side: no associativity, no shift preference), then a reduction of higher priority.  Whole
    history from `[Shift]`; the second assert (associativity arm) fires the same way. -/
theorem C05_counterexample_assert :
    let info : Nat → PInfo := fun p => if p = 5 then { prio := 20, len := 1 } else { len := 1 }
    addReduce Fixes.none ⟨false, false, false⟩ info .none (some 10) ⟨5, 1⟩ [.shift 1, .reduce 4 1]
        = .panic siteLen1Prio ∧
    cell Fixes.none ⟨false, false, false⟩ info .none (some 10) [.shift 1] [.red ⟨4, 1⟩, .red ⟨5, 1⟩]
        = .panic siteLen1Prio ∧
    cell Fixes.none ⟨true, false, false⟩ info .none (some 10) [.shift 1] [.red ⟨4, 1⟩, .red ⟨5, 1⟩]
        = .panic siteLen1Prio ∧
    cell Fixes.none ⟨false, false, false⟩
        (fun p => if p = 5 then { assoc := .left, len := 1 } else { len := 1 }) .none (some 10)
        [.shift 1] [.red ⟨4, 1⟩, .red ⟨5, 1⟩] = .panic siteLen1Assoc :=
  ⟨rfl, rfl, rfl, rfl⟩

/-- The repaired code settles the same history as the documented rule says: the higher priority
    reduction replaces the shift and the lower priority reduction. -/
example : cell Fixes.all ⟨false, false, false⟩
    (fun p => if p = 5 then { prio := 20, len := 1 } else { len := 1 }) .none (some 10)
    [.shift 1] [.red ⟨4, 1⟩, .red ⟨5, 1⟩] = .ok [.reduce 5 1] := rfl

/-- **`assert!(shifts.len() <= 1)` fires when `STOP` is used in a production** (the state then
    gets ACCEPT and SHIFT on STOP from `calc_states`); any code variant.  This is the first
    hypothesis of `C05_resolution_total`; rejecting such grammars is C16's business. -/
theorem C05_counterexample_assert_shifts (fx : Fixes) :
    addReduce fx ⟨false, false, false⟩ (fun _ => { len := 1 }) .none (some 10) ⟨2, 1⟩
      [.accept, .shift 3] = .panic siteShifts := rfl

/-- **Totality** (needs C05-fix-2).  Over a whole history the resolution never panics, provided
    `calc_states` and the augmented item together give the cell at most one SHIFT/ACCEPT (true
    unless `STOP` occurs in a production) and `max_prior_for_term` has an entry when the cell has a
    SHIFT (`group_per_next_symbol` makes one for every terminal right of a dot).  All three
    `assert!`s, the map index and the `panic!` are then unreachable. -/
theorem C05_resolution_total (fx : Fixes) (hfix : fx.noAssert = true) (cfg : Cfg)
    (info : Nat → PInfo) (ta : Assoc) (sp : Option Nat) (init : List Action) (evs : List Ev)
    (h1 : shiftLikes init + accepts evs ≤ 1) (h2 : SpOk sp init) :
    ∃ c, cell fx cfg info ta sp init evs = .ok c :=
  cell_total fx hfix cfg info ta sp evs init h1 h2

example : shiftLikes [.shift 1] + accepts [.red ⟨4, 1⟩, .red ⟨5, 1⟩] ≤ 1 ∧ SpOk (some 10) [.shift 1] :=
  ⟨by decide, .inl (by simp)⟩

/-- **When exactly the code before repair panics** (same two hypotheses): iff the reduction
    overrides the SHIFT/ACCEPT — higher priority, or equal priority and the associativity arm
    that pops — while the cell holds anything besides that SHIFT/ACCEPT. -/
theorem C05_panic_iff_unrepaired (fx : Fixes) (hfix : fx.noAssert = false) (cfg : Cfg)
    (info : Nat → PInfo) (ta : Assoc) (sp : Option Nat) (r : Red) (c : List Action)
    (h1 : shiftLikes c ≤ 1) (h2 : SpOk sp c) :
    (∃ site, addReduce fx cfg info ta sp r c = .panic site) ↔
      (Overrides fx cfg info ta sp r c ∧ 2 ≤ c.length) :=
  (addReduce_panic_iff r h1 h2).trans (and_iff_right hfix)

/-- **Two candidates never panic**, whatever the code variant: a cell of length ≤ 1. -/
theorem C05_two_candidates_total (fx : Fixes) (cfg : Cfg) (info : Nat → PInfo) (ta : Assoc)
    (sp : Option Nat) (r : Red) (c : List Action) (hlen : c.length ≤ 1) (h2 : SpOk sp c) :
    ∃ c', addReduce fx cfg info ta sp r c = .ok c' :=
  addReduce_total r (.inr hlen)
    (Nat.le_trans (List.filter_sublist (l := c) (p := isShiftLike)).length_le hlen) h2

/-- **`max_prior_for_term[t]` is the maximum priority of the productions that shift `t`** in the
    state (items with `t` right of the dot), and is defined exactly when there is such an item. -/
theorem C05_shift_prio_is_max (g : Grammar) (items : List Item) (t : Nat) :
    (maxPrior g items t = none ↔ ∀ it ∈ items, nextSym g it ≠ some t) ∧
    (∀ m, maxPrior g items t = some m →
      (∀ it ∈ items, nextSym g it = some t → (infoOf g it.prod).prio ≤ m) ∧
      (∃ it ∈ items, nextSym g it = some t ∧ (infoOf g it.prod).prio = m)) :=
  ⟨maxPrior_eq_none_iff, fun _ hm => (maxPrior_eq_some_iff.mp hm).symm⟩

/-- **The whole cell = the documented rule, whatever the number and order of the candidates**
    (needs the three repairs).  A SHIFT/ACCEPT `sh` of priority `shp` and reducing items `reds`
    in any order: the incremental algorithm ends with exactly `Doc.resolveCell` — each reduction
    settled against the shift on its own, the shift kept iff no reduction beat it, and of the
    reductions that did not lose to the shift those that no other one beats; same order too.
    `PosOk`: a reduction's length is 0 iff its production is EMPTY (LALR / LALR_PAGER tables).
    `NoMixed`: if some reduction beats the shift, the reductions that lose to the shift lose by
    PRIORITY (not by associativity or shift preference) — see `C05_counterexample_order_mixed`. -/
theorem C05_cell_result (fx : Fixes) (hf1 : fx.termAssoc = true) (hf2 : fx.noAssert = true)
    (hf3 : fx.emptyRR = true) (cfg : Cfg) (info : Nat → PInfo) (ta : Assoc) (sp : Option Nat)
    (sh : Action) (hsh : isShiftLike sh = true) (shp : Nat) (hp : shiftPrio sp sh = some shp)
    (reds : List Red) (hpos : PosOk info reds) (hmix : NoMixed cfg info ta shp reds) :
    cell fx cfg info ta sp [sh] (reds.map .red) =
      .ok (Doc.resolveCell cfg ta (some (sh, shp)) (reds.map (candOf info))) := by
  rw [doc_cell_shift]
  exact cell_eq_invCell hf1 hf2 hf3 hsh hp reds hpos hmix

/-- non-vacuity: the F9 witness (shift, equal-priority reduction, higher-priority reduction) -/
example :
    let info : Nat → PInfo := fun p => if p = 5 then { prio := 20, len := 1 } else { len := 1 }
    PosOk info [⟨4, 1⟩, ⟨5, 1⟩] ∧ NoMixed ⟨false, false, false⟩ info .none 10 [⟨4, 1⟩, ⟨5, 1⟩] ∧
    Doc.resolveCell ⟨false, false, false⟩ .none (some (.shift 1, 10))
      ([⟨4, 1⟩, ⟨5, 1⟩].map (candOf info)) = [.reduce 5 1] := by
  refine ⟨?_, ?_, rfl⟩
  · intro x hx; simp at hx; rcases hx with rfl | rfl <;> rfl
  · intro _ r hr hd
    simp at hr
    rcases hr with rfl | rfl <;> revert hd <;> decide

/-- **No shift in the cell: unconditional** (needs C05-fix-3 only).  Any number of reductions, any
    order: exactly those stay that no other one beats (higher priority; LR: non-empty over EMPTY). -/
theorem C05_cell_result_reductions_only (fx : Fixes) (hf3 : fx.emptyRR = true) (cfg : Cfg)
    (info : Nat → PInfo) (ta : Assoc) (sp : Option Nat) (reds : List Red) (hpos : PosOk info reds) :
    cell fx cfg info ta sp [] (reds.map .red) =
      .ok (Doc.resolveCell cfg ta none (reds.map (candOf info))) := by
  exact (cell_reds reds [] hpos (.inl hf3)).trans (congrArg Outcome.ok (doc_rr_tops reds).symm)

/-- **Order independence.**  Under the hypotheses of `C05_cell_result` (which do not depend on the
    order) the final cell is the same up to the order of its actions for every permutation of the
    reducing items. -/
theorem C05_order_independent (fx : Fixes) (hf1 : fx.termAssoc = true) (hf2 : fx.noAssert = true)
    (hf3 : fx.emptyRR = true) (cfg : Cfg) (info : Nat → PInfo) (ta : Assoc) (sp : Option Nat)
    (sh : Action) (hsh : isShiftLike sh = true) (shp : Nat) (hp : shiftPrio sp sh = some shp)
    (reds reds' : List Red) (hperm : reds.Perm reds') (hpos : PosOk info reds)
    (hmix : NoMixed cfg info ta shp reds) :
    ∃ c c', cell fx cfg info ta sp [sh] (reds.map .red) = .ok c ∧
      cell fx cfg info ta sp [sh] (reds'.map .red) = .ok c' ∧ c.Perm c' := by
  exact ⟨_, _, cell_eq_invCell hf1 hf2 hf3 hsh hp reds hpos hmix,
    cell_eq_invCell hf1 hf2 hf3 hsh hp reds' (hpos.sub fun _ => hperm.mem_iff.mpr)
      (hmix.mono fun _ => hperm.mem_iff.mpr), invCell_perm hperm⟩

/-- Order independence of cells without a shift, unconditional (needs C05-fix-3 only). -/
theorem C05_order_independent_reductions_only (fx : Fixes) (hf3 : fx.emptyRR = true) (cfg : Cfg)
    (info : Nat → PInfo) (ta : Assoc) (sp : Option Nat) (reds reds' : List Red)
    (hperm : reds.Perm reds') (hpos : PosOk info reds) :
    ∃ c c', cell fx cfg info ta sp [] (reds.map .red) = .ok c ∧
      cell fx cfg info ta sp [] (reds'.map .red) = .ok c' ∧ c.Perm c' := by
  exact ⟨_, _, cell_reds reds [] hpos (.inl hf3),
    cell_reds reds' [] (hpos.sub fun _ => hperm.mem_iff.mpr) (.inl hf3), (tops_perm hperm).map _⟩

/-- **Two reductions, code before repair: order independent outside N1** (unless LR, equal
    priority and both EMPTY — `C05_counterexample_order_two`). -/
theorem C05_order_independent_two_unrepaired (fx : Fixes) (hfix : fx.emptyRR = false) (cfg : Cfg)
    (info : Nat → PInfo) (ta : Assoc) (sp : Option Nat) (r1 r2 : Red) (hpos : PosOk info [r1, r2])
    (hdom : ¬ (cfg.glr = false ∧ (info r1.prod).prio = (info r2.prod).prio ∧
      (info r1.prod).len = 0 ∧ (info r2.prod).len = 0)) :
    ∃ c c', cell fx cfg info ta sp [] [.red r1, .red r2] = .ok c ∧
      cell fx cfg info ta sp [] [.red r2, .red r1] = .ok c' ∧ c.Perm c' :=
  ⟨_, _, cell_reds [r1, r2] [] hpos (.inr (List.pairwise_pair.mpr fun h => hdom (h.doc (hpos r1 (by simp))))),
    cell_reds [r2, r1] [] (hpos.sub fun _ hx => (List.Perm.swap r1 r2 []).mem_iff.mp hx)
      (.inr (List.pairwise_pair.mpr fun h =>
        have ⟨a, b, c, d⟩ := h.doc (hpos r2 (by simp)); hdom ⟨a, b.symm, d, c⟩)),
    (tops_perm (.swap r2 r1 [])).map _⟩

/-- **Order matters in the code before repair even for two candidates** (N1): two EMPTY
    reductions of equal priority in LR mode — the later item wins. -/
theorem C05_counterexample_order_two :
    cell Fixes.none ⟨false, false, false⟩ (fun _ => {}) .none none [] [.red ⟨3, 0⟩, .red ⟨4, 0⟩]
        = .ok [.reduce 4 0] ∧
    cell Fixes.none ⟨false, false, false⟩ (fun _ => {}) .none none [] [.red ⟨4, 0⟩, .red ⟨3, 0⟩]
        = .ok [.reduce 3 0] :=
  ⟨rfl, rfl⟩

/-- **`NoMixed` cannot be dropped: order matters for three candidates even after the three
    repairs.**  A shift, a `{left}` and a `{right}` reduction, all of one priority: `left` first
    removes the shift, after which the `right` reduction (which loses to the shift) is no longer
    compared with it and stays — a REDUCE/REDUCE conflict is reported; `right` first gives what the
    documented rule gives, `[left]`.  (Same in the code before repair.) -/
theorem C05_counterexample_order_mixed :
    let info : Nat → PInfo := fun p => if p = 4 then { assoc := .left, len := 1 } else { assoc := .right, len := 1 }
    cell Fixes.all ⟨false, false, false⟩ info .none (some 10) [.shift 1] [.red ⟨4, 1⟩, .red ⟨5, 1⟩]
        = .ok [.reduce 4 1, .reduce 5 1] ∧
    cell Fixes.all ⟨false, false, false⟩ info .none (some 10) [.shift 1] [.red ⟨5, 1⟩, .red ⟨4, 1⟩]
        = .ok [.reduce 4 1] ∧
    Doc.resolveCell ⟨false, false, false⟩ .none (some (.shift 1, 10))
        ([⟨4, 1⟩, ⟨5, 1⟩].map (candOf info)) = [.reduce 4 1] ∧
    cell Fixes.none ⟨false, false, false⟩ info .none (some 10) [.shift 1] [.red ⟨4, 1⟩, .red ⟨5, 1⟩]
        = .ok [.reduce 4 1, .reduce 5 1] :=
  ⟨rfl, rfl, rfl, rfl⟩

/-- **Operator corollary (NOT proved).**  For every table `t` the compiler builds in LR mode
    (`Builds`, the construction model of C04, is a parameter here) for the expression grammar
    `Ops.grammar ops` — binary operators with priorities and left/right associativity,
    parentheses, numbers — and every token string `w`: the LR parse of `w` succeeds iff the
    conventional precedence-climbing parser does, with the same tree.  Decided on generated
    operator tables × strings by the `ops` family of the check (real compiler + real LR runtime
    vs an independent precedence-climbing parser). -/
def C05_operator_statement (Builds : Grammar → Table → Prop) : Prop :=
  ∀ (ops : List Ops.Op) (t : Table), Ops.Consistent ops → Builds (Ops.grammar ops) t →
    ∀ (w : List Nat) (tr : Tree),
      (∃ fuel, (match tparse (Ops.grammar ops) t w fuel with | .accept tr' => tr' = tr | _ => False)) ↔
      (∃ fuel, Ops.parse ops fuel w = some tr)

/-- the reference parser on `n + n * n` with `+`: left 1, `*`: left 2 gives `n + (n * n)` -/
example : Ops.parse [⟨1, false⟩, ⟨2, false⟩] 20 [5, 1, 5, 2, 5] =
    some (Tree.mk 1 [Tree.mk 4 [Tree.tok 5], Tree.tok 1,
      Tree.mk 2 [Tree.mk 4 [Tree.tok 5], Tree.tok 2, Tree.mk 4 [Tree.tok 5]]]) := rfl

end Rustemo.Props.C05
