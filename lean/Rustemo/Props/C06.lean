import Rustemo.Proofs.LexFilters
/-!
# C06 — lexical ambiguity is resolved in the documented order of strategies

`Lex.iter` is the `TokenIterator` (lexer.rs), `Lex.withFlags` the finish flags and `Lex.key` the sort
key of `sort_terminals` (table/mod.rs; the pair `(prio, string length)`, compared lexicographically by
`Lex.KeyLt`), `lrPick` / `glrKeep` the filters of `LRParser::next_token` and
`GlrParser::find_lookaheads`; `m` is an ARBITRARY matching function (which expected terminals match at
the current position, and how long), so the theorems cover every terminal set, every input and every
combination of the switches at once.  The sorted list is certified per state of the real table by
the executable `Lex.sortedOk`: `sortedB` (sorted by key, ties in grammar order), `wftB` (string
recognizers not empty) and flags as computed by `withFlags`.  No bound on the length of a string
recognizer is needed (the key `prio*1000+len` of /repo before 72a21fe needed `len < 1000`, F11).

The last strategy is grammar order: the iterator yields its tokens in strictly
increasing grammar index (`C06_iterator_order`: what it yields is a sublist of the sorted list whose
members all have the same sort key, and the sort breaks ties of the key by grammar index), so the
first of the remaining tokens — the one LR acts on, and the only one GLR keeps with grammar order on —
is the one that comes first in the grammar (`C06_lr_picks_first_in_grammar`,
`C06_glr_grammar_order_is_first`).
-/
namespace Rustemo.Props.C06
open Rustemo.Lex

/-- **Priority, then most specific.**  The iterator yields a terminal iff it matches, no matching
    terminal has a higher priority and — with most-specific on — it is the longest matching string
    recognizer of that priority (first in grammar order among equally long ones) if a string of that
    priority matches at all, and a regex only if none does. -/
theorem C06_iterator_yields_survivors (ms : Bool) (m : Nat → Option Nat) (S : List TermDesc)
    (hs : sortedB ms S = true) (hw : S.all wftB = true) (t : TermDesc) (l : Nat) :
    (t, l) ∈ iter m false (withFlags ms S) ↔ (Survives ms m S t ∧ m t.idx = some l) :=
  iter_survivors (.of_checks hs hw) t l

/-- **Then longest match (LR).**  The token the LR parser acts on is a survivor, of maximal length
    among the survivors if longest-match is on; no token is found iff nothing survives. -/
theorem C06_lr_acts_on (ms longest : Bool) (m : Nat → Option Nat) (S : List TermDesc)
    (hs : sortedB ms S = true) (hw : S.all wftB = true) :
    (∀ t l, lrPick longest (iter m false (withFlags ms S)) = some (t, l) →
        Survives ms m S t ∧ m t.idx = some l ∧
        (longest = true → ∀ u lu, Survives ms m S u → m u.idx = some lu → lu ≤ l)) ∧
    (lrPick longest (iter m false (withFlags ms S)) = none ↔ ∀ u, ¬ Survives ms m S u) := by
  have hS := WF.of_checks hs hw
  obtain ⟨h1, h2⟩ := lrPick_spec longest (iter m false (withFlags ms S))
  refine ⟨fun t l h => ?_, h2.trans (iter_eq_nil_iff hS)⟩
  obtain ⟨hin, hmax⟩ := h1 (t, l) h
  obtain ⟨hsv, hm⟩ := (iter_survivors hS t l).mp hin
  exact ⟨hsv, hm, fun hl => (forall_mem_iter hS _).mp (hmax hl)⟩

/-- **GLR with grammar order off keeps every survivor** (of maximal length if longest-match is on);
    each kept token becomes a head of the frontier. -/
theorem C06_glr_keeps (ms longest : Bool) (m : Nat → Option Nat) (S : List TermDesc)
    (hs : sortedB ms S = true) (hw : S.all wftB = true) (t : TermDesc) (l : Nat) :
    (t, l) ∈ glrKeep longest false (iter m false (withFlags ms S)) ↔
      (Survives ms m S t ∧ m t.idx = some l ∧
       (longest = true → ∀ u lu, Survives ms m S u → m u.idx = some lu → lu ≤ l)) := by
  have hS := WF.of_checks hs hw
  rw [glrKeep_spec, iter_survivors hS, and_assoc]
  exact and_congr_right fun _ => and_congr_right fun _ => imp_congr_right fun _ => forall_mem_iter hS _

/-- with grammar order on, GLR keeps at most one of them -/
theorem C06_glr_grammar_order (longest : Bool) (toks : List (TermDesc × Nat)) (t : TermDesc × Nat)
    (h : t ∈ glrKeep longest true toks) :
    t ∈ glrKeep longest false toks ∧ (glrKeep longest true toks).length ≤ 1 := by
  rw [glrKeep_order_eq] at h ⊢
  exact ⟨List.mem_of_mem_take h, List.length_take_le _ _⟩

/-- the iterator of the byte-level LR model (the one the correspondence check runs against the real
    parser) is `iter` with the recognizers as matching function -/
theorem C06_model_iterator_is_iter (env : Rustemo.Env) (pos : Rustemo.Pos) (L : List (TermDesc × Bool)) :
    (Rustemo.tokenIter env pos (L.map fun (t, f) => (t.idx, f))).map (fun tk => (tk.kind, tk.val.2)) =
    (iter (fun k => env.recog k pos.pos) false L).map (fun (t, l) => (t.idx, l)) :=
  tokenIterAux_eq_iter env pos L false

/-- non-vacuity: a three-terminal state (string `if` prio 10, regex prio 10, regex prio 5), most
    specific on -/
example : sortedB true [⟨1, 10, some 2⟩, ⟨2, 10, none⟩, ⟨3, 5, none⟩] = true ∧
    [⟨1, 10, some 2⟩, ⟨2, 10, none⟩, (⟨3, 5, none⟩ : TermDesc)].all wftB = true := by decide +kernel

/-- no length bound is needed: a string recognizer of 1000 bytes with priority 9 sorts AFTER a regex
    of priority 10 (key `(10, 0) > (9, 1000)` lexicographically; under the key of /repo before 72a21fe,
    `9*1000+1000 = 10*1000+0` the two tied and grammar order put the string first).  The list in
    priority order is sorted and well-formed, the reverse order is not sorted. -/
theorem C06_long_string_does_not_outrank :
    sortedB true [⟨2, 10, none⟩, ⟨1, 9, some 1000⟩] = true ∧
    [⟨2, 10, none⟩, (⟨1, 9, some 1000⟩ : TermDesc)].all wftB = true ∧
    sortedB true [⟨1, 9, some 1000⟩, ⟨2, 10, none⟩] = false := by decide +kernel

/-- and the model of the sort itself puts them in that order, whatever the incoming order -/
example : sortTerms true [⟨1, 9, some 1000⟩, ⟨2, 10, none⟩] = [⟨2, 10, none⟩, ⟨1, 9, some 1000⟩] ∧
    sortTerms true [⟨2, 10, none⟩, ⟨1, 9, some 1000⟩] = [⟨2, 10, none⟩, ⟨1, 9, some 1000⟩] := by decide +kernel

/-- **Finally grammar order: the iterator yields its tokens in grammar order.**  For `a` before `b`
    in the yielded list, `a`'s grammar index is strictly lower than `b`'s: the yielded list is a
    sublist (in order) of the sorted list, all survivors share one sort key, and ties of the key are
    sorted by grammar index. -/
theorem C06_iterator_order (ms : Bool) (m : Nat → Option Nat) (S : List TermDesc)
    (hs : sortedB ms S = true) (hw : S.all wftB = true) :
    (iter m false (withFlags ms S)).Pairwise (fun a b => a.1.idx < b.1.idx) :=
  iter_idx_increasing m (.of_checks hs hw)

/-- non-vacuity: two regexes and a string of the top priority plus a lower one; without most-specific
    all three of the top priority are yielded, in grammar order 1, 2, 4 -/
example :
    sortedB false [⟨1, 10, none⟩, ⟨2, 10, some 2⟩, ⟨4, 10, none⟩, ⟨3, 5, none⟩] = true ∧
    [⟨1, 10, none⟩, ⟨2, 10, some 2⟩, ⟨4, 10, none⟩, (⟨3, 5, none⟩ : TermDesc)].all wftB = true ∧
    iter (fun i => some (i + 1)) false
        (withFlags false [⟨1, 10, none⟩, ⟨2, 10, some 2⟩, ⟨4, 10, none⟩, ⟨3, 5, none⟩]) =
      [(⟨1, 10, none⟩, 2), (⟨2, 10, some 2⟩, 3), (⟨4, 10, none⟩, 5)] := by decide +kernel

/-- non-vacuity with most-specific on: two equally long strings (grammar indices 3 and 5) and two
    regexes (1 and 6) of one priority.  If everything matches only string 3 is yielded (the earlier of
    the two); if no string matches, the regexes are yielded in grammar order 1, 6 -/
example :
    sortedB true [⟨3, 10, some 2⟩, ⟨5, 10, some 2⟩, ⟨1, 10, none⟩, ⟨6, 10, none⟩] = true ∧
    [⟨3, 10, some 2⟩, ⟨5, 10, some 2⟩, ⟨1, 10, none⟩, (⟨6, 10, none⟩ : TermDesc)].all wftB = true ∧
    iter (fun _ => some 2) false
        (withFlags true [⟨3, 10, some 2⟩, ⟨5, 10, some 2⟩, ⟨1, 10, none⟩, ⟨6, 10, none⟩]) =
      [(⟨3, 10, some 2⟩, 2)] ∧
    iter (fun i => if i = 3 ∨ i = 5 then none else some i) false
        (withFlags true [⟨3, 10, some 2⟩, ⟨5, 10, some 2⟩, ⟨1, 10, none⟩, ⟨6, 10, none⟩]) =
      [(⟨1, 10, none⟩, 1), (⟨6, 10, none⟩, 6)] := by decide +kernel

/-- **LR acts on the first in the grammar.**  The token the LR parser acts on is EXACTLY the survivor
    of "priority, then most specific" that passes the longest-match filter (if on) and has the lowest
    grammar index among the survivors that pass it.  (That no token is found iff nothing survives is
    `C06_lr_acts_on`.) -/
theorem C06_lr_picks_first_in_grammar (ms longest : Bool) (m : Nat → Option Nat) (S : List TermDesc)
    (hs : sortedB ms S = true) (hw : S.all wftB = true) (t : TermDesc) (l : Nat) :
    lrPick longest (iter m false (withFlags ms S)) = some (t, l) ↔
      (Survives ms m S t ∧ m t.idx = some l ∧
       (longest = true → ∀ u lu, Survives ms m S u → m u.idx = some lu → lu ≤ l) ∧
       (∀ u lu, Survives ms m S u → m u.idx = some lu → (longest = true → lu = l) →
          t.idx ≤ u.idx)) := by
  have hS := WF.of_checks hs hw
  rw [lrPick_iff_first longest _ (t, l) (iter_idx_increasing m hS), iter_survivors hS, and_assoc]
  exact and_congr_right fun _ => and_congr_right fun _ => and_congr
    (imp_congr_right fun _ => forall_mem_iter hS _) (forall_mem_iter hS _)

/-- non-vacuity, on the list above (terminal `i` matches `i + 1` bytes, except that 2 and 4 both match
    5): without longest match LR acts on terminal 1, the first in the grammar; with longest match
    terminals 2 and 4 tie on the length and LR acts on 2, the earlier of them -/
example :
    lrPick false (iter (fun i => some (if i = 2 then 5 else i + 1)) false
        (withFlags false [⟨1, 10, none⟩, ⟨2, 10, some 2⟩, ⟨4, 10, none⟩, ⟨3, 5, none⟩])) =
      some (⟨1, 10, none⟩, 2) ∧
    lrPick true (iter (fun i => some (if i = 2 then 5 else i + 1)) false
        (withFlags false [⟨1, 10, none⟩, ⟨2, 10, some 2⟩, ⟨4, 10, none⟩, ⟨3, 5, none⟩])) =
      some (⟨2, 10, some 2⟩, 5) := by decide +kernel

/-- **GLR with grammar order on follows exactly the token LR acts on**: what it keeps is the empty
    list or the singleton of the token characterised in `C06_lr_picks_first_in_grammar` (the equation
    holds for any token list; the characterisation for the iterator's). -/
theorem C06_glr_grammar_order_is_first (ms longest : Bool) (m : Nat → Option Nat) (S : List TermDesc)
    (hs : sortedB ms S = true) (hw : S.all wftB = true) :
    glrKeep longest true (iter m false (withFlags ms S)) =
      (lrPick longest (iter m false (withFlags ms S))).toList ∧
    ∀ t l, (t, l) ∈ glrKeep longest true (iter m false (withFlags ms S)) ↔
      (Survives ms m S t ∧ m t.idx = some l ∧
       (longest = true → ∀ u lu, Survives ms m S u → m u.idx = some lu → lu ≤ l) ∧
       (∀ u lu, Survives ms m S u → m u.idx = some lu → (longest = true → lu = l) →
          t.idx ≤ u.idx)) := by
  refine ⟨glrKeep_order_eq_lrPick longest _, fun t l => ?_⟩
  rw [glrKeep_order_eq_lrPick, Option.mem_toList,
    ← C06_lr_picks_first_in_grammar ms longest m S hs hw t l]

/-- non-vacuity, same list and matching function: GLR with grammar order keeps just terminal 2 under
    longest match (2 and 4 tie), and all of 2 and 4 with grammar order off -/
example :
    glrKeep true true (iter (fun i => some (if i = 2 then 5 else i + 1)) false
        (withFlags false [⟨1, 10, none⟩, ⟨2, 10, some 2⟩, ⟨4, 10, none⟩, ⟨3, 5, none⟩])) =
      [(⟨2, 10, some 2⟩, 5)] ∧
    glrKeep true false (iter (fun i => some (if i = 2 then 5 else i + 1)) false
        (withFlags false [⟨1, 10, none⟩, ⟨2, 10, some 2⟩, ⟨4, 10, none⟩, ⟨3, 5, none⟩])) =
      [(⟨2, 10, some 2⟩, 5), (⟨4, 10, none⟩, 5)] := by decide +kernel

end Rustemo.Props.C06
