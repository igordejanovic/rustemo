import Rustemo.Props.C01
import Rustemo.Props.C03
/-!
# C07 — LR and GLR parsers built from the same deterministic grammar agree

**Full statement**: for a grammar that needs no disambiguation the GLR parser
accepts exactly the inputs the LR parser accepts, with exactly one solution, equal to the LR tree up to
elided nullable tails, with the same spans.

Proved in the second half of this file (section "The two engines"), for TWO tables of ONE grammar — `t_lr` passing
`certC01` (deterministic), `env.t` passing `Cert.glr ∧ Cert.completeRN` (right-nulled) — and under the token-level
lexer hypothesis `LexDet` for the GLR run: `C07_glr_accepts_iff_lr_accepts` and
`C07_glr_trees_are_elisions_of_the_lr_tree`.  NOT proved: "exactly one solution" as a COUNT (needs the engine's
no-duplicates statement, C03 (c), proved only from `PossFacts`: `C03_engine_no_duplicates_from_poss_facts`); equality of spans / token values (the relation `Tree.EqElide` ignores decorations;
spans are compared on every generated input); that the GLR run ends (`ok` rather than `timeout`).

First half (about the LR side and the forest API): for a certified deterministic table the LR parser accepts exactly the
sentences (C01) and the tree it returns is **the only** derivation tree of the input
(`C07_lr_tree_is_the_unique_derivation`); and the forest API enumerates each tree of the forest
exactly once (C03).  Hence a GLR forest that contains exactly the derivation trees of the input has exactly one
tree, the LR tree (`C07_single_solution_is_lr_tree`); that the engine's forest is such a forest is C03 (a) and, under
`LexDet`, C03 (d), with the count open as said above.  The comparison of the two real parsers (Ok/Err,
`solutions() = 1`, node-by-node equality incl. spans, modulo elision) is done on every generated input.
-/
namespace Rustemo.Props.C07
open Rustemo Rustemo.Props.C01

/-- The tree the LR parser returns is the unique derivation tree of the input. -/
theorem C07_lr_tree_is_the_unique_derivation (g : Grammar) (t : Table) (hcert : certC01 g t = true)
    (w : List Nat) (fuel : Nat) (tr : Tree) (h : tparse g t w fuel = .accept tr)
    (tx : Tree) (hv : tx.Valid g g.startIdx) (hy : tx.yield = w) : tx.plain = tr := by
  obtain ⟨f2, e2⟩ := C01_sentence_is_accepted g t hcert tx hv
  rw [hy] at e2
  exact TResult.accept.inj (trun_det e2 h TResult.noConfusion TResult.noConfusion)

/-- A GLR forest that contains exactly the derivation trees of a sentence of a certified
    deterministic grammar (each once) has exactly one solution, and it is the LR tree. -/
theorem C07_single_solution_is_lr_tree (g : Grammar) (t : Table) (hcert : certC01 g t = true)
    (w : List Nat) (fuel : Nat) (tr : Tree) (h : tparse g t w fuel = .accept tr)
    (derivs : List Tree)   -- what the forest contains, as plain derivation trees without repetition
    (hd : ∀ tx ∈ derivs, tx.Valid g g.startIdx ∧ tx.yield = w ∧ tx.IsPlain)
    (hnodup : derivs.Nodup) (hne : derivs ≠ [])
    (hplain : ∀ tx : Tree, tx.IsPlain → tx.plain = tx) :
    derivs = [tr] := by
  have hall : ∀ tx ∈ derivs, tx = tr := by
    intro tx htx
    obtain ⟨hv, hy, hp⟩ := hd tx htx
    have := C07_lr_tree_is_the_unique_derivation g t hcert w fuel tr h tx hv hy
    rw [hplain tx hp] at this
    exact this
  match derivs, hne, hnodup, hall with
  | [x], _, _, hall => rw [hall x (by simp)]
  | x :: y :: rest, _, hnd, hall =>
    exfalso
    have hx := hall x (by simp)
    have hy := hall y (by simp)
    rw [List.nodup_cons] at hnd
    exact hnd.1 (by rw [hx, ← hy]; simp)

/-! ## The two engines: GLR on the right-nulled table against LR on the deterministic table

Hypotheses of both theorems, stated once: `g` is the grammar; `t_lr` is a table of `g` that passes `certC01` (what the
LR parser of a conflict-free grammar runs on: LALR / LALR_PAGER); `env` is the GLR environment (any recognizers, any
lexer configuration) with `env.g = g` whose table `env.t` (LALR_RN) passes `Cert.glr` and `Cert.completeRN`; the GLR
run is token-deterministic: `LexDet env pp fuel n tok P L` (n tokens `tok 0 … tok (n-1)` and the STOP token `tok n`;
every head of level `i` is offered exactly `tok i` iff its state has an action on that kind).  `w` = the token kinds,
the input of the token-level LR machine `tparse` of C01. -/

open Rustemo.Glr Rustemo.Props.C03

theorem kinds_ne_zero {env : Env} {pp : Bool} {fuel n : Nat} {tok : Nat → Tok} {P L : Nat → Pos}
    (hL : LexDet env pp fuel n tok P L) : ∀ x ∈ kinds n tok, x ≠ 0 := by
  intro x hx
  unfold kinds at hx
  rw [List.mem_map] at hx
  obtain ⟨i, hi, rfl⟩ := hx
  have := (hL.terms i (List.mem_range.mp hi)).1
  omega

/-- **GLR accepts iff LR accepts.**  (→) if the GLR parser returns a forest from which ANY tree can be taken, the LR
    machine accepts the token string; (←) if the LR machine accepts, the GLR parser does NOT return an error, and
    every forest it returns (acyclic unfolding) yields a tree.  Not claimed: that the GLR run ends (`ok` rather than
    out of fuel). -/
theorem C07_glr_accepts_iff_lr_accepts (g : Grammar) (t_lr : Table) (hlr : certC01 g t_lr = true)
    (env : Env) (hg : env.g = g) (hcert : Cert.glr env.g env.t = true) (hcomp : Cert.completeRN env.g env.t = true)
    (pp : Bool) (fuel n : Nat) (tok : Nat → Tok) (P L : Nat → Pos) (hL : LexDet env pp fuel n tok P L) :
    ((∃ r i tr, Glr.parse env pp fuel = .ok r ∧ r.getTree i = some tr) →
      ∃ f lt, tparse g t_lr (kinds n tok) f = .accept lt) ∧
    ((∃ f lt, tparse g t_lr (kinds n tok) f = .accept lt) →
      (∀ e, Glr.parse env pp fuel ≠ .err e) ∧
      ∀ r, Glr.parse env pp fuel = .ok r → r.droots.hasCut = false → ∃ i tr, r.getTree i = some tr) := by
  constructor
  · rintro ⟨r, i, tr, hr, hi⟩
    obtain ⟨full, hv, hfy, _⟩ := glr_tree_full env hcert hcomp hL hr hi
    exact (C01_lr_accepts_exactly g t_lr hlr _ (kinds_ne_zero hL)).mpr ⟨full, hg ▸ hv, hfy⟩
  · rintro ⟨f, lt, hlt⟩
    obtain ⟨hv, hy⟩ := C01_accepted_is_sentence g t_lr hlr _ (kinds_ne_zero hL) f lt hlt
    rw [← hg] at hv
    obtain ⟨h1, h2⟩ := C03_engine_complete env hcert hcomp pp fuel n tok P L hL lt hv hy
    refine ⟨h1, ?_⟩
    intro r hr hc
    obtain ⟨i, tr, hi, _⟩ := h2 r hr hc
    exact ⟨i, tr, hi⟩

/-- **Every tree of the GLR forest is the LR tree modulo elision.**  If the LR machine accepts the token string with
    tree `lt`, then every tree `tr` that any index of any forest returned by the GLR parser gives is equal to `lt` up
    to decorations and trailing children of empty yield (`Tree.EqElide lt tr`): same productions, same token kinds, in
    the same shape, except for right ends elided by right-nulled reductions.  (Uniqueness of the derivation tree of a
    certified deterministic grammar + engine soundness + "the leaves of a GLR tree are the whole token string".) -/
theorem C07_glr_trees_are_elisions_of_the_lr_tree (g : Grammar) (t_lr : Table) (hlr : certC01 g t_lr = true)
    (env : Env) (hg : env.g = g) (hcert : Cert.glr env.g env.t = true) (hcomp : Cert.completeRN env.g env.t = true)
    (pp : Bool) (fuel n : Nat) (tok : Nat → Tok) (P L : Nat → Pos) (hL : LexDet env pp fuel n tok P L)
    (f : Nat) (lt : Tree) (hlt : tparse g t_lr (kinds n tok) f = .accept lt)
    (r : GlrResult) (hr : Glr.parse env pp fuel = .ok r) (i : Nat) (tr : Tree) (hi : r.getTree i = some tr) :
    Tree.EqElide lt tr := by
  obtain ⟨full, hv, hfy, hel⟩ := glr_tree_full env hcert hcomp hL hr hi
  rw [← C07_lr_tree_is_the_unique_derivation g t_lr hlr _ f lt hlt full (hg ▸ hv) hfy]
  exact Tree.eqElide_plain full tr (Tree.eqElide_of_elidedFrom full tr hel)

/-- hence any two trees of GLR forests of one input are equal modulo elision to ONE full derivation tree (the forest
    holds one derivation; that it holds it ONCE is C03's no-duplicates statement, proved only from `PossFacts`) -/
theorem C07_glr_trees_share_the_lr_tree (g : Grammar) (t_lr : Table) (hlr : certC01 g t_lr = true)
    (env : Env) (hg : env.g = g) (hcert : Cert.glr env.g env.t = true) (hcomp : Cert.completeRN env.g env.t = true)
    (pp : Bool) (fuel n : Nat) (tok : Nat → Tok) (P L : Nat → Pos) (hL : LexDet env pp fuel n tok P L)
    (r : GlrResult) (hr : Glr.parse env pp fuel = .ok r) (i j : Nat) (ti tj : Tree)
    (hi : r.getTree i = some ti) (hj : r.getTree j = some tj) :
    ∃ lt : Tree, lt.Valid g g.startIdx ∧ lt.yield = kinds n tok ∧ Tree.EqElide lt ti ∧ Tree.EqElide lt tj := by
  obtain ⟨f, lt, hlt⟩ := (C07_glr_accepts_iff_lr_accepts g t_lr hlr env hg hcert hcomp pp fuel n tok P L hL).1
    ⟨r, i, ti, hr, hi⟩
  obtain ⟨hv, hy⟩ := C01_accepted_is_sentence g t_lr hlr _ (kinds_ne_zero hL) f lt hlt
  exact ⟨lt, hv, hy,
    C07_glr_trees_are_elisions_of_the_lr_tree g t_lr hlr env hg hcert hcomp pp fuel n tok P L hL f lt hlt r hr i ti hi,
    C07_glr_trees_are_elisions_of_the_lr_tree g t_lr hlr env hg hcert hcomp pp fuel n tok P L hL f lt hlt r hr j tj hj⟩

/-! ### non-vacuity: `S: A S | EMPTY; A: 'a'` with the two tables the real compiler builds (LALR_PAGER for LR, LALR_RN
    for GLR; `Proofs/GlrExampleLex.lean`), input `aa` -/

/-- the two-table hypothesis holds: one grammar, `certC01` of the LR table, `Cert.glr ∧ Cert.completeRN` of the RN
    table (which differs: `reduce 1 1` on STOP in state 1) -/
theorem exampleDet_certs : certC01 ExampleDet.g ExampleDet.tLR = true ∧ Cert.glr ExampleDet.g ExampleDet.tRN = true ∧
    Cert.completeRN ExampleDet.g ExampleDet.tRN = true ∧
    (ExampleDet.tLR.cell 1 0).length = 1 ∧ (ExampleDet.tRN.cell 1 0).length = 2 := by
  decide +kernel

example : certC01 ExampleDet.g ExampleDet.tLR = true ∧ Cert.glr ExampleDet.g ExampleDet.tRN = true ∧
    Cert.completeRN ExampleDet.g ExampleDet.tRN = true ∧
    (ExampleDet.tLR.cell 1 0).length = 1 ∧ (ExampleDet.tRN.cell 1 0).length = 2 := exampleDet_certs

/-- `LexDet` holds of the GLR run on `aa`; the token kinds are `[1, 1]` -/
example : LexDet (ExampleDet.env 2) false 9 2 Example.tok Example.pos Example.pos ∧ kinds 2 Example.tok = [1, 1] :=
  ⟨ExampleDet.lexDet_aa, by decide⟩

/-- the LR machine accepts `[1, 1]` … -/
example : (match tparse ExampleDet.g ExampleDet.tLR [1, 1] 20 with
    | .accept _ => true
    | _ => false) = true := by decide +kernel

/-- … the GLR parser returns a forest with a tree (solutions = 1) … -/
example : Example.solutionsOf (Glr.parse (ExampleDet.env 2) false 9) = some 1 := by decide +kernel

/-- … and the first theorem applies to this run. -/
example := C07_glr_accepts_iff_lr_accepts ExampleDet.g ExampleDet.tLR exampleDet_certs.1 (ExampleDet.env 2) rfl
  exampleDet_certs.2.1 exampleDet_certs.2.2.1 false 9 2 Example.tok Example.pos Example.pos ExampleDet.lexDet_aa

end Rustemo.Props.C07
