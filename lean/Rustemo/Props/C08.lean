import Rustemo.Proofs.GenRun
import Rustemo.Proofs.GenExample
/-!
# C08 — the generated parser source encodes exactly the computed table

`Gen.arrays g t` / `Gen.functions g t` (`Model/Gen.lean`) are the table-bearing items the two part
generators (`generator/arrays.rs`, `generator/functions.rs`) write for grammar `g` and table `t`,
`Gen.enums g t` the four enums of `generator/base.rs`.  `ArrCode.{actionsQ, gotoQ, expectedQ}` and
`FnCode.{actionsQ, gotoQ, expectedQ}` transcribe the constant `impl ParserDefinition` text of each
layout.  Enum values are discriminants (`as usize`): a query `(s, a)` is "the State variant number
`s`, the TokenKind variant number `a`".  `Gen.encode g` writes a table action in that vocabulary
(`Reduce(p, l)` ↦ the `ProdKind` variant generated for production `p`).

All theorems are universal over grammars and tables satisfying the decidable `Gen.WF g t`, which the
driver evaluates on every dump of the real compiler (tie: certificate).  `WF = genOk ∧ namesOk`:
`genOk` = the generator does not panic and rows have the declared widths; `namesOk` = no two variants
of a generated enum have the same name (otherwise rustc rejects the file: finding F13 of C11;
`C08_namesOk_needed` shows the hypothesis cannot be dropped).

Ties to /repo: code-level correspondence (syn extraction of the real generated file = rendering of
`Gen.arrays` / `Gen.functions` / `Gen.enums`, including the constant impl text), behaviour-level
correspondence and oracle (the compiled generated parsers answer every query as the dump says).
-/
namespace Rustemo.Props.C08
open Rustemo Rustemo.Gen

/-- **Nested arrays layout.**  The generator writes a file (no panic) and the file's `actions`,
    `goto` and `expected_token_kinds` answer every (state, token), (state, nonterminal) and state
    query exactly as the table: the same actions in the same order (the `Error` padding is invisible
    to `take_while`), the goto target or a panic where the table has no entry, the sorted terminals
    with their finish flags (the `None` padding is invisible to `map_while`). -/
theorem C08_arrays_faithful (g : Grammar) (t : Table) (h : WF g t = true) :
    ∃ c, arrays g t = some c ∧
      ∀ s a n, s < t.states.size → a < g.nterms → n < g.nnonterms →
        c.actionsQ (enums g t) s a = .ok ((t.cell s a).map (encode g)) ∧
        gotoSpec t s n (c.gotoQ (enums g t) s n) ∧
        c.expectedQ (enums g t) s = .ok (t.sorted s) := by
  have f := arrays_faithful (WF_out h)
  exact ⟨arraysCore g t, by simp [arrays, WF_genOk h],
    fun s a n hs ha hn => ⟨f.actions hs ha, f.goto hs hn, f.expected hs⟩⟩

/-- **Per-state functions layout.**  Same statement: the `match` of the state's action function has
    an arm for every non-empty cell and the `_ => vec![]` arm whenever a cell is empty (so the match
    is exhaustive and never `.ill`), goto functions / `goto_invalid` panic exactly on undefined
    entries. -/
theorem C08_functions_faithful (g : Grammar) (t : Table) (h : WF g t = true) :
    ∃ c, functions g t = some c ∧
      ∀ s a n, s < t.states.size → a < g.nterms → n < g.nnonterms →
        c.actionsQ (enums g t) s a = .ok ((t.cell s a).map (encode g)) ∧
        gotoSpec t s n (c.gotoQ (enums g t) s n) ∧
        c.expectedQ (enums g t) s = .ok (t.sorted s) := by
  have f := functions_faithful (WF_out h)
  exact ⟨functionsCore g t, by simp [functions, WF_genOk h],
    fun s a n hs ha hn => ⟨f.actions hs ha, f.goto hs hn, f.expected hs⟩⟩

/-- `take_while(!Error)` can not cut a real cell short: no table action is written as `Error`
    (`table::Action` has no such variant; `Error` only comes from the `None` padding). -/
theorem C08_no_error_in_cells (g : Grammar) (t : Table) (a : Action) :
    actionToSyntax g t (some a) ≠ .error ∧ (encode g a).notError = true :=
  ⟨by cases a <;> simp [actionToSyntax], encode_notError g a⟩

/-- **The two layouts agree on every query** (equal answers, or both panic). -/
theorem C08_layouts_agree (g : Grammar) (t : Table) (h : WF g t = true) :
    ∃ ca cf, arrays g t = some ca ∧ functions g t = some cf ∧
      ∀ s a n, s < t.states.size → a < g.nterms → n < g.nnonterms →
        (ca.actionsQ (enums g t) s a).agree (cf.actionsQ (enums g t) s a) ∧
        (ca.gotoQ (enums g t) s n).agree (cf.gotoQ (enums g t) s n) ∧
        (ca.expectedQ (enums g t) s).agree (cf.expectedQ (enums g t) s) := by
  have w := WF_out h
  exact ⟨arraysCore g t, functionsCore g t, by simp [arrays, WF_genOk h], by simp [functions, WF_genOk h],
    fun _ _ _ => (arrays_faithful w).agree (functions_faithful w)⟩

/-- **Equal answers ⇒ equal runs.**  The LR runtime (`Model/LR.lean`: `LRParser::parse` with the
    string lexer or a user lexer, whitespace skipping or Layout parser, partial parsing) run on the
    table denoted by the Arrays code, on the table denoted by the Functions code, and on the
    compiler's table gives the same result on every input. -/
theorem C08_layouts_agree_run (env : Env) (h : WF env.g env.t = true) (partialParse : Bool) (fuel : Nat) :
    parse { env with t := arraysTable env.g env.t } partialParse fuel = parse env partialParse fuel ∧
    parse { env with t := functionsTable env.g env.t } partialParse fuel = parse env partialParse fuel := by
  have w := WF_out h
  exact ⟨parse_congr env _ (arraysTable_queryEq w) partialParse fuel,
         parse_congr env _ (functionsTable_queryEq w) partialParse fuel⟩

/-- **Enum order = table order.**  The `s`-th `State` variant is the identifier of state `s`, the
    `a`-th `TokenKind` variant the name of terminal `a`, the `n`-th `NonTermKind` variant the name of
    nonterminal `n`, and each name resolves back to that discriminant (`as usize` = table index).
    `ProdKind` has one variant per production except those of AUG/AUGL, in production order: the
    discriminant of the variant of production `p` is `p` minus the augmented productions before it.
    `NonTermKind::from(ProdKind of p)` is the left-hand side of `p`; `State::default_layout()` is the
    table's layout state. -/
theorem C08_enum_order (g : Grammar) (t : Table) (h : WF g t = true) :
    (∀ s, s < t.states.size →
        (enums g t).states[s]? = some (stateIdent g t s) ∧
        resolve (enums g t).states (stateIdent g t s) = some s) ∧
    (∀ a, a < g.nterms →
        (enums g t).tokens[a]? = some (termName g a) ∧
        resolve (enums g t).tokens (termName g a) = some a) ∧
    (∀ n, n < g.nnonterms →
        (enums g t).nonterms[n]? = some (ntName g n) ∧
        resolve (enums g t).nonterms (ntName g n) = some n) ∧
    (∀ p, p < g.prods.size → skipped g p = false →
        (enums g t).prods[kindIdx g p]? = some (prodKindName g p) ∧
        resolve (enums g t).prods (prodKindName g p) = some (kindIdx g p) ∧
        kindIdx g p + skippedBefore g p = p ∧
        (enums g t).fromQ (kindIdx g p) = .ok (prodNt g p)) ∧
    ((enums g t).states.length = t.states.size ∧ (enums g t).tokens.length = g.nterms ∧
      (enums g t).nonterms.length = g.nnonterms ∧ (enums g t).prods.length = (userProds g).length) ∧
    (enums g t).layoutQ = .ok t.layoutState := by
  have w := WF_out h
  refine ⟨fun s hs => ⟨state_variant hs, resolve_state w hs⟩,
          fun a ha => ⟨token_variant w ha, resolve_token w ha⟩,
          fun n hn => ⟨nonterm_variant w hn, resolve_nonterm w hn⟩,
          ?_, enum_lengths w, layoutQ_eq w⟩
  intro p hp hsk
  have hm : p ∈ userProds g := mem_userProds.mpr ⟨hp, hsk⟩
  exact ⟨prod_variant hm, resolve_prod w hm, kindIdx_add_skipped hm, fromQ_eq w hm⟩

/-- **Array dimensions.**  Every array literal of the Arrays layout has exactly the length its type
    declares (`[[[_; MAX_ACTIONS]; TERMINAL_COUNT]; STATE_COUNT]` …): padding is exact and
    `max_actions - l`, `max_recognizers - sorted_terminals.len()` do not underflow. -/
theorem C08_arrays_dimensions (g : Grammar) (t : Table) (h : WF g t = true) :
    let c := arraysCore g t
    c.actions.length = c.stateCount ∧ c.gotos.length = c.stateCount ∧ c.tokenKinds.length = c.stateCount ∧
    (∀ row ∈ c.actions, row.length = c.terminalCount ∧ ∀ cell ∈ row, cell.length = c.maxActions) ∧
    (∀ row ∈ c.gotos, row.length = c.nonterminalCount) ∧
    (∀ row ∈ c.tokenKinds, row.length = c.maxRecognizers) :=
  arrays_dimensions (WF_out h)

/-- non-vacuity: the GLR table of `S: S S | Ta;` (a two-action cell, padded cells, states with and
    without the catch-all arm, states with and without goto function) is well-formed, and the two
    layouts answer e.g. the ambiguous cell (state 3, token `Ta`) with both actions in table order -/
example : WF Example.g Example.t = true ∧
    (arraysCore Example.g Example.t).actionsQ (enums Example.g Example.t) 3 1 = .ok [.shift 1, .reduce 0 2] ∧
    (functionsCore Example.g Example.t).actionsQ (enums Example.g Example.t) 3 1 = .ok [.shift 1, .reduce 0 2] ∧
    (arraysCore Example.g Example.t).maxActions = 2 ∧
    ((functionsCore Example.g Example.t).actionFns.map (·.catchAll)) = [true, false, false, false] ∧
    (functionsCore Example.g Example.t).gotoQ (enums Example.g Example.t) 1 2 = .panic "Invalid GOTO entry!" := by
  decide +kernel

/-- **`namesOk` is needed** (finding F13 of C11 seen from C08): for `S: S S {P2} | Ta;` both
    productions get the variant name `SP2`; `genOk` holds, the generator writes the file, but the path
    `PK::SP2` of the reduction by production 2 denotes the first variant, i.e. production 1 (rustc in
    fact rejects the duplicate variant). -/
theorem C08_namesOk_needed :
    genOk Example.gDup Example.t = true ∧ namesOk Example.gDup Example.t = false ∧
    (arraysCore Example.gDup Example.t).actionsQ (enums Example.gDup Example.t) 1 0 = .ok [.reduce 0 1] ∧
    (Example.t.cell 1 0).map (encode Example.gDup) = [.reduce 1 1] := by
  decide +kernel

end Rustemo.Props.C08
