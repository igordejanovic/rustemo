import Rustemo.Proofs.FrontClasses
import Rustemo.Proofs.FrontExamples
/-!
# C09 — the grammar the compiler analyses is the grammar the user wrote
# (and the grammar-builder part of C16 — the compiler is total)

`Front.build fx f`
(`Model/Front/Build.lean`) transcribes `GrammarBuilder::try_from_file` of
`rustemo-compiler/src/grammar/builder.rs` on the File AST `f` that `rustemo_actions.rs` builds; it is tied
to the real front end by the correspondence check of `tools/props/c09.py` (grammar records of the hook's
`dump_grammar_only` on the rendered text vs
`Front.build` on the serialised AST, error kind and panic site included).

`fx : Fixes` selects the variant of the code: `{}` (all flags off) is the code of `/repo` as the model
was written against, each flag is one proposed repair (`notes/C09-fix-*.diff`), `Front.repoVariant`
is what `/repo` contains now.  All theorems are universal over the variant and over ASTs; their
hypotheses are decidable classes of ASTs (`Model/Front/Wf.lean`, reported per case by the driver's
`front class`), each one forced by a witness proved here (`*_counterexample`, `*_witness`) except N2, a rule named
like a terminal (`hrt` of `C09_first_rule_is_start`), which has none:

* `Clean fx f` — no rule without alternative (no text produces one); helper names unambiguous among the uses (F5
  `sepClash`); and, each only for variants that do not report it as a diagnostic: terminal names pairwise
  different (N1, `dupNameErr`), helper names different from all rule and terminal names (F5b `helperCapture`,
  `helperClashErr`), no rule named `EMPTY`/`AUG`/`AUGL` (N3, `reservedErr`).  For the repaired variants these
  facts are derived from the checks a successful run has passed (`Clean.derived`).
  `clean_of_classes`: it follows from the driver's class predicates being false; `C09_clean_of_repaired`.
* `Regular fx f` — the part of `Clean` the index structure needs (`Clean.regular`).
* `Safe fx f` — the classes of the panic witnesses (F9), `C16_safe_of_classes`.

What is documented but NOT what the code does is stated for the repaired variant and refuted for the
current one: associativity inheritance (F2), the fate of a named `EMPTY` (F18), helper sharing (F5).
-/
namespace Rustemo.Props.C09
open Rustemo.Front

/-! ## 1. Every BNF alternative becomes exactly one production, symbols in order -/

/-- **alternatives are productions.**  For every rule name `n` the built grammar has a nonterminal
named `n` (at the position of its index) whose production list is *exactly* the productions of that
nonterminal (`idxsOf`) and corresponds, one to one and in order, to the alternatives of the rules named
`n` (`doneOf n (allDone …)`): the production of an alternative has that nonterminal, the alternative's
position as `ntidx`, the alternative's symbols in order — every assignment except an unnamed `EMPTY`,
with its name and `?=` flag, a plain reference as written, sugar as its helper rule
(`codeAltSyms`/`Doc.refSym`) — and the fields the inherited meta-data denote (`IsAltProd`). -/
theorem C09_alternatives_are_productions (fx : Fixes) (f : File) (g : Grammar) (hc : Clean fx f)
    (h : build fx f = .ok g) (n : Name) (hn : n ∈ ruleNamesOf f) :
    ∃ nt : NonTerm, g.nonterminals[nt.idx]? = some nt ∧ nt.name = n ∧
      nt.prods = idxsOf g.prods nt.idx ∧
      All2 (IsAltProd fx f g nt.idx) nt.prods (doneOf n (allDone f.ruleList)) := by
  obtain ⟨F⟩ := build_facts hc.regular h
  have hcons := build_consistent hc.regular h
  have hrl := F.ruleList
  have hmm : staticMatches fx f = (ctxOf fx f F.ts).matchesMap := staticMatches_eq F.hts
  have hUs := (hc.content F).1
  obtain ⟨r, hr, e⟩ := F.mem_ruleNames.mp hn
  obtain ⟨nt0, hf0⟩ := findNt_of_mem (e ▸ (regular_phases hc.regular F.hts F.hrules F.hext).hasRules r hr)
  obtain ⟨hm0, hname0⟩ := findNt_some hf0
  obtain ⟨y, hy, hyi, hyn, hyp, _⟩ := F.nt_at hf0
  refine ⟨y, hy, hyn, hcons.lists y (List.mem_of_getElem? hy), ?_⟩
  have hl := hUs.lists nt0 hm0 (hname0 ▸ hn)
  rw [hname0, ← hrl] at hl
  rw [hyp, hyi]
  refine All2.imp ?_ hl
  intro i d ⟨p, hp, hpi, hview, rhs, ep⟩
  obtain ⟨p', hp', rhs', e', rr⟩ := All2.get_left F.rel i p hp
  refine ⟨p', hp', by rw [e']; exact hpi, ?_, ?_, ?_, ?_⟩
  · rw [e', ep]; rfl
  · rw [e', ep]; rfl
  · rw [e']
    show rhsView rhs' = _
    rw [rhsView_rel rr, hmm]
    exact hview
  · rw [e', ep]
    exact mkProd_fields _ _ _ _ _ _

/-- **`EMPTY` contributes nothing**, provided no `EMPTY` is named or used as separator (F18): the
symbols the code keeps are the documented ones (`Doc.altSyms` drops every reference to `EMPTY`). -/
theorem C09_empty_contributes_nothing (fx : Fixes) (mm : SMap (Name × Nat)) (a : Alt)
    (h : ∀ x, x ∈ a.assigns → x.emptySurvives = false) : codeAltSyms fx mm a = Doc.altSyms fx mm a := by
  unfold codeAltSyms Doc.altSyms Doc.altAssigns
  congr 1
  apply List.filter_congr
  intro x hx
  have hs := h x hx
  unfold Assign.emptySurvives at hs
  simp only [Bool.or_eq_false_iff, Bool.and_eq_false_iff] at hs
  cases x with
  | ref r => rfl
  | plain n r =>
    simp only [Assign.isUnnamedEmpty, Assign.symRef, Bool.not_false]
    rcases hs.1 with h1 | h1
    · simp [Assign.aname] at h1
    · simp [Assign.symRef] at h1
      simp [h1]
  | bool n r =>
    simp only [Assign.isUnnamedEmpty, Assign.symRef, Bool.not_false]
    rcases hs.1 with h1 | h1
    · simp [Assign.aname] at h1
    · simp [Assign.symRef] at h1
      simp [h1]

/-- **F18 (current code).**  `S: a=EMPTY Ta;` builds `S → EMPTY Ta`: the named `EMPTY` stays in the
right-hand side as symbol `emptyIdx` (= 4 here). -/
theorem C09_counterexample_named_empty :
    (match build {} Ex.fF18 with
     | .ok g => (g.emptyIdx, g.prods.map GProd.rhsSyms)
     | _ => (0, [])) = (4, [[6], [4, 1]]) := by decide +kernel

/-! The closed statements below and the one of `Props/C16.lean` are evaluated together, as components of
`evaluated`.  `C09_counterexample_named_empty` is evaluated on its own: the auxiliary matcher of its `match`
carries its name, and the statements below refer to it. -/

def EvalFindings : Prop :=
   (build { emptyErr := true } Ex.fF18 = .err .emptyMisuse ∧
    (match build {} Ex.fDupTerm with
     | .ok g => (g.terminals.map Term.idx, g.emptyIdx, g.prods.map GProd.rhsSyms)
     | _ => ([], 0, [])) = ([0, 2], 2, [[4], [2]])) ∧
   ((match build {} Ex.fF2 with
     | .ok g => g.prods.map GProd.assoc
     | _ => []) = [.none, .right, .right] ∧
    ((match build { assocOne := true } Ex.fF2 with
     | .ok g => g.prods.map GProd.assoc
     | _ => []) = [.none, .left, .right] ∧
    (match build {} Ex.fF2ok with
     | .ok g => g.prods.map GProd.assoc
     | _ => []) = [.none, .right, .left])) ∧
   ((Ex.fF5.uses {} = [{ base := nm "Ta", kind := .one, sep := some (nm "Tb") }, { base := nm "Ta", kind := .one, sep := none }] ∧
    (match build {} Ex.fF5 with
     | .ok g => (g.nonterminals.map NonTerm.name, g.prods.map GProd.rhsSyms)
     | _ => ([], [])) =
      ([nm "EMPTY", nm "AUG", nm "S", nm "Ta1"], [[6], [7, 3, 7], [7, 2, 1], [1]])) ∧
    (match build { sepInName := true } Ex.fF5 with
     | .ok g => (g.nonterminals.map NonTerm.name, g.prods.map GProd.rhsSyms)
     | _ => ([], [])) =
      ([nm "EMPTY", nm "AUG", nm "S", nm "Ta1Tb", nm "Ta1"], [[6], [7, 3, 8], [7, 2, 1], [1], [8, 1], [1]]) ∧
    (match build {} Ex.fF5b with
     | .ok g => g.nonterminals.map (fun n => (n.name, n.prods))
     | _ => []) =
      [(nm "EMPTY", []), (nm "AUG", [0]), (nm "S", [1]), (nm "A1", [2, 3, 4]), (nm "A", [5])] ∧
    (match build {} Ex.fSelf2 with
     | .ok g => (g.nonterminals.map (fun n => (n.idx, n.name)), g.prods.map GProd.nonterminal, g.startIdx)
     | _ => ([], [], 0)) =
      ([(0, nm "EMPTY"), (1, nm "AUG"), (3, nm "A1"), (4, nm "A")], [1, 2, 3, 3, 4], 7)) ∧
   ((match build {} Ex.fReserved with
     | .ok g => g.nonterminals.map (fun n => (n.name, n.prods))
     | _ => []) = [(nm "EMPTY", []), (nm "AUG", [0, 2]), (nm "S", [1])] ∧
    build { reservedErr := true } Ex.fReserved = .err (.reserved (nm "AUG")))

instance : Decidable EvalFindings := by unfold EvalFindings; infer_instance

def EvalPanics : Prop :=
   (build {} Ex.fBigInt = .panic .intConst ∧ build {} Ex.fTermsOnly = .panic .augUnwrap ∧
    build {} Ex.fGroup = .panic .gsymbolUnwrap ∧ build {} Ex.fGroupRep = .panic .groupExpect) ∧
   (build {} Ex.fGreedy = .panic .greedyTodo ∧ build {} Ex.fMods = .panic .modifiersAssert ∧
    build {} Ex.fDupTerm5 = .panic .reachIndex ∧ build {} Ex.fSelf = .panic .reachIndex) ∧
    build {} Ex.fNoRule = .panic .rules0 ∧ build {} Ex.fNoAlt = .panic .startUnwrap

instance : Decidable EvalPanics := by unfold EvalPanics; infer_instance

def EvalWitnesses : Prop :=
   (build Fixes.all Ex.fBigInt = .err .intTooBig ∧ build Fixes.all Ex.fTermsOnly = .err .noRules ∧
    build Fixes.all Ex.fGroup = .err .notImplemented ∧ build Fixes.all Ex.fGroupRep = .err .notImplemented ∧
    build Fixes.all Ex.fGreedy = .err .notImplemented ∧ build Fixes.all Ex.fMods = .err .notImplemented ∧
    build Fixes.all Ex.fDupTerm5 = .err (.dupName (nm "Ta")) ∧
    build Fixes.all Ex.fSelf = .err (.helperClash (nm "A1")) ∧ build Fixes.all Ex.fF18 = .err .emptyMisuse) ∧
   (build Ex.v3da879f Ex.fBigInt = .panic .intConst ∧ build Ex.v3da879f Ex.fSelf = .panic .reachIndex ∧
    build Ex.v3da879f Ex.fTermsOnly = .err .noRules ∧ build Ex.v3da879f Ex.fGroup = .err .notImplemented ∧
    build Ex.v3da879f Ex.fGroupRep = .err .notImplemented ∧ build Ex.v3da879f Ex.fGreedy = .err .notImplemented ∧
    build Ex.v3da879f Ex.fMods = .err .notImplemented ∧
    build Ex.v3da879f Ex.fDupTerm5 = .err (.dupName (nm "Ta")) ∧ build Ex.v3da879f Ex.fF18 = .err .emptyMisuse) ∧
   (build Ex.vFix9 Ex.fBigInt = .panic .intConst ∧
    build Ex.vFix9 Ex.fSelf = .err (.helperClash (nm "A1")) ∧ build Ex.vFix9 Ex.fSelf2 = .err (.helperClash (nm "A1")) ∧
    build Ex.vFix9 Ex.fF5b = .err (.helperClash (nm "A1")) ∧ build Ex.vFix9 Ex.fF5bBefore = .err (.helperClash (nm "A1")) ∧
    build Ex.vFix9 Ex.fTermCapture = .err (.helperClash (nm "Ta1")) ∧
    build Ex.vFix9 Ex.fReserved = .err (.reserved (nm "AUG")) ∧
    (match build Ex.vFix9 Ex.fF5 with | .ok g => g.prods.length | _ => 0) = 4 ∧
    (match build Ex.vFix9 Ex.fGood with | .ok g => g.prods.length | _ => 0) = 13)

instance : Decidable EvalWitnesses := by unfold EvalWitnesses; infer_instance

def EvalRepo : Prop :=
   ((match build {} Ex.fKind with | .ok g => g.prods.map GProd.kind | _ => []) = [none, some (nm "A.b")] ∧
    build { kindIdentErr := true } Ex.fKind = .err (.invalidIdent (nm "A.b")) ∧
    build repoVariant Ex.fKindKw = .err (.invalidIdent (nm "fn"))) ∧
   ((match build {} Ex.fStop with | .ok g => g.prods.map GProd.rhsSyms | _ => []) = [[6], [1, 0]] ∧
    build repoVariant Ex.fStop = .err (.stopRef 1) ∧ build repoVariant Ex.fStopNamed = .err (.stopRef 1) ∧
    build repoVariant Ex.fStopSugar = .err (.stopRef 2) ∧ build repoVariant Ex.fStopSep = .err (.stopRef 2)) ∧
   ((match build {} Ex.fAugRef with | .ok g => (g.augIdx, g.prods.map GProd.rhsSyms) | _ => (0, [])) = (5, [[6], [1, 5]]) ∧
    build repoVariant Ex.fAugRef = .err (.reserved (nm "AUG")) ∧ build repoVariant Ex.fAugNamed = .err (.reserved (nm "AUG")) ∧
    build repoVariant Ex.fAugSugar = .err (.reserved (nm "AUG")) ∧ build repoVariant Ex.fAugSep = .err (.reserved (nm "AUGL"))) ∧
    (match build repoVariant Ex.fGood with | .ok g => g.prods.length | _ => 0) = 13 ∧
   (Ex.fGood.ruleIsTerminal = false ∧
    (match build {} Ex.fGood with | .ok g => g.prods.length | _ => 0) = 13 ∧
    (match build Fixes.all Ex.fGood with | .ok g => g.prods.length | _ => 0) = 13 ∧
    Ex.useOpt ∈ Ex.fGood.uses {} ∧ Ex.useOne ∈ Ex.fGood.uses {} ∧ Ex.useOneSep ∈ Ex.fGood.uses {} ∧
    Ex.useZero ∈ Ex.fGood.uses {} ∧ nm "S" ∈ ruleNamesOf Ex.fGood) ∧
   (build repoVariant Rustemo.Front.Ex.fBigInt = .panic .intConst ∧
    build repoVariant Rustemo.Front.Ex.fSelf = .err (.helperClash (nm "A1")) ∧
    build repoVariant Rustemo.Front.Ex.fTermsOnly = .err .noRules ∧
    build repoVariant Rustemo.Front.Ex.fGroup = .err .notImplemented ∧
    build repoVariant Rustemo.Front.Ex.fGreedy = .err .notImplemented ∧
    build repoVariant Rustemo.Front.Ex.fMods = .err .notImplemented ∧
    build repoVariant Rustemo.Front.Ex.fReserved = .err (.reserved (nm "AUG")))

instance : Decidable EvalRepo := by unfold EvalRepo; infer_instance

theorem evaluated : EvalFindings ∧ EvalPanics ∧ EvalWitnesses ∧ EvalRepo := by decide +kernel

theorem eval_findings : EvalFindings := evaluated.1
theorem eval_panics : EvalPanics := evaluated.2.1
theorem eval_witnesses : EvalWitnesses := evaluated.2.2.1
theorem eval_repo : EvalRepo := evaluated.2.2.2

/-- after `C09-fix-1` the same text is a diagnostic -/
theorem C09_named_empty_fixed : build { emptyErr := true } Ex.fF18 = .err .emptyMisuse := eval_findings.1.1

/-! ## 2. Inline strings and names resolve to what they denote -/

/-- **references resolve.**  Every right-hand side symbol of the built grammar is: for a reference by
name, a symbol (terminal, or else nonterminal) of that name; for an inline string literal, the
terminal declared with that very string as its recognizer. -/
theorem C09_inline_strings_resolve (fx : Fixes) (f : File) (g : Grammar) (hr : Regular fx f)
    (h : build fx f = .ok g) :
    ∀ p, p ∈ g.prods → ∀ a, a ∈ p.rhs →
      (∀ n, a.sym = .name n → IsSym g n a.symbol) ∧
      (∀ s, a.sym = .str s → ∃ t, g.terminals[a.symbol]? = some t ∧ t.recog = some (.str s) ∧ a.symbol < g.nT) := by
  obtain ⟨F⟩ := build_facts hr h
  intro p hp a ha
  obtain ⟨a0, h0, ra⟩ := F.phases.assign hp ha
  have r2 := ra.rel.2.1
  constructor
  · exact fun n hn => F.resName_isSym (ra.symbol_of_name h0 (r2 ▸ hn))
  · intro s hs
    obtain ⟨tn, i, hg, hi⟩ := ra.str s h0 (r2 ▸ hs)
    unfold RAssign.symbol
    rw [hi]
    simp only [Option.getD_some]
    obtain ⟨kv, hkv, _, ei, erec⟩ := matchesOf_get? hg
    obtain ⟨y, hy, _, hyr, hlt⟩ := F.term_at_mem hkv
    rw [ei] at hy hlt
    exact ⟨y, hy, hyr.trans erec, hlt⟩

/-- every right-hand side symbol of a built grammar is resolved (`res_symbol` cannot panic): no hypothesis -/
theorem C09_all_symbols_resolved (fx : Fixes) (f : File) (g : Grammar) (h : build fx f = .ok g) :
    ∀ p, p ∈ g.prods → ∀ a, a ∈ p.rhs → a.index.isSome :=
  build_resolved h

/-- **N1 (current code).**  `S: Ta; terminals Ta: 'a'; Ta: 'b';` — the second `Ta` replaces the first,
keeps index 2, `terminals.len()` is 2: `S → Ta` is built as `S → EMPTY` (symbol 2 = `emptyIdx`). -/
theorem C09_counterexample_duplicate_terminal :
    (match build {} Ex.fDupTerm with
     | .ok g => (g.terminals.map Term.idx, g.emptyIdx, g.prods.map GProd.rhsSyms)
     | _ => ([], 0, [])) = ([0, 2], 2, [[4], [2]]) :=
  eval_findings.1.2

/-! ## 3. The first rule is the start symbol -/

/-- **first rule is start.**  `start_index` is the nonterminal named like the first rule, and the
augmented nonterminal `AUG` has the single production `AUG → <first rule>` (production 0), provided no
terminal has the name of a rule (N2) or the variant rejects such files (`dupNameErr`, repo ed9472f). -/
theorem C09_first_rule_is_start (fx : Fixes) (f : File) (g : Grammar) (hc : Clean fx f)
    (hrt : fx.dupNameErr = true ∨ f.ruleIsTerminal = false) (h : build fx f = .ok g) (r0 : Rule) (rs : List Rule)
    (hrules : f.rules = some (r0 :: rs)) :
    ∃ (start aug : NonTerm) (p0 : GProd), g.nonterminals[start.idx]? = some start ∧ start.name = r0.name ∧
      g.startIdx = g.nT + start.idx ∧
      g.nonterminals[aug.idx]? = some aug ∧ aug.name = kAUG ∧ g.augIdx = g.nT + aug.idx ∧ aug.prods = [0] ∧
      g.prods[0]? = some p0 ∧ p0.nonterminal = aug.idx ∧ p0.rhsSyms = [g.startIdx] := by
  obtain ⟨F⟩ := build_facts hc.regular h
  have e0 : F.r0 = r0 ∧ F.rs = rs := by
    have := F.hrules
    rw [hrules] at this
    cases this
    exact ⟨rfl, rfl⟩
  obtain ⟨e1, e2⟩ := e0
  obtain ⟨haug, hp0⟩ := (hc.content F).2.2
  obtain ⟨ys, hys, hysi, hysn, _⟩ := F.nt_at F.hstart
  have haugeq : F.aug = { idx := 1, name := kAUG, prods := [0] } := Option.some.inj (F.haug.symm.trans haug)
  obtain ⟨ya, hya, hyai, hyan, hyap, _⟩ := F.nt_at haug
  have hres := F.phases.prods_res
  obtain ⟨p0', hp0', rhs', e', rr⟩ := All2.get_left hres 0 _ hp0
  have hnT := F.nT_eq
  rcases rr with _ | ⟨hb, _ | _⟩
  have hnt := rules_not_terminals hc hrt F List.mem_cons_self
  have hsym := Option.some.inj ((hb.symbol_of_name rfl rfl).symm.trans (F.resName_nt hnt F.hstart))
  refine ⟨ys, ya, p0', hys, by rw [hysn, e1], ?_, hya, hyan, ?_, hyap, hp0', ?_, ?_⟩
  · rw [F.eStart, hnT, hysi]
  · rw [F.eAug, hnT, hyai, haugeq]
  · rw [e', hyai]
  · rw [e', F.eStart, ← hnT, ← hsym]
    rfl

/-! ## 4. Rule-level meta-data is inherited unless the production gives it itself -/

/-- **meta-data inheritance, per key** (priority, `nops`, `nopse`, kind, user keys, and the keys `left`,
`right`): the meta-data map a production is built from holds, for every key, the production's own value
if it has one and else the rule's — for the current code, for ALL meta-data.  (`IsAltProd` in
`C09_alternatives_are_productions` says the production's fields are read from exactly this map.) -/
theorem C09_meta_inheritance (fx : Fixes) (h : fx.assocOne = false) (ruleMeta altMeta : Meta) (k : Name) :
    (inherit fx ruleMeta altMeta).get? k = Doc.inheritKey ruleMeta altMeta k := by
  rw [inherit_get?]
  unfold Doc.inheritKey
  cases altMeta.get? k <;> simp [blocked, h]

/-- per-key law of every variant: the repaired inheritance differs only in never copying `left`/`right`
to a production that has either -/
theorem C09_meta_inheritance_any (fx : Fixes) (ruleMeta altMeta : Meta) (k : Name) :
    (inherit fx ruleMeta altMeta).get? k =
      match altMeta.get? k with
      | some v => some v
      | none => if blocked fx altMeta k then none else ruleMeta.get? k :=
  inherit_get? fx ruleMeta altMeta k

/-- **associativity is ONE meta-datum** (documented: "if the same meta-data is defined for the
production it takes precedence"): the current code gives a production the documented associativity
exactly when it is not the case that the production says `left`/`reduce` (only) and the rule says
`right`/`shift` (F2). -/
theorem C09_assoc_inheritance_current (fx : Fixes) (h : fx.assocOne = false) (ruleMeta altMeta : Meta) :
    assocOfMeta (inherit fx ruleMeta altMeta) = docAssoc ruleMeta altMeta ↔ assocClash ruleMeta altMeta = false := by
  unfold docAssoc assocOfMeta assocClash
  rw [inherit_contains_assoc fx ruleMeta altMeta isAssocKey_left, inherit_contains_assoc fx ruleMeta altMeta isAssocKey_right, h]
  -- a statement about the four presence bits: its truth table
  generalize altMeta.contains kLeft = aL
  generalize altMeta.contains kRight = aR
  generalize ruleMeta.contains kLeft = rL
  generalize ruleMeta.contains kRight = rR
  revert aL aR rL rR
  decide

/-- after `C09-fix-3` the associativity is the documented one for all meta-data -/
theorem C09_assoc_inheritance_fixed (fx : Fixes) (h : fx.assocOne = true) (ruleMeta altMeta : Meta) :
    assocOfMeta (inherit fx ruleMeta altMeta) = docAssoc ruleMeta altMeta := by
  unfold docAssoc
  cases hown : (altMeta.contains kLeft || altMeta.contains kRight) with
  | false =>
    -- the production says nothing: both keys come from the rule
    obtain ⟨hl, hr⟩ := Bool.or_eq_false_iff.mp hown
    rw [if_neg Bool.false_ne_true]
    apply assocOfMeta_congr
    · rw [inherit_contains_assoc fx ruleMeta altMeta isAssocKey_left, hown, hl, Bool.and_false]
      rfl
    · rw [inherit_contains_assoc fx ruleMeta altMeta isAssocKey_right, hown, hr, Bool.and_false]
      rfl
  | true =>
    -- the production says something: the rule's `left`/`right` are not copied
    rw [if_pos rfl]
    apply assocOfMeta_congr
    · rw [inherit_contains_assoc fx ruleMeta altMeta isAssocKey_left, hown, h]
      exact Bool.or_false _
    · rw [inherit_contains_assoc fx ruleMeta altMeta isAssocKey_right, hown, h]
      exact Bool.or_false _

/-- **F2 (current code).**  `E {right}: E Tb E {left} | Ta;` — production 1 says `left`, gets `right`. -/
theorem C09_counterexample_assoc_override :
    (match build {} Ex.fF2 with
     | .ok g => g.prods.map GProd.assoc
     | _ => []) = [.none, .right, .right] :=
  eval_findings.2.1.1

/-- the same grammar after `C09-fix-3`; and the direction the repository's own test checks -/
theorem C09_assoc_override_fixed :
    (match build { assocOne := true } Ex.fF2 with
     | .ok g => g.prods.map GProd.assoc
     | _ => []) = [.none, .left, .right] ∧
    (match build {} Ex.fF2ok with
     | .ok g => g.prods.map GProd.assoc
     | _ => []) = [.none, .right, .left] :=
  eval_findings.2.1.2

/-! ## 5. `?`, `*`, `+`, `[separator]` denote the language of the documented expansion -/

/-- **`X?`** — the helper rule named `XOpt` derives exactly the empty string and what `X` derives. -/
theorem C09_sugar_language_opt (fx : Fixes) (f : File) (g : Grammar) (hc : Clean fx f) (h : build fx f = .ok g)
    (u : Use) (hu : u ∈ f.uses fx) (hk : u.kind = .opt) :
    ∃ (nt : NonTerm) (X : Nat), g.nonterminals[nt.idx]? = some nt ∧ nt.name = u.helper fx ∧ nt.annotation = none ∧
      IsSym g u.base X ∧ ∀ w, Derives g (g.nT + nt.idx) w ↔ w = [] ∨ Derives g X w := by
  obtain ⟨nt, σ, hnt, hname, hann, hex, _, hn⟩ := helper_core hc h u hu
  simp only [Use.names0, Use.names1, Use.ann, hk] at hex hn hann
  exact ⟨nt, _, hnt, hname, hann, hn _ List.mem_cons_self, derives_opt hex⟩

/-- **`X+`** — the `@vec` helper rule derives exactly the concatenations of one or more strings derived
from `X`. -/
theorem C09_sugar_language_one (fx : Fixes) (f : File) (g : Grammar) (hc : Clean fx f) (h : build fx f = .ok g)
    (u : Use) (hu : u ∈ f.uses fx) (hk : u.kind = .one) (hs : u.sep = none) :
    ∃ (nt : NonTerm) (X : Nat), g.nonterminals[nt.idx]? = some nt ∧ nt.name = u.helper fx ∧
      nt.annotation = some kVec ∧ IsSym g u.base X ∧
      ∀ w, Derives g (g.nT + nt.idx) w ↔
        ∃ ws : List (List Nat), ws ≠ [] ∧ (∀ x, x ∈ ws → Derives g X x) ∧ w = ws.flatten := by
  obtain ⟨nt, σ, hnt, hname, hann, hex, hself, hn⟩ := helper_core hc h u hu
  simp only [Use.names0, Use.names1, Use.ann, hk, hs] at hex hn hann
  -- the first symbol of the first right-hand side is the helper itself
  rw [List.map_cons, hself] at hex
  exact ⟨nt, _, hnt, hname, hann, hn _ (List.mem_append_right _ List.mem_cons_self), derives_one_nosep hex⟩

/-- **`X+[Sep]`** — the `@vec` helper rule derives exactly `x₀ s₁ x₁ … sₖ xₖ` (`joinPairs`), each `xᵢ`
derived from `X` and each `sᵢ` from `Sep`. -/
theorem C09_sugar_language_one_sep (fx : Fixes) (f : File) (g : Grammar) (hc : Clean fx f)
    (h : build fx f = .ok g) (u : Use) (hu : u ∈ f.uses fx) (hk : u.kind = .one) (sp : Name) (hs : u.sep = some sp) :
    ∃ (nt : NonTerm) (X S : Nat), g.nonterminals[nt.idx]? = some nt ∧ nt.name = u.helper fx ∧
      nt.annotation = some kVec ∧ IsSym g u.base X ∧ IsSym g sp S ∧
      ∀ w, Derives g (g.nT + nt.idx) w ↔
        ∃ u0 pairs, Derives g X u0 ∧ (∀ q, q ∈ pairs → Derives g S q.1 ∧ Derives g X q.2) ∧
          w = joinPairs u0 pairs := by
  obtain ⟨nt, σ, hnt, hname, hann, hex, hself, hn⟩ := helper_core hc h u hu
  simp only [Use.names0, Use.names1, Use.ann, hk, hs] at hex hn hann
  rw [List.map_cons, hself] at hex
  exact ⟨nt, _, _, hnt, hname, hann, hn _ (List.mem_append_right _ List.mem_cons_self), hn sp (by simp),
    derives_one_sep hex⟩

/-- **`X*`, `X*[Sep]`** — the `@vec` helper rule derives exactly the empty string and what the
one-or-more helper of the same `X` and separator derives (`C09_sugar_language_one[_sep]`). -/
theorem C09_sugar_language_zero (fx : Fixes) (f : File) (g : Grammar) (hc : Clean fx f) (h : build fx f = .ok g)
    (u : Use) (hu : u ∈ f.uses fx) (hk : u.kind = .zero) :
    ∃ (nt : NonTerm) (H1 : Nat), g.nonterminals[nt.idx]? = some nt ∧ nt.name = u.helper fx ∧
      nt.annotation = some kVec ∧ IsSym g (helperName fx u.base .oneOrMore u.sep) H1 ∧
      ∀ w, Derives g (g.nT + nt.idx) w ↔ w = [] ∨ Derives g H1 w := by
  obtain ⟨nt, σ, hnt, hname, hann, hex, _, hn⟩ := helper_core hc h u hu
  simp only [Use.names0, Use.names1, Use.ann, hk] at hex hn hann
  exact ⟨nt, _, hnt, hname, hann, hn _ List.mem_cons_self, derives_opt hex⟩

/-- the language of a rule with exactly the documented right-hand sides, for ANY grammar (the four
theorems above instantiate these with the helper rules `Front.build` creates) -/
theorem C09_expansion_language (g : Grammar) (h X S : Nat) :
    (HasExactly g h [[X], []] → ∀ w, Derives g (g.nT + h) w ↔ w = [] ∨ Derives g X w) ∧
    (HasExactly g h [[g.nT + h, X], [X]] → ∀ w, Derives g (g.nT + h) w ↔
      ∃ ws : List (List Nat), ws ≠ [] ∧ (∀ x, x ∈ ws → Derives g X x) ∧ w = ws.flatten) ∧
    (HasExactly g h [[g.nT + h, S, X], [X]] → ∀ w, Derives g (g.nT + h) w ↔
      ∃ u0 pairs, Derives g X u0 ∧ (∀ q, q ∈ pairs → Derives g S q.1 ∧ Derives g X q.2) ∧ w = joinPairs u0 pairs) :=
  ⟨fun hx w => derives_opt hx w, fun hx w => derives_one_nosep hx w, fun hx w => derives_one_sep hx w⟩

/-! ## 6. One helper rule is shared by all identical uses -/

/-- **helpers are shared exactly.**  Two uses of repetition sugar (base symbol, operator, separator) get
the same helper nonterminal iff they are the same use. -/
theorem C09_helpers_shared (fx : Fixes) (f : File) (g : Grammar) (hc : Clean fx f) (h : build fx f = .ok g)
    (u v : Use) (hu : u ∈ f.uses fx) (hv : v ∈ f.uses fx) :
    ∃ nu nv : NonTerm, g.nonterminals[nu.idx]? = some nu ∧ g.nonterminals[nv.idx]? = some nv ∧
      nu.name = u.helper fx ∧ nv.name = v.helper fx ∧ (nu.idx = nv.idx ↔ u = v) := by
  obtain ⟨nu, _, hnu, hnun, _⟩ := helper_core hc h u hu
  by_cases e : u = v
  · subst e
    exact ⟨nu, nu, hnu, hnu, hnun, hnun, iff_of_true rfl rfl⟩
  · obtain ⟨nv, _, hnv, hnvn, _⟩ := helper_core hc h v hv
    refine ⟨nu, nv, hnu, hnv, hnun, hnvn, iff_of_false (fun ei => e ?_) e⟩
    -- one index, one entry, one name
    rw [ei, hnv] at hnu
    cases hnu
    exact hc.inj u v hu hv (hnun.symm.trans hnvn)

/-- **F5 (current code).**  `S: Ta+[Tb] Tc Ta+;` — two different uses, ONE helper `Ta1 → Ta1 Tb Ta | Ta`:
both positions of `S` hold symbol 7, there is no second helper (4 nonterminals). -/
theorem C09_counterexample_helper_sharing :
    Ex.fF5.uses {} = [{ base := nm "Ta", kind := .one, sep := some (nm "Tb") }, { base := nm "Ta", kind := .one, sep := none }] ∧
    (match build {} Ex.fF5 with
     | .ok g => (g.nonterminals.map NonTerm.name, g.prods.map GProd.rhsSyms)
     | _ => ([], [])) =
      ([nm "EMPTY", nm "AUG", nm "S", nm "Ta1"], [[6], [7, 3, 7], [7, 2, 1], [1]]) :=
  eval_findings.2.2.1.1

/-- the same grammar after `C09-fix-2` (the documented names `Ta1Tb`, `Ta1`): two helpers -/
theorem C09_helper_sharing_fixed :
    (match build { sepInName := true } Ex.fF5 with
     | .ok g => (g.nonterminals.map NonTerm.name, g.prods.map GProd.rhsSyms)
     | _ => ([], [])) =
      ([nm "EMPTY", nm "AUG", nm "S", nm "Ta1Tb", nm "Ta1"], [[6], [7, 3, 8], [7, 2, 1], [1], [8, 1], [1]]) :=
  eval_findings.2.2.1.2.1

/-- **F5b (current code).**  `S: A+ A1; A1: Tb; A: Ta;` — the user's rule `A1` and the helper of `A+` are
one nonterminal with three productions `A1 → A1 A | A | Tb`. -/
theorem C09_counterexample_helper_capture :
    (match build {} Ex.fF5b with
     | .ok g => g.nonterminals.map (fun n => (n.name, n.prods))
     | _ => []) =
      [(nm "EMPTY", []), (nm "AUG", [0]), (nm "S", [1]), (nm "A1", [2, 3, 4]), (nm "A", [5])] :=
  eval_findings.2.2.1.2.2.1

/-! ## 7. Indices are consistent -/

/-- **indices consistent.**  In the built grammar every production, terminal and nonterminal sits at the
position of its `idx`, every nonterminal's production list is exactly (and in order) the productions
with that `nonterminal`, and every index is inside its vector — for every regular file, although helper
rules are created, and their productions numbered, in the middle of the alternative that uses them. -/
theorem C09_indices_consistent (fx : Fixes) (f : File) (g : Grammar) (hr : Regular fx f)
    (h : build fx f = .ok g) : Consistent g :=
  build_consistent hr h

/-- `prods[i].idx = i` needs no hypothesis at all -/
theorem C09_production_indices (fx : Fixes) (f : File) (g : Grammar) (h : build fx f = .ok g) :
    ∀ (i : Nat) p, g.prods[i]? = some p → p.idx = i :=
  build_prods_idx h

/-- **F5b, index form (current code).**  `A1: Tb A+; A: Ta;` — rule `A1` is its own helper: nonterminal
index 2 is never assigned (positions and indices differ from there on), production 1 belongs to the
unassigned index, and the start symbol (7 = 4 terminals + index 3) is read at position 3: rule `A`. -/
theorem C09_counterexample_index_gap :
    (match build {} Ex.fSelf2 with
     | .ok g => (g.nonterminals.map (fun n => (n.idx, n.name)), g.prods.map GProd.nonterminal, g.startIdx)
     | _ => ([], [], 0)) =
      ([(0, nm "EMPTY"), (1, nm "AUG"), (3, nm "A1"), (4, nm "A")], [1, 2, 3, 3, 4], 7) :=
  eval_findings.2.2.1.2.2.2

/-! ## 8. C16, builder part: the grammar builder is total -/

/-- **the builder never panics** on an AST outside the classes of the witnesses below — for every
variant of the code.  Every `unwrap`/`expect`/`assert!`/`todo!`/`panic!`/index of `builder.rs`,
`mark_reachable_symbols` and the integer conversion of `rustemo_actions.rs` is a `Site` of the model. -/
theorem C16_build_total_partial (fx : Fixes) (f : File) (hs : Safe fx f) : ∀ s, build fx f ≠ .panic s :=
  (build_spec fx f).noPanic hs

/-- the hypotheses are the driver's class predicates, and `selfHelper`, the part of its class `helperCapture` that
totality needs -/
theorem C16_safe_of_classes (fx : Fixes) (f : File)
    (h0 : (!fx.intErr && f.big u32Max) = false) (h1 : (!fx.noRulesErr && f.rules.isNone) = false)
    (h2 : (f.rules == some []) = false) (h3 : (f.ruleList.any fun r => r.alts.isEmpty) = false)
    (hg : (!fx.groupErr && f.allRefs.any SymRef.isGroup) = false)
    (hy : (!fx.greedyErr && f.allRefs.any SymRef.isGreedy) = false)
    (hm : (!fx.modifiersErr && f.allRefs.any SymRef.badModifiers) = false)
    (h4 : (!fx.dupNameErr && f.dupTerminal) = false) (h5 : (!fx.helperClashErr && f.selfHelper fx) = false) :
    Safe fx f := by
  refine ⟨flag_or_of_class h0, fun e => ?_, (flag_or_of_class h1).imp id fun h e => ?_,
    refSafe_of_classes hg hy hm, alts_of_emptyAlts h3, flag_or_of_class h4, flag_or_of_class h5⟩
  · rw [e] at h2
    simp at h2
  · rw [e] at h
    cases h

/-- `S {99999999999}: Ta;` — `int_const`: `token.value.parse().unwrap()` -/
theorem C16_witness_int : build {} Ex.fBigInt = .panic .intConst := eval_panics.1.1
/-- `terminals Ta: 'a';` — `self.nonterminals.get("AUG").unwrap()` -/
theorem C16_witness_terminals_only : build {} Ex.fTermsOnly = .panic .augUnwrap := eval_panics.1.2.1
/-- `S: (Ta Tb) Ta;` — `reference.gsymbol.unwrap()` -/
theorem C16_witness_group : build {} Ex.fGroup = .panic .gsymbolUnwrap := eval_panics.1.2.2.1
/-- `S: (Ta Tb)+ Ta;` — `.expect("Parenthesized groups are not implemented!")` -/
theorem C16_witness_group_rep : build {} Ex.fGroupRep = .panic .groupExpect := eval_panics.1.2.2.2
/-- `S: Ta*! Tb;` — `todo!()` -/
theorem C16_witness_greedy : build {} Ex.fGreedy = .panic .greedyTodo := eval_panics.2.1.1
/-- `S: Ta+[Tb, Tc];` — `assert!(modifiers.len() == 1, …)` -/
theorem C16_witness_modifiers : build {} Ex.fMods = .panic .modifiersAssert := eval_panics.2.1.2.1
/-- five terminals named `Ta` — `mark_reachable_symbols`: `grammar.nonterminals[…]` out of bounds -/
theorem C16_witness_duplicate_terminals : build {} Ex.fDupTerm5 = .panic .reachIndex := eval_panics.2.1.2.2.1
/-- `S: A1 B; A1: Tb A+; A: Ta; B: Ta;` — the same index, through the unassigned nonterminal index -/
theorem C16_witness_self_helper : build {} Ex.fSelf = .panic .reachIndex := eval_panics.2.1.2.2.2
/-- ASTs no text produces: `rules[0]` on an empty list; `get(&self.start_rule_name).unwrap()` -/
theorem C16_witness_ast_only :
    build {} Ex.fNoRule = .panic .rules0 ∧ build {} Ex.fNoAlt = .panic .startUnwrap :=
  eval_panics.2.2

/-- with all repairs every witness is a diagnostic -/
theorem C16_witnesses_fixed :
    build Fixes.all Ex.fBigInt = .err .intTooBig ∧ build Fixes.all Ex.fTermsOnly = .err .noRules ∧
    build Fixes.all Ex.fGroup = .err .notImplemented ∧ build Fixes.all Ex.fGroupRep = .err .notImplemented ∧
    build Fixes.all Ex.fGreedy = .err .notImplemented ∧ build Fixes.all Ex.fMods = .err .notImplemented ∧
    build Fixes.all Ex.fDupTerm5 = .err (.dupName (nm "Ta")) ∧
    build Fixes.all Ex.fSelf = .err (.helperClash (nm "A1")) ∧ build Fixes.all Ex.fF18 = .err .emptyMisuse :=
  eval_witnesses.1

/-- **front-end panics still open at repo HEAD 3da879f** (`Ex.v3da879f`): the integer conversion and the index
gap of a rule that is its own helper; every other witness above is a diagnostic in that variant. -/
theorem C16_open_panics_3da879f :
    build Ex.v3da879f Ex.fBigInt = .panic .intConst ∧ build Ex.v3da879f Ex.fSelf = .panic .reachIndex ∧
    build Ex.v3da879f Ex.fTermsOnly = .err .noRules ∧ build Ex.v3da879f Ex.fGroup = .err .notImplemented ∧
    build Ex.v3da879f Ex.fGroupRep = .err .notImplemented ∧ build Ex.v3da879f Ex.fGreedy = .err .notImplemented ∧
    build Ex.v3da879f Ex.fMods = .err .notImplemented ∧
    build Ex.v3da879f Ex.fDupTerm5 = .err (.dupName (nm "Ta")) ∧ build Ex.v3da879f Ex.fF18 = .err .emptyMisuse :=
  eval_witnesses.2.1

/-- **N3 (code before C09-fix-8).**  `S: Ta; AUG: Tb;` — the alternatives of a rule named `AUG` are appended to
the builder's own `AUG` (two productions); a diagnostic with `reservedErr`. -/
theorem C09_counterexample_reserved_rule :
    (match build {} Ex.fReserved with
     | .ok g => g.nonterminals.map (fun n => (n.name, n.prods))
     | _ => []) = [(nm "EMPTY", []), (nm "AUG", [0, 2]), (nm "S", [1])] ∧
    build { reservedErr := true } Ex.fReserved = .err (.reserved (nm "AUG")) :=
  eval_findings.2.2.2

/-- **after C09-fix-8 and C09-fix-9** (`Ex.vFix9`): helper-name clashes are diagnostics in both declaration
orders, for the rule that is its own helper (the former index panic) and for a terminal; the only front-end
panic left is the integer conversion; legitimate sharing (`Ex.fF5`, `Ex.fGood`) still builds. -/
theorem C16_open_panics_fix9 :
    build Ex.vFix9 Ex.fBigInt = .panic .intConst ∧
    build Ex.vFix9 Ex.fSelf = .err (.helperClash (nm "A1")) ∧ build Ex.vFix9 Ex.fSelf2 = .err (.helperClash (nm "A1")) ∧
    build Ex.vFix9 Ex.fF5b = .err (.helperClash (nm "A1")) ∧ build Ex.vFix9 Ex.fF5bBefore = .err (.helperClash (nm "A1")) ∧
    build Ex.vFix9 Ex.fTermCapture = .err (.helperClash (nm "Ta1")) ∧
    build Ex.vFix9 Ex.fReserved = .err (.reserved (nm "AUG")) ∧
    (match build Ex.vFix9 Ex.fF5 with | .ok g => g.prods.length | _ => 0) = 4 ∧
    (match build Ex.vFix9 Ex.fGood with | .ok g => g.prods.length | _ => 0) = 13 :=
  eval_witnesses.2.2

/-- for a variant with `dupNameErr`, `helperClashErr` and `reservedErr` (as `/repo` after fix-8 and fix-9) `Clean` only
asks for what no repair removes: helper names unambiguous among the uses (F5, `sepClash`) — and rules with
alternatives, which every text has -/
theorem C09_clean_of_repaired (fx : Fixes) (f : File) (h1 : fx.dupNameErr = true) (h2 : fx.helperClashErr = true)
    (h3 : fx.reservedErr = true) (halts : ∀ r, r ∈ f.ruleList → r.alts ≠ []) (hsep : f.sepClash fx = false) :
    Clean fx f :=
  ⟨halts, Or.inl h1, uses_inj_of_sepClash hsep, Or.inl h2, Or.inl h3⟩

/-- and `Safe` only asks for integer literals that fit `u32` (F9) -/
theorem C16_safe_of_repaired (fx : Fixes) (f : File) (h1 : fx.dupNameErr = true) (h2 : fx.helperClashErr = true)
    (h3 : fx.noRulesErr = true) (h4 : fx.groupErr = true) (h5 : fx.greedyErr = true) (h6 : fx.modifiersErr = true)
    (hint : f.big u32Max = false) (hr0 : f.rules ≠ some []) (halts : ∀ r, r ∈ f.ruleList → r.alts ≠ []) :
    Safe fx f :=
  ⟨Or.inr hint, hr0, Or.inl h3, fun _ _ _ _ _ _ => ⟨Or.inl h4, Or.inl h5, Or.inl h6⟩, halts, Or.inl h1, Or.inl h2⟩

/-! ## 9. Diagnostics added for the later stages of C16 (repo 15a0fce, 3da879f) -/

/-- **production kinds are identifiers**: in a grammar built by a variant with `kindIdentErr` every production
kind (own or inherited, `{Kind}` or `{kind: '…'}`) is a Rust identifier — the generator's `format_ident!` on
kinds cannot panic.  No hypothesis on the file. -/
theorem C16_kinds_are_identifiers (fx : Fixes) (f : File) (g : Grammar) (hf : fx.kindIdentErr = true)
    (h : build fx f = .ok g) : ∀ p, p ∈ g.prods → ∀ k, p.kind = some k → identOk k = true :=
  build_kinds hf h

/-- `S: Ta {A.b};` and the inherited `S {fn}: Ta;` — stored as kinds by the code before 15a0fce, a
`check_identifier` diagnostic since -/
theorem C16_kind_witness :
    (match build {} Ex.fKind with | .ok g => g.prods.map GProd.kind | _ => []) = [none, some (nm "A.b")] ∧
    build { kindIdentErr := true } Ex.fKind = .err (.invalidIdent (nm "A.b")) ∧
    build repoVariant Ex.fKindKw = .err (.invalidIdent (nm "fn")) :=
  eval_repo.1

/-- **`STOP` is never referenced**: no production of a grammar built by a variant with `stopRefErr` names
`STOP` — neither directly, nor named, nor through repetition sugar or as a separator (the helper rules are
checked like every production).  No hypothesis on the file. -/
theorem C16_no_stop_reference (fx : Fixes) (f : File) (g : Grammar) (hf : fx.stopRefErr = true)
    (h : build fx f = .ok g) : ∀ p, p ∈ g.prods → ∀ a, a ∈ p.rhs → a.sym ≠ .name kSTOP :=
  build_noName (Or.inr ⟨hf, rfl⟩) h

/-- `S: Ta STOP;` built `S → Ta STOP` (symbol 0) before 3da879f; now the diagnostic names the production the
reference is in: the user's (1) or the helper's (2) -/
theorem C16_stop_witness :
    (match build {} Ex.fStop with | .ok g => g.prods.map GProd.rhsSyms | _ => []) = [[6], [1, 0]] ∧
    build repoVariant Ex.fStop = .err (.stopRef 1) ∧ build repoVariant Ex.fStopNamed = .err (.stopRef 1) ∧
    build repoVariant Ex.fStopSugar = .err (.stopRef 2) ∧ build repoVariant Ex.fStopSep = .err (.stopRef 2) :=
  eval_repo.2.1

/-- **`AUG` / `AUGL` are never referenced**: no production of a grammar built by a variant with `reservedRefErr`
names an augmented nonterminal — directly, named, under repetition sugar or as a separator (the table builder
does not terminate on such a grammar).  No hypothesis on the file. -/
theorem C16_no_aug_reference (fx : Fixes) (f : File) (g : Grammar) (hf : fx.reservedRefErr = true)
    (h : build fx f = .ok g) : ∀ p, p ∈ g.prods → ∀ a, a ∈ p.rhs → a.sym ≠ .name kAUG ∧ a.sym ≠ .name kAUGL :=
  fun p hp a ha => ⟨build_noName (Or.inl ⟨hf, Or.inl rfl⟩) h p hp a ha,
    build_noName (Or.inl ⟨hf, Or.inr rfl⟩) h p hp a ha⟩

/-- `S: Ta AUG;` built `S → Ta AUG` (symbol 5 = the augmented nonterminal) before 898fba1; now a diagnostic, for
every form of the reference (in the sugar forms it is found in the helper's production) -/
theorem C16_aug_witness :
    (match build {} Ex.fAugRef with | .ok g => (g.augIdx, g.prods.map GProd.rhsSyms) | _ => (0, [])) = (5, [[6], [1, 5]]) ∧
    build repoVariant Ex.fAugRef = .err (.reserved (nm "AUG")) ∧ build repoVariant Ex.fAugNamed = .err (.reserved (nm "AUG")) ∧
    build repoVariant Ex.fAugSugar = .err (.reserved (nm "AUG")) ∧ build repoVariant Ex.fAugSep = .err (.reserved (nm "AUGL")) :=
  eval_repo.2.2.1

/-! ## Non-vacuity: a grammar with every kind of sugar satisfies all hypotheses, in both variants -/

example : Clean {} Ex.fGood ∧ Clean Fixes.all Ex.fGood ∧ Clean repoVariant Ex.fGood :=
  ⟨clean_of_classes (by decide +kernel) (by decide +kernel) (by decide +kernel) (by decide +kernel) (by decide +kernel),
   clean_of_classes (by decide +kernel) (by decide +kernel) (by decide +kernel) (by decide +kernel) (by decide +kernel),
   clean_of_classes (by decide +kernel) (by decide +kernel) (by decide +kernel) (by decide +kernel) (by decide +kernel)⟩

example : Safe repoVariant Ex.fGood ∧ repoVariant.kindIdentErr = true ∧ repoVariant.stopRefErr = true ∧
    (match build repoVariant Ex.fGood with | .ok g => g.prods.length | _ => 0) = 13 :=
  ⟨C16_safe_of_classes _ _ (by decide +kernel) (by decide +kernel) (by decide +kernel) (by decide +kernel) (by decide +kernel) (by decide +kernel) (by decide +kernel)
    (by decide +kernel) (by decide +kernel), by decide, by decide, eval_repo.2.2.2.1⟩

example : Safe {} Ex.fGood :=
  C16_safe_of_classes _ _ (by decide +kernel) (by decide +kernel) (by decide +kernel) (by decide +kernel) (by decide +kernel) (by decide +kernel) (by decide +kernel)
    (by decide +kernel) (by decide +kernel)

example : Ex.fGood.ruleIsTerminal = false ∧
    (match build {} Ex.fGood with | .ok g => g.prods.length | _ => 0) = 13 ∧
    (match build Fixes.all Ex.fGood with | .ok g => g.prods.length | _ => 0) = 13 ∧
    Ex.useOpt ∈ Ex.fGood.uses {} ∧ Ex.useOne ∈ Ex.fGood.uses {} ∧ Ex.useOneSep ∈ Ex.fGood.uses {} ∧
    Ex.useZero ∈ Ex.fGood.uses {} ∧ nm "S" ∈ ruleNamesOf Ex.fGood := eval_repo.2.2.2.2.1

example : assocClash (metaOf [.kw .left]) (metaOf [.kw .right]) = false ∧
    assocClash (metaOf [.kw .right]) (metaOf [.kw .left]) = true := by decide

end Rustemo.Props.C09
