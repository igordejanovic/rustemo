import Rustemo.Proofs.AstDefs
import Rustemo.Proofs.AstStack
import Rustemo.Proofs.AstTokens
import Rustemo.Proofs.AstTypes
import Rustemo.Proofs.AstExample
/-!
# C10 — the default AST carries every content token of the input, in input order

Model: `Rustemo/Model/Ast.lean` (type inference of `grammar/types/mod.rs`), `Rustemo/Model/AstEval.lean`
(`eval`: the generated `shift_action` / `reduce_action` arms of `generator/base.rs` composed with the
generated action bodies of `generator/actions/production.rs`, run over a parse tree in the order the LR
parser and `Tree::build` (GLR replay, right-nulled reductions included: a node may have fewer children
than its production has symbols) call the builder). `shapesFor fx g ts` are the shapes the generator
variant `fx` derives from the inferred types `ts`; `Fixes.repo` is /repo as it is now (after the repair
"right-recursive @vec rule collects elements in input order"), `Fixes.asWas` the code before the repairs.

`PTree.wellShaped` says that the children of every node match the content flags of the node's
production (implied by validity of the tree for the grammar); `eval … = .ok (some v)` says the
builder returned `v` (the model has explicit outcomes for every panic of the generated code and for
code that would not type-check).
-/
namespace Rustemo.Ast

def C10_statement (fx : Fixes) : Prop :=
  ∀ (g : AGrammar) (ts : List SymType), symbolTypes fx g = some ts →
  ∀ (t : PTree), t.wellShaped (shapesFor fx g ts) = true →
  ∀ (v : Val), eval (shapesFor fx g ts) t = .ok (some v) →
    v.tokens = t.contentTokens (shapesFor fx g ts)

/-- **Tokens in order.** For every supported shape table (the `insert(0, _)` variant, or no
right-recursive `@vec` rule), every well-shaped tree — LR or GLR replay, right-nulled nodes included,
location info on or off — and every value the builder returns: the string leaves of the value, in
field / element order, are exactly the texts of the content tokens of the tree in input order (each once). -/
theorem C10_tokens_in_order (sh : Shapes) (hs : Supported sh) (t : PTree) (hw : t.wellShaped sh = true)
    (v : Val) (h : eval sh t = .ok (some v)) : v.tokens = t.contentTokens sh :=
  eval_tokens sh hs t hw v h

theorem C10_holds_of_vecRight (fx : Fixes) (hf : fx.vecRight = true) : C10_statement fx := by
  intro g ts _ t hw v h
  exact eval_tokens _ (Or.inl (by simp [shapesFor, shapesOf, hf])) t hw v h

/-- **The statement holds of /repo as it is, for all grammars** (every variant with the F7 repair). -/
theorem C10_holds : C10_statement Fixes.repo := C10_holds_of_vecRight _ rfl

/-- `S: KA L R; @vec L: L Num | Num; @vec R: Id R | Id;` on `KA 1 2 a b`: what is evaluated of the shapes, for /repo as
it is and for the code as it was (one evaluation of the inferred types each) -/
theorem evaluated_vec (fx : Fixes) (h : fx = .repo ∨ fx = .asWas) :
    (symbolTypes fx (gVec false)).isSome = true ∧
    tVec.wellShaped (shapesFor fx (gVec false) (typesOf fx (gVec false))) = true ∧
    tVec.contentTokens (shapesFor fx (gVec false) (typesOf fx (gVec false))) = ["1", "2", "a", "b"] := by
  rcases h with rfl | rfl <;> decide +kernel

/-- non-vacuity: `S: KA L R; @vec L: L Num | Num; @vec R: Id R | Id;` on `KA 1 2 a b`, /repo as it is:
both vectors in input order -/
example : symbolTypes .repo (gVec false) = some (typesNow (gVec false)) ∧
    tVec.wellShaped (shapesNow (gVec false)) = true ∧
    eval (shapesNow (gVec false)) tVec
      = .ok (some (.node "S" ["l", "r"] [.vec [.str "1", .str "2"], .vec [.str "a", .str "b"]])) ∧
    tVec.contentTokens (shapesNow (gVec false)) = ["1", "2", "a", "b"] :=
  have e := evaluated_vec .repo (.inl rfl)
  ⟨symbolTypes_eq_typesOf e.1, e.2.1, by rfl, e.2.2⟩

/-- **The generated builder is `eval`.** `run` is the DefaultBuilder as the stack machine it is
(`shift_action` pushes, every `reduce_action` arm splits its entries off the result stack), fed with
the calls the LR parser / `Tree::build` make for the tree (post-order, `prod_len` = number of children):
whatever the stack was, it ends with the outcome of `eval` on top — the same value or the same error. -/
theorem C10_stack_machine_is_eval (sh : Shapes) (t : PTree) (s : List (Option Val)) :
    run sh t.events s = pushRes s (eval sh t) :=
  run_events sh t s

/-- **A reused parser object.** The builder lives in the parser and its result stack is NOT cleared when a
parse fails, so the next parse on the same object starts on a stale stack `s`. Harmless: `get_result` pops the
TOP, which is the value of the new tree, whatever lies below. (Every run also checks this on the compiled
parsers: ~30 % of the observed inputs are parsed after a history input on the same parser object.) -/
theorem C10_stale_stack_harmless (sh : Shapes) (t : PTree) (v : Val) (s : List (Option Val))
    (h : eval sh t = .ok (some v)) :
    (match run sh t.events s with | .ok s' => getResult s' | .error e => .error e) = .ok v := by
  rw [run_events sh t s, h]
  rfl

theorem C10_builder_returns_tokens (sh : Shapes) (hs : Supported sh) (t : PTree) (hw : t.wellShaped sh = true)
    (v : Val) (h : runTree sh t = .ok v) : v.tokens = t.contentTokens sh :=
  eval_tokens sh hs t hw v ((runTree_ok_iff sh t v).mp h)

theorem C10_builder_returns_tokens_repo (g : AGrammar) (ts : List SymType) (t : PTree)
    (hw : t.wellShaped (shapesFor .repo g ts) = true) (v : Val) (h : runTree (shapesFor .repo g ts) t = .ok v) :
    v.tokens = t.contentTokens (shapesFor .repo g ts) :=
  C10_builder_returns_tokens _ (Or.inl rfl) t hw v h

example : (runTree (shapesNow gVecL) tVecL).toOption.map Val.tokens = some ["1", "2", "3"] := by decide +kernel

/-- **Finding F7 (repaired in /repo).** The full statement is FALSE of the code as it was:
`@vec R: Id R | Id` on `a b` yielded `["b", "a"]`. -/
theorem C10_counterexample_right_vec : ¬ C10_statement Fixes.asWas := by
  intro h
  have e := evaluated_vec .asWas (.inr rfl)
  have := h (gVec false) (typesWas (gVec false)) (symbolTypes_eq_typesOf e.1) tVec e.2.1
    (.node "S" ["l", "r"] [.vec [.str "1", .str "2"], .vec [.str "b", .str "a"]]) (by rfl)
  rw [e.2.2] at this
  exact absurd this (by decide)

/-- The old code was right exactly where no Vec-kind rule has its vector on the right (`hasRightVec`,
driver `ast classv 0`: `rightvec=0`) … -/
theorem C10_supported_of_no_right_vec (g : AGrammar) (ts : List SymType) (h : hasRightVec ts = false) :
    Supported (shapesOf g ts false) :=
  supported_of_no_right_vec g ts h

/-- … so that on those grammars the statement also held before the repair. -/
theorem C10_as_was_partial (g : AGrammar) (ts : List SymType) (hr : hasRightVec ts = false) (t : PTree)
    (hw : t.wellShaped (shapesFor .asWas g ts) = true) (v : Val)
    (h : eval (shapesFor .asWas g ts) t = .ok (some v)) : v.tokens = t.contentTokens (shapesFor .asWas g ts) :=
  eval_tokens _ (supported_of_no_right_vec g ts hr) t hw v h

/-! ## `?=` assignments: "a token bound by a ?= assignment contributes only its presence"

`C10_statement` above speaks about the texts of the regex-matched (content) tokens; it does not say anything about a
`?=` assignment whose target has NO content (a string-match terminal): that symbol is no content token, and
`C10_holds` does not speak of it. The presence clause of the property is the separate statement below. It is
FALSE of /repo as it is (`is_bool` is recorded by the front-end and read by nothing): finding C10-N1, recorded. -/

/-- The presence clause: every `?=`-bound symbol of a production of a reachable rule shows in the value built for
that production as a member named by the assignment (whatever its type: a flag, or the text / value of the symbol). -/
def C10_presence_statement (fx : Fixes) : Prop :=
  ∀ (g : AGrammar) (ts : List SymType), symbolTypes fx g = some ts →
  ∀ (i : Nat) (p : AProd), g.prods[i]? = some p → ntReach g p.nt = true →
  ∀ (r : RSym) (l : String), r ∈ p.rhs → r.isBool = true → r.label = some l →
    ∃ c, choiceOfProd g ts i p = some c ∧ l ∈ c.memberNames

/-- the property as stated: content tokens in input order AND presence of `?=`-bound symbols -/
def C10_full_statement (fx : Fixes) : Prop := C10_statement fx ∧ C10_presence_statement fx

/-- **Finding C10-N1 (recorded).** `A: neg?=KA n=Num | KB pos?=Id m=Num;`: the choice of the first production has
the single member `n` — `neg`, bound with `?=` to the keyword `KA`, is not there; its presence is lost. (`pos`,
bound to the regex terminal `Id`, IS a member and carries the token text: more than its presence.) -/
theorem C10_counterexample_bool_assignment_lost : ¬ C10_presence_statement Fixes.repo := by
  obtain ⟨hts, hp, hreach, hmem, hbool, hlabel, hlost⟩ :
      (symbolTypes .repo gBool).isSome = true ∧ gBool.prods[3]? = some pNeg ∧ ntReach gBool pNeg.nt = true ∧
      rNeg ∈ pNeg.rhs ∧ rNeg.isBool = true ∧ rNeg.label = some "neg" ∧
      ¬ ∃ c, choiceOfProd gBool (typesNow gBool) 3 pNeg = some c ∧ "neg" ∈ c.memberNames := by decide +kernel
  exact fun h => hlost
    (h gBool (typesNow gBool) (symbolTypes_eq_typesOf hts) 3 pNeg hp hreach rNeg "neg" hmem hbool hlabel)

/-- what the builder returns for `KA 1 KB x 3`: no trace of `neg`, the text of `pos` -/
example : eval (shapesNow gBool) tBool
    = .ok (some (.vec [.node "C1" [] [.node "AC1" ["n"] [.str "1"]],
                       .node "C2" [] [.node "AC2" ["pos", "m"] [.str "x", .str "3"]]])) := by rfl

theorem C10_counterexample_full_statement : ¬ C10_full_statement Fixes.repo :=
  fun h => C10_counterexample_bool_assignment_lost h.2

/-- the class predicate of the finding (driver `ast class`: `boollost=1`) holds of the witness -/
example : hasLostBool gBool = true := by decide +kernel

/-- **What does hold:** a `?=`- (or `=`-) bound symbol WITH content (regex terminal, nonterminal) is a member of the
struct of its production, under the assignment's name (statement about `mkChoice`; `make_choices_name_unique` and
`find_recursions` only rename choices / set Box flags). -/
theorem C10_bool_assignment_with_content_kept (nt : String) (ntidx : Nat) (p : AProd) (r : RSym) (l : String)
    (hr : r ∈ p.rhs) (hc : r.content = true) (hl : r.label = some l) :
    l ∈ (mkChoice nt ntidx p).memberNames := by
  obtain ⟨i, hk⟩ := List.mem_iff_getElem?.mp hr
  have hi : (i, r) ∈ contentRhs p := mem_contentRhs_iff.mpr ⟨hk, hc⟩
  unfold mkChoice
  simp only
  split
  · rename_i hnil
    rw [hnil] at hi; cases hi
  · rename_i a rest hcons
    rw [hcons] at hi
    split
    · rename_i hcond
      simp only [Bool.and_eq_true, List.isEmpty_iff, Option.isNone_iff_eq_none] at hcond
      obtain ⟨hrest, hnone⟩ := hcond
      rw [hrest] at hi
      simp only [List.mem_singleton] at hi
      rw [← hi] at hnone
      simp only at hnone
      rw [hl] at hnone; cases hnone
    · simp only [Choice.memberNames, List.map_map, List.mem_map, Function.comp]
      exact ⟨(i, r), by rw [hcons]; exact hi, fieldOf_label _ (i, r) l hl⟩

/-- **Vectors in input order.** Left recursion (`A: A B`, also what `*`, `+` expand to) appends the new
element after the elements collected so far; right recursion puts the new element in front (/repo as
it is) — before the repair it appended the FIRST element LAST. -/
theorem C10_vec_in_order (loc opt : Bool) (as : List Val) (b : Val) :
    (∀ fixed, applyAct loc fixed opt (.vecPush true) [.vec as, b] = .ok (.vec (as ++ [b]))) ∧
    applyAct loc true opt (.vecPush false) [b, .vec as] = .ok (.vec (b :: as)) ∧
    applyAct loc false opt (.vecPush false) [b, .vec as] = .ok (.vec (as ++ [b])) :=
  ⟨fun fixed => vec_left_in_order loc fixed opt as b, vec_right_fixed loc opt as b,
    vec_right_as_is loc opt as b⟩

/-- **None exactly when absent.** The action of an optional rule that is not a repetition returns
`None` for the EMPTY alternative and `Some _` for every other alternative. -/
theorem C10_optional_none_iff_absent (loc fixed : Bool) (act : Act) (ps : List Val) (v : Val)
    (hv : act.isVec = false) (h : applyAct loc fixed true act ps = .ok v) :
    (v = .none ↔ act = .empty) ∧ (act ≠ .empty → ∃ w, v = .some w) := by
  cases applyAct_ok h with
  | vecEmpty | vecOne | pushLeft | pushRight => cases hv
  | _ => simp [wrapSome]

/-- **GLR replay with right-nulled reductions** is an instance of `C10_tokens_in_order`: a node
with fewer children than its production has symbols is well-shaped, the arm fills `None` for the
missing content symbols. Instance: `S: Num A; A: Id | EMPTY;`, GLR tree of `7` (S reduced with ONE child). -/
theorem C10_rn_replay :
    tNulled.wellShaped (shapesNow (gOptTail true)) = true ∧
    eval (shapesNow (gOptTail true)) tNulled
      = .ok (some (.node "S" ["num", "a"] [.str "7", .none])) := ⟨by decide +kernel, by rfl⟩

end Rustemo.Ast
