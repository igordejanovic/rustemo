import Rustemo.Proofs.AstDefs
import Rustemo.Proofs.AstTypes
import Rustemo.Proofs.AstDfs
import Rustemo.Proofs.AstExample
/-!
# C11 — generated parser and actions compile for every accepted grammar and setting

The verdict is rustc's and is obtained by compiling (tools/props/c11.py). What is logic is modelled:
`Model/Ast.lean` (type inference incl. `find_recursions`), `Model/AstGen.lean` (`skeleton`: every
generated type and action signature, every call of the shift / reduce arms with its arguments;
`Skel.wellFormed`: names declared once per namespace, references declared, every by-value containment
cycle broken by Box/Vec, arm arguments of the parameters' types, the assumptions of the generated Vec
action bodies). The skeleton of the model is compared TEXTUALLY with the items of the generated files on
every run, and `Skel.wellFormed` with rustc's verdict.

`Fixes.repo` is /repo as it is now: the repairs of F22, F23, the `C`-rule case of F13 and the
`Option<Box<_>>` case of F12 have landed; `Fixes.asWas` is the code before them. Proved: the DFS that
places the `Box`es breaks every reference cycle (`C11_box_breaks_cycles`), the sizedness check is sound
(`C11_sized_sound`, run as a certificate on every skeleton), arms of productions that are not
right-nulled are well typed (`C11_arms_typed_partial`), each repaired witness is well formed now and
was not before. The full statement `C11_statement Fixes.repo` is still false (F12 for non-Option tails,
F13 for the remaining name collisions: counterexamples below).
-/
namespace Rustemo.Ast

/-- The model-level full statement: the skeleton of every grammar is well formed. -/
def C11_statement (fx : Fixes) : Prop :=
  ∀ (g : AGrammar) (ts : List SymType), symbolTypes fx g = some ts → (skeleton fx g ts).wellFormed = true

/-- **Box breaks cycles.** `findRecursions` is the DFS of `SymbolTypes::find_recursions` on the
reference graph of the inferred types (one edge per `Ref` choice / struct field / `Ref`- or `Vec`-kind
target, in the order the code visits them; a marked edge is generated as `Box<_>`). If the search
terminates normally, every cycle of references through a type reachable from the start symbol contains
a marked edge. (The by-value containment graph of the generated types is a subgraph of the reference
graph: `Vec`-kind edges are no containment.) -/
theorem C11_box_breaks_cycles (ts : List SymType) (start : String) (st : DfsSt)
    (h : findRecursions (refGraph ts) start = some st) (u : String) (hr : Reach (refGraph ts) start u) :
    ¬ UnmarkedPath (refGraph ts) st.flags u u :=
  findRecursions_breaks_cycles (refGraph ts) start st h u hr

/-- non-vacuity: `E: left=E KA right=E {Add} | KB A KB; A: E | Num;` — the search terminates, the cycles
`E → E` (both fields) and `E → A → E` exist and get marks (note `E` finished twice: the start symbol is
not in `visiting`). -/
example : findRecursions (refGraph (rawTypes .repo gRec)) "E"
    = some { flags := [("A", 0), ("E", 1), ("E", 0)], visited := ["Num", "A", "E", "E"] } := by decide +kernel
example : EdgeAt (refGraph (rawTypes .repo gRec)) "E" 2 "A" ∧ EdgeAt (refGraph (rawTypes .repo gRec)) "A" 0 "E" :=
  ⟨⟨["E", "E", "A"], by decide +kernel, by decide +kernel⟩, ⟨["E", "Num"], by decide +kernel, by decide +kernel⟩⟩

/-- **Sizedness certificate.** When `Skel.sized` answers `true` no set of declared types is tied into
a by-value containment knot (each member containing another member outside of Box / Vec) — in
particular there is no containment cycle, the cause of rustc's E0072. -/
theorem C11_sized_sound (s : Skel) (h : s.sized = true) : ¬ ∃ C, Knot s.contain C :=
  fun ⟨C, hk⟩ => Skel.sized_sound h C hk

example : (skelNow gRec).sized = true := by decide +kernel

/-- **Arms of full length are well typed** (a partial form of `C11_statement`), for every variant: for
a production that is not right-nulled — every production when the table is LR — each call of its
reduce arm passes arguments of exactly the parameter types, provided the call resolves to the action
generated for the production (hypothesis `hsig`: this is what `Skel.namesDistinct` buys, cf. F13), whose
parameters are the production's content symbols. Missing for the full statement: the resolution of
names (F13) and the right-nulled arms (F12); both are real, recorded defects. -/
theorem C11_arms_typed_partial (fx : Fixes) (s : Skel) (ts : List SymType) (nt : String) (c : Choice) (p : AProd)
    (names : List String) (hrn : p.rnLen = p.rhs.length)
    (hsig : s.fnSig (actionName nt c) = some (List.zip names ((contentRhs p).map (fun a => Ty.named a.2.name))))
    (hlen : names.length = (contentRhs p).length) :
    ∀ call ∈ prodCalls fx ts nt c p, s.callOk call = true := by
  intro call hcall
  rw [prodCalls_full fx ts nt c p hrn, List.mem_singleton] at hcall
  subst hcall
  simp only [Skel.callOk, hsig]
  exact argsOk_full fx ts s _ (contentRhs p) 0 names (contentRhs_lt p) hlen

/-- The closed statements of this file about the witnesses of `Proofs/AstExample.lean`, evaluated together: one kernel
run decodes the string constants of `Model/AstGen.lean` (keyword list, prelude and header names) once instead of once
per statement. -/
theorem evaluated :
    ((skelNow (gTail false)).wellFormed = true ∧
     ((skelNow (gTail true)).armsTyped = false ∧ (skelNow (gTail true)).namesDistinct = true ∧
      (skelNow (gTail true)).refsDeclared = true ∧ (skelNow (gTail true)).sized = true) ∧
     (skelNow (gOptTail true)).wellFormed = true ∧
     (skelNow gClash).namesDistinct = false ∧
     (symbolTypes .repo (gTail true)).isSome = true) ∧
    (((skelWas gVecLabel).vecLabelsOk = false ∧ (skelWas gVecLabel).vecLabels = ["myItem"]) ∧
     (skelNow gVecLabel).wellFormed = true ∧
     ((skelWas gVecAlt).vecAltsOk = false ∧ (skelWas gVecAlt).sized = false) ∧
     (skelNow gVecAlt).wellFormed = true) ∧
    (skelWas gRuleC).namesDistinct = false ∧
    (skelNow gRuleC).wellFormed = true ∧
    (skelWas gOptBox).armsTyped = false ∧
    (skelNow gOptBox).wellFormed = true ∧
    (symbolTypes .asWas gVecLabel).isSome = true := by decide +kernel

/-- non-vacuity: the whole skeleton of the LR variant of the F12 witness is well formed -/
example : (skelNow (gTail false)).wellFormed = true := evaluated.1.1

/-! ## what remains false of /repo as it is (recorded findings) -/

/-- **Finding F12 (recorded).** GLR + default builder, `S: Num A; A: B T; B: Num | EMPTY; T: Id | EMPTY;`:
the right-nulled arm of `S` passes `None` for `A`, whose type is a struct — the skeleton is ill-typed
(rustc: E0308), although names, references and sizedness are fine. -/
theorem C11_counterexample_nulled_tail :
    (skelNow (gTail true)).armsTyped = false ∧ (skelNow (gTail true)).namesDistinct = true ∧
    (skelNow (gTail true)).refsDeclared = true ∧ (skelNow (gTail true)).sized = true := evaluated.1.2.1

/-- … whereas a right-nulled tail that IS an Option is fine: `S: Num A; A: Id | EMPTY;` under GLR. -/
example : (skelNow (gOptTail true)).wellFormed = true := evaluated.1.2.2.1

/-- **Finding F13 (recorded).** `A` with production kind `BP1` and `AB` with its first production both
give the `ProdKind` variant `ABP1` (rustc: E0428). -/
theorem C11_counterexample_name_clash : (skelNow gClash).namesDistinct = false := evaluated.1.2.2.2.1

/-- hence the full statement is false of /repo as it is -/
theorem C11_counterexample_statement : ¬ C11_statement Fixes.repo := by
  intro h
  have := h (gTail true) (typesNow (gTail true)) (symbolTypes_eq_typesOf evaluated.1.2.2.2.2)
  rw [Skel.wellFormed, C11_counterexample_nulled_tail.1] at this
  simp at this

/-! ## the repaired findings: false of the code as it was, true of /repo as it is -/

/-- **F23 (repaired).** `@vec V: V Num | myItem=Num;`: the body of the single-element action referred to
`to_snake_case(name)` = `my_item` while the parameter is called `myItem` (rustc: E0425). -/
theorem C11_counterexample_vec_label :
    (skelWas gVecLabel).vecLabelsOk = false ∧ (skelWas gVecLabel).vecLabels = ["myItem"] := evaluated.2.1.1
theorem C11_fixed_vec_label : (skelNow gVecLabel).wellFormed = true := evaluated.2.1.2.1

/-- **F22 (repaired).** `@vec V: V Num | W | Num; W: KB W | Id;` was taken for a `Vec<Num>` (`ChoiceKind::Ref`
overwrote `single` in `get_type_kind`): the action of `V: W` built `vec![w]` from a `W`, and the recursive
`W` was never visited by `find_recursions` (no reference of `V`'s type), so it was not boxed (E0308, E0072).
Now the rule is an enum and `W` is reached and boxed. -/
theorem C11_counterexample_vec_alt :
    (skelWas gVecAlt).vecAltsOk = false ∧ (skelWas gVecAlt).sized = false := evaluated.2.1.2.2.1
theorem C11_fixed_vec_alt : (skelNow gVecAlt).wellFormed = true := evaluated.2.1.2.2.2

/-- **F13, rule named `C` (repaired).** With `builder_loc_info` the header imported `Context as C`,
colliding with the type of a rule `C` (E0255); it now imports the trait anonymously. -/
theorem C11_counterexample_rule_c : (skelWas gRuleC).namesDistinct = false := evaluated.2.2.1
theorem C11_fixed_rule_c : (skelNow gRuleC).wellFormed = true := evaluated.2.2.2.1

/-- **F12, `Option<Box<_>>` (repaired).** `S: KA B; B: y=Num x=A; A: B | EMPTY;` under GLR: `type A =
Option<Box<B>>` was right-nulled with `Box::new(None)` (E0308); now with `None`. -/
theorem C11_counterexample_opt_box : (skelWas gOptBox).armsTyped = false := evaluated.2.2.2.2.1
theorem C11_fixed_opt_box : (skelNow gOptBox).wellFormed = true := evaluated.2.2.2.2.2.1

/-- the statement was false of the old code for these reasons as well -/
theorem C11_counterexample_statement_as_was : ¬ C11_statement Fixes.asWas := by
  intro h
  have := h gVecLabel (typesWas gVecLabel) (symbolTypes_eq_typesOf evaluated.2.2.2.2.2.2)
  rw [Skel.wellFormed, Skel.vecBodiesOk, C11_counterexample_vec_label.1] at this
  simp at this

end Rustemo.Ast
