import Rustemo.Props.C01
import Rustemo.Proofs.Viable
import Rustemo.Proofs.ViableExample
/-!
# C12 — syntax errors point at the first offending token; sentences never error

LR half proved, GLR half PARTIAL.  Proved: a sentence is never rejected (`C12_sentences_never_error`, the parser
result is `accept` for every sufficiently large fuel and can therefore never be an error); an input that is
rejected is not a sentence; the error the byte-level model reports always carries a non-empty list
of expected tokens and the position reached after skipping layout, i.e. the start of the token that
was not accepted (`C12_error_expected_nonempty`); and the POSITION claim (second half of this file):
the rejected token is the *first* token that cannot continue any sentence beginning with the tokens
before it — `C12_error_at_first_offending_token` (token level, any table passing `certC12`) from
`C12_no_early_error` (prefix locality + completeness) and `C12_no_late_error` (the parser never shifts a
token that makes the consumed prefix non-viable; merged lookaheads only delay the error by reductions),
transferred to the byte-level model for single-character grammars
(`C12_bytes_error_at_first_offending_token`).  See notes/Viable.md.
NOT proved (decided by an independent Earley viable-prefix oracle on generated inputs): the GLR half;
the byte level for multi-character / regex terminals, Layout rules and whitespace between tokens;
termination (that a non-sentence eventually yields the error rather than running out of fuel).
-/
namespace Rustemo.Props.C12
open Rustemo Rustemo.Props.C01

/-- **Sentences never error**: on a certified deterministic table no run on a sentence ends in an
    error (or a panic): as soon as it ends it accepts. -/
theorem C12_sentences_never_error (g : Grammar) (t : Table) (hcert : certC01 g t = true)
    (tx : Tree) (hv : tx.Valid g g.startIdx) (fuel : Nat) :
    tparse g t tx.yield fuel = .fuel ∨ tparse g t tx.yield fuel = .accept tx.plain := by
  obtain ⟨f2, e2⟩ := C01_sentence_is_accepted g t hcert tx hv
  by_cases hf : tparse g t tx.yield fuel = .fuel
  · exact Or.inl hf
  · exact Or.inr (trun_det rfl e2 hf TResult.noConfusion)

/-- an input on which the parser reports an error is not a sentence -/
theorem C12_error_only_on_nonsentence (g : Grammar) (t : Table) (hcert : certC01 g t = true)
    (w : List Nat) (fuel k s : Nat) (h : tparse g t w fuel = .error k s) : ¬ Sentence g w := by
  intro ⟨tx, hv, hy⟩
  have := C12_sentences_never_error g t hcert tx hv fuel
  rw [hy, h] at this
  rcases this with h1 | h1 <;> simp at h1

/-- the error produced when no token is found lists at least one expected token and is reported at
    the position where lexing stopped -/
theorem C12_error_expected_nonempty (env : Env) (pp : Bool) (ctx ctx' : Ctx) (p : Pos) (ks : List Nat)
    (h : noToken env pp ctx = (ctx', .err (.expected p ks))) : ks ≠ [] ∧ p = ctx.pos ∧ ctx' = ctx := by
  rcases noToken_spec env pp ctx with ⟨_, e⟩ | ⟨_, e⟩ | ⟨hne, e⟩ <;> rw [e] at h <;> cases h
  exact ⟨hne, rfl, rfl⟩

/-! ## The position claim: the error is at the first offending token (valid-prefix property, LR half)

`ViablePrefix g p` = some sentence begins with `p`.  Hypotheses: `certC01` (structural + complete +
accept only on STOP, as for C01) and, for the "no late error" half, `Cert.viable`: the grammar is
reduced (`Cert.productive`, excludes F10 grammars), every item of every state is anchored in its kernel
by closure steps (`Cert.anchored`), shift/goto targets are non-empty states (`Cert.targetsNonEmpty`).
All of them are executable and run by the driver on every real table (`cert c01`, `cert viable`). -/

def certC12 (g : Grammar) (t : Table) : Bool := certC01 g t && Cert.viable g t (autosOf g t)

theorem certC12_of {g : Grammar} {t : Table} (h1 : certC01 g t = true)
    (h2 : Cert.viable g t (autosOf g t) = true) : certC12 g t = true := by
  rw [certC12, h1, h2]; rfl

theorem certC12_c01 {g : Grammar} {t : Table} (h : certC12 g t = true) : certC01 g t = true :=
  (Bool.and_eq_true _ _ ▸ h).1

theorem certC12_sound {g : Grammar} {t : Table} (h : certC12 g t = true) : Certified g t ∧ ViableOk g t := by
  rw [certC12, Bool.and_eq_true] at h
  exact ⟨certC01_sound h.1, Cert.viable_sound h.2⟩

/-- no early error, for any split of the input: an error on `q ++ y` with `q` a viable prefix leaves at
    most `|y|` tokens -/
theorem C12_no_error_inside_viable_prefix (g : Grammar) (t : Table) (hcert : certC01 g t = true)
    (q y : List Nat) (hv : ViablePrefix g q) (fuel k s : Nat)
    (h : tparse g t (q ++ y) fuel = .error k s) : k ≤ y.length :=
  viable_no_early_error (certC01_sound hcert) q y hv fuel k s h

/-- **No early error.**  If `p ++ [a]` begins some sentence then the parser reports no error while `a`
    or an earlier token is the lookahead: on `p ++ [a] ++ r` an error leaves at most `|r|` tokens. -/
theorem C12_no_early_error (g : Grammar) (t : Table) (hcert : certC01 g t = true)
    (p : List Nat) (a : Nat) (r : List Nat) (hv : ViablePrefix g (p ++ [a])) (fuel k s : Nat)
    (h : tparse g t (p ++ [a] ++ r) fuel = .error k s) : k ≤ r.length :=
  C12_no_error_inside_viable_prefix g t hcert (p ++ [a]) r hv fuel k s h

/-- end of input: if the whole input is a viable prefix, the only error the parser can report is the
    one with STOP as the lookahead (no tokens remaining) -/
theorem C12_viable_input_errors_only_at_end (g : Grammar) (t : Table) (hcert : certC01 g t = true)
    (w : List Nat) (hv : ViablePrefix g w) (fuel k s : Nat)
    (h : tparse g t w fuel = .error k s) : k = 0 := by
  have := C12_no_error_inside_viable_prefix g t hcert w [] hv fuel k s (by simpa using h)
  simpa using this

/-- **Viable prefixes are shifted**: if `q` begins some sentence (and contains no STOP) the run on
    `q ++ y` reaches a configuration where exactly `q` has been shifted and `y` remains. -/
theorem C12_viable_prefix_is_shifted (g : Grammar) (t : Table) (hcert : certC01 g t = true)
    (q y : List Nat) (hnz : ∀ b ∈ q, b ≠ 0) (hv : ViablePrefix g q) :
    ∃ c, Reaches g t ⟨⟨[], []⟩, q ++ y⟩ ⟨c, y⟩ ∧ c.shifted = q.reverse :=
  viable_is_shifted (certC01_sound hcert) q y hnz hv

/-- **No late error**: the parser never SHIFTS a token that makes the consumed prefix non-viable.  In
    every configuration `c` the run on `w` reaches, the shifted tokens are the first
    `c.c.shifted.length` tokens of `w` and they begin some sentence.  (With merged LALR lookaheads
    reductions may happen before the error is detected, but no shift.) -/
theorem C12_no_late_error (g : Grammar) (t : Table) (hcert : certC12 g t = true)
    (w : List Nat) (c : TCfg) (hr : Reaches g t ⟨⟨[], []⟩, w⟩ c) :
    c.c.shifted.reverse = w.take c.c.shifted.length ∧ c.rest = w.drop c.c.shifted.length ∧
    ViablePrefix g (w.take c.c.shifted.length) := by
  obtain ⟨hc, hV⟩ := certC12_sound hcert
  obtain ⟨hsplit, hv⟩ := reaches_viable hc hV hr
  have ht : c.c.shifted.reverse = w.take c.c.shifted.length := by
    rw [← hsplit, ← List.length_reverse, List.take_left]
  have hd : c.rest = w.drop c.c.shifted.length := by
    rw [← hsplit, ← List.length_reverse, List.drop_left]
  exact ⟨ht, hd, ht ▸ hv⟩

/-- **The parser shifts exactly the viable prefixes** of its input. -/
theorem C12_shifted_iff_viable (g : Grammar) (t : Table) (hcert : certC12 g t = true)
    (w : List Nat) (hnz : ∀ b ∈ w, b ≠ 0) (k : Nat) (hk : k ≤ w.length) :
    (∃ c, Reaches g t ⟨⟨[], []⟩, w⟩ c ∧ c.c.shifted.length = k) ↔ ViablePrefix g (w.take k) := by
  constructor
  · intro ⟨c, hr, hlen⟩
    rw [← hlen]
    exact (C12_no_late_error g t hcert w c hr).2.2
  · intro hv
    obtain ⟨c, hr, hsh⟩ := C12_viable_prefix_is_shifted g t (certC12_c01 hcert) (w.take k) (w.drop k)
      (fun b hb => hnz b (List.mem_of_mem_take hb)) hv
    rw [List.take_append_drop] at hr
    exact ⟨⟨c, w.drop k⟩, hr, by simp [hsh, List.length_take, Nat.min_eq_left hk]⟩

/-- **C12 (LR, token level): the error is reported exactly at the first offending token.**
    If the run on `w` ends in `.error k s` — `k` tokens remaining, i.e. the lookahead is the token of
    index `i = |w| - k`, or STOP when `k = 0` — then
    * `w.take i` begins some sentence (all tokens before the reported one can be continued),
    * if the lookahead is a token (`k ≠ 0`): `w.take (i+1)` begins no sentence — the reported token is
      the FIRST token that cannot continue any sentence beginning with the tokens before it,
    * if the lookahead is STOP (`k = 0`): `w` is not a sentence (and, by the first point, is a proper
      prefix of one),
    * the error is raised in a configuration reached by the run in which exactly `w.take i` has been
      shifted, `s` is the top state and the cell of `s` for the lookahead is empty: the expected set
      is the set of terminals with a non-empty cell in `s`, and the lookahead is not in it. -/
theorem C12_error_at_first_offending_token (g : Grammar) (t : Table) (hcert : certC12 g t = true)
    (w : List Nat) (fuel k s : Nat) (h : tparse g t w fuel = .error k s) :
    k ≤ w.length ∧ ViablePrefix g (w.take (w.length - k)) ∧
    (k ≠ 0 → ¬ ViablePrefix g (w.take (w.length - k + 1))) ∧
    (k = 0 → ¬ Sentence g w) ∧
    ∃ c, Reaches g t ⟨⟨[], []⟩, w⟩ c ∧ c.rest = w.drop (w.length - k) ∧
         c.c.shifted.reverse = w.take (w.length - k) ∧
         s = topOf 0 c.c.stack ∧ t.cell s (lookahead c.rest) = [] := by
  obtain ⟨hc, hV⟩ := certC12_sound hcert
  obtain ⟨c, hr, he⟩ := trun_error_reaches g t fuel _ k s h
  obtain ⟨hk, hs', hcell⟩ := tstep_error_iff.mp he
  rw [← hs'] at hcell
  obtain ⟨hsplit, hvia⟩ := reaches_viable hc hV hr
  have hlen : c.c.shifted.reverse.length + k = w.length := by
    rw [← hsplit, List.length_append, hk]
  have htake : c.c.shifted.reverse = w.take (w.length - k) := by
    have : w.length - k = c.c.shifted.reverse.length := by omega
    rw [this, ← hsplit, List.take_left]
  have hdrop : c.rest = w.drop (w.length - k) := by
    have : w.length - k = c.c.shifted.reverse.length := by omega
    rw [this, ← hsplit, List.drop_left]
  refine ⟨by omega, htake ▸ hvia, ?_, ?_, c, hr, hdrop, htake, hs', hcell⟩
  · intro hk0 hv1
    -- `w = take (i+1) ++ drop (i+1)` for `i = |w| - k`: an error with `k` tokens remaining contradicts "no early error"
    have hsplit' : w = w.take (w.length - k + 1) ++ w.drop (w.length - k + 1) :=
      (List.take_append_drop _ _).symm
    rw [hsplit'] at h
    have := viable_no_early_error hc _ _ hv1 fuel k s h
    simp only [List.length_drop] at this
    omega
  · intro hk0 ⟨tx, hvx, hy⟩
    subst hk0
    obtain ⟨F, hF⟩ := hc.accepts tx hvx
    rw [hy] at hF
    -- accept and error cannot both be the result of the run
    exact TResult.noConfusion (trun_det h hF TResult.noConfusion TResult.noConfusion)

/-- every non-sentence is rejected with an error at its first offending token: an input that is not a
    sentence never yields `accept`, so as soon as the run ends (enough fuel, no panic) it ends in the
    error characterised by `C12_error_at_first_offending_token` -/
theorem C12_nonsentence_not_accepted (g : Grammar) (t : Table) (hcert : certC01 g t = true)
    (w : List Nat) (hnz : ∀ x ∈ w, x ≠ 0) (hw : ¬ Sentence g w) (fuel : Nat) (tr : Tree) :
    tparse g t w fuel ≠ .accept tr := by
  intro h
  exact hw ⟨tr, C01_accepted_is_sentence g t hcert w hnz fuel tr h⟩

/-- the hand-compiled table of `S: 'a' S | EMPTY` passes the whole certificate -/
example : certC12 Example.g Example.t = true := certC12_of certC01_Example (by decide +kernel)
theorem viable_Example2 : Cert.viable Example2.g Example2.t (autosOf Example2.g Example2.t) = true := by decide +kernel
set_option maxRecDepth 8192 in
/-- … and so does the real LALR table of `S: 'a' A 'c' | 'b' A 'd'; A: 'x'` (merged lookaheads) -/
example : certC12 Example2.g Example2.t = true := certC12_of certC01_Example2 viable_Example2

/-- `a` is a viable prefix of `S: 'a' S | EMPTY`; the unknown token 2 after it is reported with one
    token remaining (index 1) -/
example : ViablePrefix Example.g [1] ∧ Example2.errorOf (tparse Example.g Example.t [1, 2] 20) = some (1, 1) :=
  ⟨⟨[], sentence_of_validB Example.g (Tree.mk 1 [Tree.tok 1, Tree.mk 2 []]) _ (by decide +kernel)⟩,
   by decide +kernel⟩

/-- `a x d` on the LALR table: `a x` begins the sentence `a x c`; the parser reduces `A: x` (merged
    lookahead `d`) and then reports the error in state 5 with `d` (index 2, one token remaining) as the
    lookahead — the hypotheses of `C12_error_at_first_offending_token` are satisfiable with `k ≠ 0` -/
example : ViablePrefix Example2.g [1, 5] ∧
    Example2.errorOf (tparse Example2.g Example2.t [1, 5, 4] 20) = some (1, 5) :=
  ⟨⟨[3], sentence_of_validB Example2.g Example2.treeAxc _ (by decide +kernel)⟩, by decide +kernel⟩

/-- `a x` is a proper prefix of a sentence: the error is reported with STOP as the lookahead (`k = 0`) -/
example : Example2.errorOf (tparse Example2.g Example2.t [1, 5] 20) = some (0, 4) := by decide +kernel

/-- an unproductive grammar (`S: 'a' S`, F10) fails `Cert.productive`: out of scope, and rightly so —
    no prefix is viable there although the parser shifts `a` -/
example : Cert.productive Example2.unproductive = false := by decide +kernel

/-! ## The same at the byte level (single-character terminals)

Through `C01_bytes_error_is_token_error` the position claim transfers to the byte-level model
`parse` (Model/LR.lean) — the model that is diffed against the real `LRParser` — for the grammars of the C01/C12
generators (one ASCII character per terminal): the reported byte offset IS the token index. -/

theorem top_state_lt {g : Grammar} {t : Table} (hsc : SingleChar g t) {st : List (Nat × Tree)}
    (hp : PathInv g t 0 st) : topOf 0 st < t.states.size := by
  rcases (pathInv_iff.mp hp).top with h | ⟨s, X, htr⟩
  · rw [h]; exact hsc.start_range
  · rcases Nat.lt_or_ge X g.nterms with hX | hX
    · exact hsc.shift_range _ _ _ ((Table.trans_term hX).mp htr)
    · exact hsc.goto_range _ _ _ ((Table.trans_nonterm hX).mp htr)

/-- **C12 (LR, byte level).**  If `parse` reports an error it is `expected p ks` where, with
    `w = tokens of the input`: the tokens before byte `p.pos` begin some sentence; if `p.pos` is inside
    the input the tokens up to and including the one at `p.pos` begin no sentence (first offending
    token); if `p.pos` is the end of the input, the input is not a sentence (but a prefix of one); and
    `ks` lists exactly the terminals with a non-empty cell in a state `s` that has no action for the
    rejected token (so `ks ≠ []` and the rejected token is not in `ks`). -/
theorem C12_bytes_error_at_first_offending_token (env : Env) (hcert : certC12 env.g env.t = true)
    (hlex : Cert.singleCharLexer env.g env.t = true) (henv : CharEnv env)
    (fuel : Nat) (ctx : Ctx) (e : PErr) (h : parse env false fuel = (ctx, .err e)) :
    ∃ p s, e = .expected p ((env.t.sorted s).map (·.1)) ∧ p.pos ≤ env.input.length ∧
      ViablePrefix env.g ((tokensOf env.g env.input).take p.pos) ∧
      (p.pos < env.input.length → ¬ ViablePrefix env.g ((tokensOf env.g env.input).take (p.pos + 1))) ∧
      (p.pos = env.input.length → ¬ Sentence env.g (tokensOf env.g env.input)) ∧
      (∀ a, a ∈ (env.t.sorted s).map (·.1) ↔ env.t.cell s a ≠ []) ∧
      (env.t.sorted s).map (·.1) ≠ [] ∧
      env.t.cell s (lookahead ((tokensOf env.g env.input).drop p.pos)) = [] := by
  obtain ⟨k, s, p, he, hpk, ht⟩ := C01_bytes_error_is_token_error env hlex henv fuel ctx e h
  have hsc := Cert.singleCharLexer_sound _ _ hlex
  obtain ⟨hk, hv, hnv, hns, c, hr, hrest, _, hs, hcell⟩ :=
    C12_error_at_first_offending_token env.g env.t hcert _ _ k s ht
  have hlen : (tokensOf env.g env.input).length = env.input.length := by simp [tokensOf]
  have hidx : (tokensOf env.g env.input).length - k = p.pos := by
    rw [hlen, ← hpk, Nat.add_sub_cancel]
  rw [hidx] at hv hnv hrest
  refine ⟨p, s, he, hpk ▸ Nat.le_add_right _ _, hv, ?_, ?_, hsc.sorted_cell s, ?_, ?_⟩
  · intro hlt; exact hnv (by omega)
  · intro heq; exact hns (by omega)
  · -- the state is a state of the table: it is the top state of a reachable configuration
    intro hnil
    have hinv := (certC12_sound hcert).1.reaches_tinv hr
    have hrange : s < env.t.states.size := hs ▸ top_state_lt hsc hinv.cinv.path
    exact hsc.sorted_ne s hrange (List.map_eq_nil_iff.mp hnil)
  · rw [← hrest]; exact hcell

/-- sentences never error, at the byte level -/
theorem C12_bytes_sentences_never_error (env : Env) (hcert : certC01 env.g env.t = true)
    (hlex : Cert.singleCharLexer env.g env.t = true) (henv : CharEnv env)
    (hs : Sentence env.g (tokensOf env.g env.input)) (fuel : Nat) (ctx : Ctx) (e : PErr) :
    parse env false fuel ≠ (ctx, .err e) := by
  intro h
  obtain ⟨k, s, p, _, _, ht⟩ := C01_bytes_error_is_token_error env hlex henv fuel ctx e h
  exact C12_error_only_on_nonsentence env.g env.t hcert _ _ k s ht hs

set_option maxRecDepth 8192 in
/-- non-vacuity: the byte-level hypotheses hold of the example with merged LALR lookaheads, and "axd"
    is a rejected input (error at byte 2, expected `c`) -/
example : certC12 Example3.g2 Example2.t = true ∧ Cert.singleCharLexer Example3.g2 Example2.t = true ∧
    Example3.errOf (parse (Example3.envOf Example3.g2 Example2.t Example3.axd false) false 50).2 = some (2, [3]) :=
  ⟨certC12_of certC01_g2 ((Cert.viable_terms Example2.g _ _).trans viable_Example2), singleChar_g2, axd_rejected⟩

end Rustemo.Props.C12
