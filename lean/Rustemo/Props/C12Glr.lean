import Rustemo.Props.C03
import Rustemo.Proofs.GlrOutcome
/-!
# C12, GLR half — over the engine model `Glr.parse`

Hypotheses used throughout (the ones of C03 (d) / C07): the right-nulled table passes `Cert.glr` and
`Cert.completeRN`; the run is token-deterministic, `LexDet env pp fuel n tok P L` (n tokens `tok 0 … tok (n-1)`, end
token `tok n` of kind STOP; a head of level `i` starts at `P i`, `find_lookaheads` moves it to `L i` — whitespace /
layout skipped, i.e. the START OF TOKEN `i` — and offers exactly `tok i` iff its state has an action on that kind).
The token kinds are `kinds n tok` (`Props.C07.kinds`, Proofs/GlrKinds.lean); `Sentence` / `ViablePrefix` are those of the LR half
(Proofs/Trees.lean).

Proved here (all over the engine model `Glr.parse`, Model/Glr.lean):
* `C12_glr_sentences_never_error` — a sentence is never answered with an error;
* `C12_glr_nonsentence_not_accepted`, `C12_glr_ok_only_on_sentence` — `ok` only on a sentence, and then the forest has
  a root; `C12_glr_nonsentence_errors` — a non-sentence is answered with an error whenever the run ends;
* `C12_glr_error_position_no_early_error` — the error position is `L k` for a token index `k` and token `k` is
  offending (needs no further certificate);
* `C12_glr_error_at_first_offending_token` — with `Cert.viable` (the certificate of the LR half: productive grammar,
  anchored closure items, non-empty target states) in addition: the tokens before `k` ARE a viable prefix, so `k` is
  THE first offending token (`C12_glr_error_index_is_first_offending`).
NOT proved: termination (fuel); `LexDet` is a hypothesis here (discharged for the string lexer on single-character
terminals, full parse, in Props/C03Bytes.lean; inputs with lexical ambiguity, context-dependent lexing, or an
unrecognisable character — on which the lexer offers nothing in ANY state — are outside; they are inside the
differential check); with partial parsing `LexDet` fails of the lexer for almost every table (a state without an action
on the next token but with one on STOP is offered a synthetic STOP), so the theorems are about the full parse in effect; nothing is said about the CONTENT of the expected list beyond non-emptiness; that `L k` is the
span start of `tok k` is part of what `LexDet` means by `L`, not a theorem about the lexer.
-/
namespace Rustemo.Props.C12Glr
open Rustemo Rustemo.Glr Rustemo.Props.C03 Rustemo.Props.C07

/-- **Sentences never error (GLR).**  Certified right-nulled table, token-deterministic run: if the token kinds are a
    sentence, `Glr.parse` (any fuel; `pp` is free, but `LexDet` hardly holds with partial parsing on: see the header) does not return an error.  (First clause of
    `C03_engine_complete`.)  Not claimed: that the run ends (`timeout` is not excluded; a panic is excluded by
    `C03_engine_no_panic_certified`, which assumes `Cert.glrLayout` in addition). -/
theorem C12_glr_sentences_never_error (env : Env) (hcert : Cert.glr env.g env.t = true)
    (hcomp : Cert.completeRN env.g env.t = true) (pp : Bool) (fuel n : Nat) (tok : Nat → Tok) (P L : Nat → Pos)
    (hL : LexDet env pp fuel n tok P L) (hs : Sentence env.g (kinds n tok)) :
    ∀ e, Glr.parse env pp fuel ≠ .err e := by
  obtain ⟨full, hv, hy⟩ := hs
  exact (C03_engine_complete env hcert hcomp pp fuel n tok P L hL full hv hy).1

/-- **A non-sentence yields no tree (GLR).**  Certified table, token-deterministic run: if `Glr.parse` returns a forest
    from which ANY tree can be taken (`getTree i = some tr` = `Forest::get_tree(i)` + `Tree::build`), the token kinds are
    a sentence.  (The tree is not needed: the accepting head has an LR stack spelling the whole token string,
    `Proofs/GlrOutcome.lean::parse_ok_spec`; `Cert.completeRN` is used for "accept only on STOP".) -/
theorem C12_glr_nonsentence_not_accepted (env : Env) (hcert : Cert.glr env.g env.t = true)
    (hcomp : Cert.completeRN env.g env.t = true) (pp : Bool) (fuel n : Nat) (tok : Nat → Tok) (P L : Nat → Pos)
    (hL : LexDet env pp fuel n tok P L) (r : GlrResult) (hr : Glr.parse env pp fuel = .ok r) (i : Nat) (tr : Tree)
    (hi : r.getTree i = some tr) : Sentence env.g (kinds n tok) :=
  (parse_ok_spec (certs_sound hcert hcomp) hL hr).1

/-- **Error position and "no early error" (GLR).**  Certified table, token-deterministic run.  If `Glr.parse` returns
    an error, it is `expected (L k) ks` for some token index `k ≤ n` (`L k` = where `find_lookaheads` left the heads
    of level `k`, i.e. the start of token `k` after whitespace / layout; `k = n`: the end token) with a non-empty list
    of expected kinds, and token `k` REALLY is offending: no sentence begins with `tok 0 … tok k` (`k < n`), resp. the
    input is not a sentence (stated for `k = n`; `parse_err_spec` has it of every error).  Proof: the run stopped because level `k + 1` has no head; all levels `≤ k`
    are done (`RunInv`), so a sentence extending `tok 0 … tok k` would have had its token `k` shifted
    (`Proofs/GlrPush.lean::head_of_viable`, the forward induction of C03 (d) along the spine to that token).
    What it does NOT say: that the tokens BEFORE `k` are a viable prefix (that is
    `C12_glr_error_at_first_offending_token`); termination. -/
theorem C12_glr_error_position_no_early_error (env : Env) (hcert : Cert.glr env.g env.t = true)
    (hcomp : Cert.completeRN env.g env.t = true) (pp : Bool) (fuel n : Nat) (tok : Nat → Tok) (P L : Nat → Pos)
    (hL : LexDet env pp fuel n tok P L) (e : PErr) (he : Glr.parse env pp fuel = .err e) :
    ∃ (k : Nat) (ks : List Nat), k ≤ n ∧ e = .expected (L k) ks ∧ ks ≠ [] ∧
      (k < n → ¬ ViablePrefix env.g (kinds (k + 1) tok)) ∧ (k = n → ¬ Sentence env.g (kinds n tok)) := by
  obtain ⟨k, ks, h1, h2, h3, _, h4, h5⟩ := parse_err_spec (certs_sound hcert hcomp) hL he
  exact ⟨k, ks, h1, h2, h3, h4, fun _ => h5⟩

/-- **`ok` only on a sentence, never with an empty forest (GLR).**  Certified table, token-deterministic run: if
    `Glr.parse` returns `ok r` then the token kinds are a sentence and `r.roots ≠ []` (`create_forest` found at least
    one root possibility: the accepting head is not the start head, so it has a parent link, and every parent link
    carries a possibility).  Unlike `C12_glr_nonsentence_not_accepted` this does not need a tree to be taken from the
    forest.  Proof: `JInv` gives the accepting head an LR stack spelling the whole token string; an accepting state
    holds `S' → S .`, so the stack is one derivation tree of the start symbol. -/
theorem C12_glr_ok_only_on_sentence (env : Env) (hcert : Cert.glr env.g env.t = true)
    (hcomp : Cert.completeRN env.g env.t = true) (pp : Bool) (fuel n : Nat) (tok : Nat → Tok) (P L : Nat → Pos)
    (hL : LexDet env pp fuel n tok P L) (r : GlrResult) (hr : Glr.parse env pp fuel = .ok r) :
    Sentence env.g (kinds n tok) ∧ r.roots ≠ [] := by
  exact parse_ok_spec (certs_sound hcert hcomp) hL hr

/-- **A non-sentence is answered with an error (GLR)** — whenever the run ends.  Certified table incl. the layout
    automaton (`Cert.glrLayout`, for "no panic"), token-deterministic run: if the token kinds are not a sentence and
    the run does not time out, `Glr.parse` returns an error.  Termination is NOT proved (hypothesis `hterm`). -/
theorem C12_glr_nonsentence_errors (env : Env) (hcert : Cert.glr env.g env.t = true)
    (hcomp : Cert.completeRN env.g env.t = true) (hlay : Cert.glrLayout env.g env.t = true)
    (pp : Bool) (fuel n : Nat) (tok : Nat → Tok) (P L : Nat → Pos)
    (hL : LexDet env pp fuel n tok P L) (hns : ¬ Sentence env.g (kinds n tok))
    (hterm : Glr.parse env pp fuel ≠ .fuel) : ∃ e, Glr.parse env pp fuel = .err e := by
  cases h : Glr.parse env pp fuel with
  | ok r => exact absurd (C12_glr_ok_only_on_sentence env hcert hcomp pp fuel n tok P L hL r h).1 hns
  | err e => exact ⟨e, rfl⟩
  | panic s => exact absurd h (C03_engine_no_panic_certified env hcert hlay pp fuel s)
  | fuel => exact absurd h hterm

/-- **The error points at the first offending token (GLR).**  Table passing `Cert.glr`, `Cert.completeRN` and
    `Cert.viable` (certificate of the LR half of C12), token-deterministic run.  If `Glr.parse` returns an error, it is
    `expected (L k) ks` with `k ≤ n`, `ks ≠ []`, where
    * NO LATE ERROR: the tokens before `k` are a viable prefix (`ViablePrefix (kinds k tok)`): the engine never shifts
      a token that cannot continue a sentence — every head of the last level has an LR stack spelling
      `tok 0 … tok (k-1)` (`JInv.stack`), and every stack of the automaton spells a viable prefix
      (`viable_item`);
    * NO EARLY ERROR: `tok 0 … tok k` is not a viable prefix (`k < n`), resp. the input is not a sentence (`k = n`: the
      error is reported at the end of the input).
    Hence `k` is THE first offending token (`C12_glr_error_index_is_first_offending`).  Not claimed: termination;
    the content of `ks`. -/
theorem C12_glr_error_at_first_offending_token (env : Env) (hcert : Cert.glr env.g env.t = true)
    (hcomp : Cert.completeRN env.g env.t = true)
    (hviab : Cert.viable env.g env.t (autosOf env.g env.t) = true)
    (pp : Bool) (fuel n : Nat) (tok : Nat → Tok) (P L : Nat → Pos)
    (hL : LexDet env pp fuel n tok P L) (e : PErr) (he : Glr.parse env pp fuel = .err e) :
    ∃ (k : Nat) (ks : List Nat), k ≤ n ∧ e = .expected (L k) ks ∧ ks ≠ [] ∧
      ViablePrefix env.g (kinds k tok) ∧
      (k < n → ¬ ViablePrefix env.g (kinds (k + 1) tok)) ∧ (k = n → ¬ Sentence env.g (kinds n tok)) := by
  obtain ⟨k, ks, h1, h2, h3, h4, h5, h6⟩ := parse_err_spec (certs_sound hcert hcomp) hL he
  exact ⟨k, ks, h1, h2, h3, h4 (Cert.viable_sound hviab), h5, fun _ => h6⟩

theorem kinds_take (tok : Nat → Tok) {m j : Nat} (h : m ≤ j) : (kinds j tok).take m = kinds m tok := by
  unfold kinds
  rw [← List.map_take, List.take_range, Nat.min_eq_left h]

theorem error_at_first_offending_of_lexDet (env : Env) (hcert : Cert.glr env.g env.t = true)
    (hcomp : Cert.completeRN env.g env.t = true) (hviab : Cert.viable env.g env.t (autosOf env.g env.t) = true)
    {pp : Bool} (fuel : Nat) {n : Nat} {tok : Nat → Tok} {P L : Nat → Pos} (hL : LexDet env pp fuel n tok P L)
    {toks : List Nat} (hk : kinds n tok = toks) (e : PErr) (he : Glr.parse env pp fuel = .err e) :
    ∃ (k : Nat) (ks : List Nat), k ≤ toks.length ∧ e = .expected (L k) ks ∧ ks ≠ [] ∧
      ViablePrefix env.g (toks.take k) ∧ (k < toks.length → ¬ ViablePrefix env.g (toks.take (k + 1))) ∧
      (k = toks.length → ¬ Sentence env.g toks) := by
  subst hk
  obtain ⟨k, ks, h1, h2, h3, h4, h5, h6⟩ :=
    C12_glr_error_at_first_offending_token env hcert hcomp hviab pp fuel n tok P L hL e he
  have hn : (kinds n tok).length = n := by simp [kinds]
  rw [hn]
  refine ⟨k, ks, h1, h2, h3, ?_, ?_, h6⟩
  · rw [kinds_take tok h1]; exact h4
  · intro hlt
    rw [kinds_take tok (by omega : k + 1 ≤ n)]
    exact h5 hlt

/-- the index `k` of `C12_glr_error_at_first_offending_token` is determined by the input: it is the length of the
    longest viable prefix of the token kinds (the index of the first offending token; `n` if the input is a proper
    prefix of a sentence) -/
theorem C12_glr_error_index_is_first_offending (env : Env) (n : Nat) (tok : Nat → Tok) (k : Nat) (hk : k ≤ n)
    (hlate : k < n → ¬ ViablePrefix env.g (kinds (k + 1) tok)) :
    ∀ j, j ≤ n → ViablePrefix env.g (kinds j tok) → j ≤ k := by
  intro j hj hv
  rcases Nat.lt_or_ge k j with hlt | hge
  · exfalso
    apply hlate (by omega)
    have := viablePrefix_take hv (k + 1)
    rwa [kinds_take tok (by omega : k + 1 ≤ j)] at this
  · exact hge

/-! ### non-vacuity: the real LALR_RN table of `S: Ta A; A: B | C; B: EMPTY; C: EMPTY` (language `{a}`) on the input
    `aa` (Proofs/GlrExampleNul.lean) -/

/-- all certificates hold of the table … -/
theorem exampleErr_certs : Cert.glr ExampleErr.env.g ExampleErr.env.t = true ∧
    Cert.completeRN ExampleErr.env.g ExampleErr.env.t = true ∧
    Cert.viable ExampleErr.env.g ExampleErr.env.t (autosOf ExampleErr.env.g ExampleErr.env.t) = true ∧
    Cert.glrLayout ExampleErr.env.g ExampleErr.env.t = true := ExampleNul.certs

example : Cert.glr ExampleErr.env.g ExampleErr.env.t = true ∧ Cert.completeRN ExampleErr.env.g ExampleErr.env.t = true ∧
    Cert.viable ExampleErr.env.g ExampleErr.env.t (autosOf ExampleErr.env.g ExampleErr.env.t) = true ∧
    Cert.glrLayout ExampleErr.env.g ExampleErr.env.t = true := exampleErr_certs

/-- … `LexDet` holds of the run on `aa` (tokens `a`, `a`, STOP), the token kinds are `[1, 1]` … -/
example : LexDet ExampleErr.env false 9 2 Example.tok Example.pos Example.pos ∧ kinds 2 Example.tok = [1, 1] :=
  ⟨ExampleErr.lexDet_aa, by decide⟩

/-- … the engine answers with an error at byte 1 (line 1, column 1), expecting STOP … -/
theorem exampleErr_outcome : ExampleErr.errOf (Glr.parse ExampleErr.env false 9) = some (1, 1, 1, [0]) := by
  decide +kernel

example : ExampleErr.errOf (Glr.parse ExampleErr.env false 9) = some (1, 1, 1, [0]) := exampleErr_outcome

/-- … and the theorems apply to this run -/
example := C12_glr_error_at_first_offending_token ExampleErr.env exampleErr_certs.1 exampleErr_certs.2.1
  exampleErr_certs.2.2.1 false 9 2 Example.tok Example.pos Example.pos ExampleErr.lexDet_aa

example := C12_glr_error_position_no_early_error ExampleErr.env exampleErr_certs.1 exampleErr_certs.2.1
  false 9 2 Example.tok Example.pos Example.pos ExampleErr.lexDet_aa

/-- what they say about it: `a` is a viable prefix, `a a` is not (so `aa` is not a sentence, the hypothesis of
    `C12_glr_nonsentence_errors`) -/
example : ViablePrefix ExampleNul.g [1] ∧ ¬ ViablePrefix ExampleNul.g [1, 1] := by
  have hres := exampleErr_outcome
  cases h : Glr.parse ExampleErr.env false 9 with
  | err e =>
    obtain ⟨k, ks, hk, he, _, hv, hnv, _⟩ := C12_glr_error_at_first_offending_token ExampleErr.env exampleErr_certs.1
      exampleErr_certs.2.1 exampleErr_certs.2.2.1 false 9 2 Example.tok Example.pos Example.pos ExampleErr.lexDet_aa e h
    rw [h, he] at hres
    simp only [ExampleErr.errOf, Example.pos, Option.some.injEq] at hres
    obtain ⟨hk1, _⟩ := hres
    have e1 : kinds 1 Example.tok = [1] := by decide
    have e2 : kinds (1 + 1) Example.tok = [1, 1] := by decide
    rw [e1] at hv
    rw [e2] at hnv
    exact ⟨hv, hnv (by omega)⟩
  | ok r => rw [h] at hres; simp [ExampleErr.errOf] at hres
  | panic s => rw [h] at hres; simp [ExampleErr.errOf] at hres
  | fuel => rw [h] at hres; simp [ExampleErr.errOf] at hres

/-- non-vacuity of the `ok` theorems: the run of the ambiguous example grammar on `aa` (`LexDet`:
    `Glr.Example.lexDet_aa`, Proofs/GlrExampleLex.lean) -/
example := C12_glr_ok_only_on_sentence (Glr.Example.env 2) example_certs.1 example_certs.2 false 9 2
  Glr.Example.tok Glr.Example.pos Glr.Example.pos Glr.Example.lexDet_aa

end Rustemo.Props.C12Glr
