import Rustemo.Proofs.Roundtrip
import Rustemo.Proofs.LayoutParse
import Rustemo.Proofs.LayoutExample
import Rustemo.Proofs.LayoutKind
import Rustemo.Proofs.Insertion
import Rustemo.Props.Example
/-!
# C14 — the generic parse tree is lossless: tokens and layout reconstruct the input

`Tree.flat input t` concatenates, for each leaf of `t` in order, the layout stored before it and the
token text (both are slices of the input buffer).

* `C14_roundtrip` — round trip for the default string lexer with whitespace skipping on or off (no
  Layout rule), any recognizers, partial parsing on or off, every input.
* `C14_roundtrip_layout` — round trip under a user Layout rule, every input, no hypothesis on the
  input: only the table certificates and the static `LayoutCert.autoOk` (the layout automaton is one
  of the table's automata and its symbol is a nonterminal).  This is a theorem about the code AFTER
  the repairs of the known findings C14-N1 (layout skipped when the lexer is re-run after a reduce is
  merged into the layout ahead, `mergeLay`) and C14-N2 (a failed or empty layout parse leaves the
  position where it was).  For the code before them (`Model/LROld.lean`, frozen) the identity is
  false: `C14_counterexample_relex_layout_discarded`, `C14_counterexample_failed_layout_advances`.
* `C14_layout_is_whitespace`, `C14_layout_is_layout_sentence` — what is stored as layout is
  whitespace / a concatenation of sentences of the Layout rule, each tiled by adjacent tokens.
* `C14_insertion_invariant_path` (= `C14_insertion_statement`), `C14_insertion_invariant` — changing
  the whitespace between the tokens of an accepted input does not change the tree (kinds,
  productions, token texts), for the default lexer without a Layout rule.

NOT proved: insertion invariance under a Layout rule (comments inserted between tokens), and the
derivation of the alignment hypothesis from a syntactic notion of "whitespace-local recognizer"
(oracle on generated inputs only); the GLR parser.
-/
namespace Rustemo.Props.C14
open Rustemo

/-- **Round trip.**  If the parser returns `ok r` in final context `ctx`, the leaves of `r.tree`
    with their stored layout, followed by the layout skipped before the end, are exactly the
    consumed input `input[0, ctx.pos)`. -/
theorem C14_roundtrip (env : Env) (hc : env.custom = none) (hl : env.t.layoutState = none)
    (hr : RecogOk env) (hstop : Cert.noShiftStop env.t = true)
    (hcert : Cert.structural env.g env.t (autosOf env.g env.t) = true)
    (partialParse : Bool) (fuel : Nat) (ctx : Ctx) (r : ParseResult)
    (h : parse env partialParse fuel = (ctx, .ok r)) :
    Tree.flat env.input r.tree ++ layBytes env.input ctx.lay = env.input.take ctx.pos.pos :=
  parse_roundtrip env ⟨hc, hr, noShiftStop_sound _ hstop⟩ hl (Cert.structural_sound _ _ _ hcert)
    partialParse fuel ctx r h

/-- non-vacuity -/
example : Example.env.custom = none ∧ Example.env.t.layoutState = none ∧
    Cert.noShiftStop Example.env.t = true ∧
    Cert.structural Example.env.g Example.env.t (autosOf Example.env.g Example.env.t) = true ∧
    Example.isOk (parse Example.env false 100).2 = true :=
  ⟨rfl, rfl, Example.checks.2.2.1, Example.checks.1, Example.checks.2.2.2⟩

/-- **Round trip under a user Layout rule.**  String lexer (no whitespace skipping: the generator
    switches it off when the grammar has a Layout rule), any recognizers, any input, partial parsing
    on or off.  If the parser returns `ok r` in final context `ctx`, then the leaves of `r.tree` with
    their stored layout, followed by the layout parsed before the end, are exactly the consumed input
    `input[0, ctx.pos)`; and without the trailing layout they are exactly the input up to the end of
    the last token.  `LayoutCert.autoOk` is a property of the table alone. -/
theorem C14_roundtrip_layout (env : Env) (hc : env.custom = none) (hsk : env.skipWs = false)
    (ls : Nat) (hl : env.t.layoutState = some ls)
    (hr : RecogOk env) (hstop : Cert.noShiftStop env.t = true)
    (hcert : Cert.structural env.g env.t (autosOf env.g env.t) = true)
    (hau : LayoutCert.autoOk env.g env.t ls = true)
    (partialParse : Bool) (fuel : Nat)
    (ctx : Ctx) (r : ParseResult) (h : parse env partialParse fuel = (ctx, .ok r)) :
    Tree.flat env.input r.tree ++ layBytes env.input ctx.lay = env.input.take ctx.pos.pos ∧
    Tree.flat env.input r.tree = env.input.take (endOf r.hist) :=
  have ⟨_, hle⟩ := LayoutEnv.of_autoOk ⟨hc, hr, noShiftStop_sound _ hstop⟩ hsk hl (Cert.structural_sound _ _ _ hcert) hau
  parse_roundtrip_layout hle partialParse fuel ctx r h

/-- non-vacuity: `S: Ta S | EMPTY; Layout: LayoutItem+; LayoutItem: WS;` on "a  a " -/
example : ExampleLayout.Ws.env.custom = none ∧ ExampleLayout.Ws.env.skipWs = false ∧
    ExampleLayout.Ws.env.t.layoutState = some 4 ∧
    Cert.noShiftStop ExampleLayout.Ws.env.t = true ∧
    Cert.structural ExampleLayout.Ws.env.g ExampleLayout.Ws.env.t
      (autosOf ExampleLayout.Ws.env.g ExampleLayout.Ws.env.t) = true ∧
    LayoutCert.autoOk ExampleLayout.Ws.env.g ExampleLayout.Ws.env.t 4 = true ∧
    flatOf ExampleLayout.Ws.env false 100 = some ([97, 32, 32, 97, 32], [97, 32, 32, 97, 32]) := by
  decide +kernel

example : RecogOk ExampleLayout.Ws.env := Ws.recogOk

/-- the witnesses of the two findings on the repaired loop: `a##x` is accepted and reconstructs
    `a##x` (the `##` skipped on re-lexing is stored before `x`); `a( b` with partial parsing returns the
    prefix `a`, consumed input `a` -/
example : flatOf ExampleLayout.N1.env false 100 = some ([97, 35, 35, 120], [97, 35, 35, 120]) ∧
    flatOf ExampleLayout.N2.env true 100 = some ([97], [97]) := by decide +kernel

/-- **Before the repair of C14-N1 the Layout-rule round trip was false** (`parseOld`: the loop as it
    was at repo 8db9d03, `Model/LROld.lean`).
    `S: A X | C A D; A: Ta; Layout: L; D: '#'; L: '##'` on `a##x`, table as rustemo builds it: every
    hypothesis of `C14_roundtrip_layout` holds; of the per-offset conditions of `Model/LayoutCert.lean`
    `idempotent` and `failStays` hold and `notToken` fails (`#` is a token where `##` is layout); the
    parse is accepted, the leaves with their layout reconstruct `ax`, the consumed input is `a##x`
    (`#` is found in the state after `a`, `A` is reduced, the new state expects only `x`, the layout
    parser run on re-lexing consumes `##`, and the layout ahead is reset to what it was before). -/
theorem C14_counterexample_relex_layout_discarded :
    (ExampleLayout.N1.env.custom = none ∧ ExampleLayout.N1.env.skipWs = false ∧
     ExampleLayout.N1.env.t.layoutState = some 8 ∧
     Cert.noShiftStop ExampleLayout.N1.env.t = true ∧
     Cert.structural ExampleLayout.N1.env.g ExampleLayout.N1.env.t
       (autosOf ExampleLayout.N1.env.g ExampleLayout.N1.env.t) = true ∧
     LayoutCert.static ExampleLayout.N1.env 8 = true ∧
     LayoutCert.idempotent ExampleLayout.N1.env 8 100 = true ∧
     LayoutCert.failStays ExampleLayout.N1.env 8 100 = true ∧
     LayoutCert.notToken ExampleLayout.N1.env 8 100 = false) ∧
    ∃ ctx r, parseOld ExampleLayout.N1.env false 100 = (ctx, .ok r) ∧
      Tree.flat ExampleLayout.N1.input r.tree ++ layBytes ExampleLayout.N1.input ctx.lay = [97, 120] ∧
      ExampleLayout.N1.input.take ctx.pos.pos = [97, 35, 35, 120] := by
  refine ⟨by decide +kernel, ?_⟩
  exact flatOfOld_spec ExampleLayout.N1.env false 100 _ _ (by decide +kernel)

/-- **… and before the repair of C14-N2.**
    `S: A Bopt; A: Ta; Bopt: Tb | EMPTY; Layout: LP WS RP` on `a( b` with partial parsing: the layout
    parser shifts `(` and the blank, fails at `b`, and left the position there (`failStays` fails); the
    synthetic STOP lets `A` be reduced, the lexer re-run at the advanced position finds `b`.  Leaves:
    `ab`, consumed input: `a( b`. -/
theorem C14_counterexample_failed_layout_advances :
    (ExampleLayout.N2.env.custom = none ∧ ExampleLayout.N2.env.skipWs = false ∧
     ExampleLayout.N2.env.t.layoutState = some 6 ∧
     Cert.noShiftStop ExampleLayout.N2.env.t = true ∧
     Cert.structural ExampleLayout.N2.env.g ExampleLayout.N2.env.t
       (autosOf ExampleLayout.N2.env.g ExampleLayout.N2.env.t) = true ∧
     LayoutCert.static ExampleLayout.N2.env 6 = true ∧
     LayoutCert.idempotent ExampleLayout.N2.env 6 100 = true ∧
     LayoutCert.notToken ExampleLayout.N2.env 6 100 = true ∧
     LayoutCert.failStays ExampleLayout.N2.env 6 100 = false) ∧
    ∃ ctx r, parseOld ExampleLayout.N2.env true 100 = (ctx, .ok r) ∧
      Tree.flat ExampleLayout.N2.input r.tree ++ layBytes ExampleLayout.N2.input ctx.lay = [97, 98] ∧
      ExampleLayout.N2.input.take ctx.pos.pos = [97, 40, 32, 98] := by
  refine ⟨by decide +kernel, ?_⟩
  exact flatOfOld_spec ExampleLayout.N2.env true 100 _ _ (by decide +kernel)

/-- **The stored layout is whitespace** (default skipping, no Layout rule; skipping on or off).
    `Tree.AllLay P t`: every layout slice stored in `t` satisfies `P`; `WsSlice input s`: the bytes of
    the slice are a sequence of whole whitespace characters (`char::is_whitespace` in UTF-8, as
    `wsCharLen` decodes them).  Also for the layout skipped before the end. -/
theorem C14_layout_is_whitespace (env : Env) (hc : env.custom = none) (hl : env.t.layoutState = none)
    (hr : RecogOk env) (hstop : Cert.noShiftStop env.t = true)
    (partialParse : Bool) (fuel : Nat) (ctx : Ctx) (r : ParseResult)
    (h : parse env partialParse fuel = (ctx, .ok r)) :
    r.tree.AllLay (WsSlice env.input) ∧ ∀ s, ctx.lay = some s → WsSlice env.input s :=
  parse_layout_is_ws env ⟨hc, hr, noShiftStop_sound _ hstop⟩ hl partialParse fuel ctx r h

/-- what `AllLay` says at a leaf -/
theorem C14_allLay_leaf (P : Slice → Prop) (k : Nat) (sp : Span) (v s : Slice)
    (h : (Tree.leaf k sp v (some s)).AllLay P) : P s := h s rfl

/-- non-vacuity: `S: 'a' S | EMPTY` on "a a" stores the blank before the second `a` -/
example : Example.env.custom = none ∧ Example.env.t.layoutState = none ∧
    Cert.noShiftStop Example.env.t = true ∧
    flatOf Example.env false 100 = some ([97, 32, 97], [97, 32, 97]) :=
  ⟨rfl, rfl, Example.checks.2.2.1, by decide +kernel⟩

/-- **The stored layout is layout.**  `LaySlice env lsym s`: the slice `s` is a concatenation of one or
    more `LaySentence`s of `lsym` (the symbol of the layout automaton, a nonterminal): for each there are
    a derivation tree of the grammar with root `lsym` and tokens, each a match of its recognizer,
    adjacent to each other, covering exactly that part of the slice, whose kinds are the tree's yield.
    One sentence per run of the layout parser ("layout once per token"); more than one only where the
    lexer was re-run after a reduce and skipped more layout, which is merged (`mergeLay`). -/
theorem C14_layout_is_layout_sentence (env : Env) (hc : env.custom = none) (hsk : env.skipWs = false)
    (ls : Nat) (hl : env.t.layoutState = some ls)
    (hr : RecogOk env) (hstop : Cert.noShiftStop env.t = true)
    (hcert : Cert.structural env.g env.t (autosOf env.g env.t) = true)
    (hau : LayoutCert.autoOk env.g env.t ls = true)
    (partialParse : Bool) (fuel : Nat) (ctx : Ctx) (r : ParseResult)
    (h : parse env partialParse fuel = (ctx, .ok r)) :
    ∃ au ∈ autosOf env.g env.t, au.start = ls ∧ env.g.nterms ≤ au.sym ∧
      r.tree.AllLay (LaySlice env au.sym) ∧
      ∀ s, ctx.lay = some s → LaySlice env au.sym s :=
  have ⟨au, hle⟩ := LayoutEnv.of_autoOk ⟨hc, hr, noShiftStop_sound _ hstop⟩ hsk hl (Cert.structural_sound _ _ _ hcert) hau
  ⟨au, hle.auto, Option.some.inj (hle.layout.symm.trans hl), hle.nonterm,
    parse_layout_is_sentence hle partialParse fuel ctx r h⟩

/-- **Layout insertion invariance** (default string lexer, no Layout rule, whitespace skipping on or
    off).  Two inputs are parsed with the same grammar, table and settings.  `Aligned env1 env2 R`:
    `R` relates the byte offsets of the two inputs at which the lexer looks for tokens (the offsets
    reached after whitespace skipping: `postSkip`), starting with the first ones, such that at related
    offsets every recognizer gives the same answer (the match matrix of the second input is the
    shifted matrix of the first), matched texts are equal, and the offsets reached after any match
    followed by whitespace skipping are related again.  Then if the first input is accepted so is the
    second and both trees have the same `Tree.shape` (token kinds, productions, token texts; no
    positions, no layout); and conversely. -/
theorem C14_insertion_invariant (env1 env2 : Env) (R : Nat → Nat → Prop)
    (hc1 : env1.custom = none) (hc2 : env2.custom = none) (hl : env1.t.layoutState = none)
    (hg : env2.g = env1.g) (ht : env2.t = env1.t) (hlg : env2.longest = env1.longest)
    (hr1 : RecogOk env1) (hr2 : RecogOk env2) (hstop : Cert.noShiftStop env1.t = true)
    (hal : Aligned env1 env2 R) (partialParse : Bool) (fuel : Nat) :
    (∀ ctx1 r1, parse env1 partialParse fuel = (ctx1, .ok r1) →
      ∃ ctx2 r2, parse env2 partialParse fuel = (ctx2, .ok r2) ∧
        r1.tree.shape env1.input = r2.tree.shape env2.input) ∧
    (∀ ctx2 r2, parse env2 partialParse fuel = (ctx2, .ok r2) →
      ∃ ctx1 r1, parse env1 partialParse fuel = (ctx1, .ok r1) ∧
        r1.tree.shape env1.input = r2.tree.shape env2.input) := by
  have hns := noShiftStop_sound _ hstop
  have hp : SameParser env1 env2 := ⟨⟨hc1, hr1, hns⟩, ⟨hc2, hr2, ht ▸ hns⟩, hl, hg, ht, hlg⟩
  refine ⟨parse_insertion env1 env2 R hp hal partialParse fuel, fun ctx2 r2 h => ?_⟩
  obtain ⟨ctx1, r1, h1, hs⟩ := parse_insertion env2 env1 _ hp.symm hal.symm partialParse fuel ctx2 r2 h
  exact ⟨ctx1, r1, h1, hs.symm⟩

/-- non-vacuity: `S: 'a' S | EMPTY` on "a a" and on "a  a " (offsets 0~0, 2~3, 3~5) -/
example : Aligned ExampleLayout.Ins.env1 ExampleLayout.Ins.env2 ExampleLayout.Ins.R ∧
    RecogOk ExampleLayout.Ins.env1 ∧ RecogOk ExampleLayout.Ins.env2 :=
  ⟨Ins.aligned, Ins.recogOk1, Ins.recogOk2⟩

example : ExampleLayout.Ins.env1.custom = none ∧ ExampleLayout.Ins.env2.custom = none ∧
    ExampleLayout.Ins.env1.t.layoutState = none ∧
    Cert.noShiftStop ExampleLayout.Ins.env1.t = true ∧
    Example.isOk (parse ExampleLayout.Ins.env1 false 100).2 = true ∧
    Example.isOk (parse ExampleLayout.Ins.env2 false 100).2 = true :=
  ⟨rfl, rfl, rfl, Example.checks.2.2.1, Ins.accepted⟩

/-- The statement at full strength: alignment is asked only ALONG THE TOKENS the first parse shifted
    (`PathAligned`, tokens in input order, from the offsets where the lexer first looks): each token
    starts at the current offset of the first input; at that offset and the corresponding one of the
    second input ALL recognizers give the same answer; the token text is the same; the next pair of
    offsets is reached by adding the token length and skipping whitespace (`postSkip`) in each input;
    where the tokens end the recognizers agree once more (end of input / partial-parse stop).  That is
    "the second input has the same tokens with other whitespace between them, and no recognizer can
    tell the difference at a token start".  Nothing is asked about matches the parse does not follow. -/
def C14_insertion_statement : Prop :=
  ∀ (env1 env2 : Env) (partialParse : Bool) (fuel : Nat) (ctx1 : Ctx) (r1 : ParseResult),
    env1.custom = none → env2.custom = none → env1.t.layoutState = none →
    env2.g = env1.g → env2.t = env1.t → env2.longest = env1.longest →
    RecogOk env1 → RecogOk env2 → Cert.noShiftStop env1.t = true →
    parse env1 partialParse fuel = (ctx1, .ok r1) →
    PathAligned env1 env2 r1.hist.reverse (postSkip env1 0) (postSkip env2 0) →
    ∃ ctx2 r2, parse env2 partialParse fuel = (ctx2, .ok r2) ∧
      r1.tree.shape env1.input = r2.tree.shape env2.input

/-- **Inserting (or removing, or changing) whitespace between the tokens of an accepted input never
    changes which tree is built**, up to positions and layout. -/
theorem C14_insertion_invariant_path : C14_insertion_statement :=
  fun env1 env2 pp fuel ctx1 r1 hc1 hc2 hl hg ht hlg hr1 hr2 hstop h hal =>
    have hns := noShiftStop_sound _ hstop
    parse_insertion_path env1 env2 ⟨⟨hc1, hr1, hns⟩, ⟨hc2, hr2, ht ▸ hns⟩, hl, hg, ht, hlg⟩ pp fuel ctx1 r1 h hal

/-- non-vacuity: "a a" is accepted and "a  a " is aligned with it along its two tokens -/
example : ∃ ctx1 r1, parse ExampleLayout.Ins.env1 false 100 = (ctx1, .ok r1) ∧
    PathAligned ExampleLayout.Ins.env1 ExampleLayout.Ins.env2 r1.hist.reverse
      (postSkip ExampleLayout.Ins.env1 0) (postSkip ExampleLayout.Ins.env2 0) := Ins.pathAligned

end Rustemo.Props.C14
