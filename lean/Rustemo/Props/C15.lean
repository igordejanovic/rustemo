import Rustemo.Proofs.NoPanic
import Rustemo.Proofs.TermRun
import Rustemo.Proofs.TermExample
import Rustemo.Proofs.GlrSound
import Rustemo.Proofs.GlrExampleLex
import Rustemo.Proofs.Example
import Rustemo.Props.Example
/-!
# C15 — parsing is total: any input and lexer give Ok or Err, never a panic or hang

LR half, no-panic part.  `parse` (Model/LR.lean) models `LRParser::parse` with every `unwrap` / index /
`split_off` / `expected[0]` of `lr/parser.rs`, `lr/builder.rs`, `error.rs` as an explicit
`.panic site`; `env.recog` is an arbitrary recognizer function (any input, any matches) and
`env.custom` selects the string lexer or one of the adversarial user lexers that ignore the expected
set.  `Cert.structural` and `Cert.total` are executable certificates run by the driver on the table
dumped from the real compiler (for the layout automaton as well when the grammar has a Layout rule).

Termination (LR half): `C15_lr_terminates` — on a table passing the executable certificate
`Cert.terminating` (`Model/CertTerm.lean`: no unit-derivation cycle among the productions the table
reduces by, no goto cycle on nullable nonterminals) and for recognizers whose tokens other than STOP
are not empty (`NonEmptyTokens`), the model never runs out of fuel once it has `Cert.termBound g t n`
of it, `n` the input length: an explicit bound, linear in `n`.  The two known non-terminating classes
are exactly the two hypotheses: F24 (cyclic grammar accepted through priorities) fails the certificate
(`C15_counterexample_cyclic_grammar`), F14 (a terminal that matches the empty string) violates
`NonEmptyTokens`.  NOT proved: termination with the adversarial user lexers (`env.custom`), and of the
GLR parser.  The GLR half (no panic) is `C15_glr_no_panic` below, a restatement of
`C03_engine_no_panic_certified` (engine model `Glr.parse`, Model/Glr.lean, tied to `GlrParser::parse` by the C03
correspondence).
-/
namespace Rustemo.Props.C15
open Rustemo

/-- **Any non-panicking lexer.**  With a "next token" function that does not panic itself and hands
    the parser state back, the parser loop never reaches a panic site, whatever tokens it delivers
    (kinds the state has no action for surface as `err noAction`). -/
theorem C15_lr_no_panic_any_lexer (env : Env) (nt : Ctx → Ctx × Outcome Tok)
    (hs : Cert.structural env.g env.t (autosOf env.g env.t) = true)
    (ht : Cert.total env.g env.t 0 = true)
    (hnt : NtGood env.t nt) (ctx0 : Ctx) (h0 : ctx0.state < env.t.states.size) (fuel : Nat) :
    ∀ site, (parseWith env nt 0 ctx0 fuel).2 ≠ .panic site :=
  (parseWith_no_panic env nt (Cert.structural_sound _ _ _ hs).toRN (mem_autosOf_main _ _)
    (Cert.total_sound _ _ _ ht) hnt ctx0 h0 fuel).ne_panic

/-- **`LRParser::parse`** with the default string lexer (any recognizers, any input, whitespace
    skipping or Layout rule, partial parsing on/off) or an adversarial user lexer never panics, given
    the certificate `Cert.lr` (structural + total for the main automaton and, if the grammar has a
    Layout rule, for the layout automaton). -/
theorem C15_lr_no_panic (env : Env) (hcert : Cert.lr env.g env.t = true)
    (partialParse : Bool) (fuel : Nat) :
    ∀ site, (parse env partialParse fuel).2 ≠ .panic site := by
  obtain ⟨hs, ht, hl⟩ := Cert.lr_sound hcert
  exact (parse_no_panic env hs.toRN ht (Glr.layoutSafe_of_rn env hs.toRN hl) partialParse fuel).ne_panic

/-- non-vacuity: the certificate holds for a concrete table -/
example : Cert.lr Example.env.g Example.env.t = true := Example.checks.2.1

/-- **`LRParser::parse` terminates.**  Default string lexer (`env.custom = none`), any recognizers that
    stay inside the input (`RecogOk`) and report no empty token except STOP (`NonEmptyTokens`), any
    input, whitespace skipping or a Layout rule (the nested layout parser included), partial parsing on
    or off.  On a table passing `Cert.lr` (structural + total, layout automaton covered),
    `Cert.noShiftStop` and the termination certificate `Cert.terminating`, the parser model given at
    least `Cert.termBound g t |input|` fuel never answers `.fuel`: it stops with Ok or Err (never a
    panic: `C15_lr_no_panic`).  `Cert.termBound g t n = n + (n+1)·Wn·E + 2n·K + 1` with
    `E = (m+1)^W`, `K = (1 + m·E)·W`, where `m` is the longest used right-hand side, `W` (`Wn`) one
    more than the largest rank of a symbol (state) the certificate computed. -/
theorem C15_lr_terminates (env : Env) (hc : env.custom = none) (hr : RecogOk env)
    (hne : NonEmptyTokens env) (hcert : Cert.lr env.g env.t = true)
    (hstop : Cert.noShiftStop env.t = true) (hterm : Cert.terminating env.g env.t = true)
    (partialParse : Bool) (fuel : Nat) (hfuel : Cert.termBound env.g env.t env.input.length ≤ fuel) :
    (parse env partialParse fuel).2 ≠ .fuel := by
  obtain ⟨hs, _, hl⟩ := Cert.lr_sound hcert
  exact parse_terminates env ⟨hc, hr, noShiftStop_sound _ hstop⟩ hne hs
    (fun ls hls => (Cert.glrLayout_sound hl ls hls).1) hterm partialParse fuel hfuel

/-- non-vacuity: `S: 'a' S | EMPTY` on "a a": every hypothesis holds, the bound is 70 iterations -/
example : Example.env.custom = none ∧ Cert.lr Example.env.g Example.env.t = true ∧
    Cert.noShiftStop Example.env.t = true ∧ Cert.terminating Example.env.g Example.env.t = true ∧
    Cert.termBound Example.env.g Example.env.t Example.env.input.length = 70 :=
  ⟨rfl, Example.checks.2.1, Example.checks.2.2.1, by decide +kernel, by decide +kernel⟩

example : NonEmptyTokens Example.env := by
  intro k p l h hk
  rcases Ins.recogA_cases Example.input k p l h with ⟨_, rfl, _⟩ | ⟨rfl, _⟩
  · exact Nat.le_refl 1
  · exact absurd rfl hk

/-- **The class of finding F24 is outside the certificate, and it does hang**: on the table rustemo
    builds for `S: A | Ta; A: S {15};` (cyclic grammar, the conflict accept / reduce `A → S` resolved by
    the priority) `Cert.terminating` is false although every other hypothesis of `C15_lr_terminates`
    holds, and the parser model is still running after 300 iterations on the input `a` (as after any
    number: `ExampleTerm.F24.parse_hangs`). -/
theorem C15_counterexample_cyclic_grammar :
    ExampleTerm.F24.env.custom = none ∧ Cert.lr ExampleTerm.F24.g ExampleTerm.F24.t = true ∧
    Cert.noShiftStop ExampleTerm.F24.t = true ∧
    Cert.terminating ExampleTerm.F24.g ExampleTerm.F24.t = false ∧
    ExampleTerm.F24.isFuel (parse ExampleTerm.F24.env false 300).2 = true :=
  ⟨rfl, by decide +kernel, by decide +kernel, by decide +kernel,
    by rw [ExampleTerm.F24.parse_hangs]; rfl⟩

/-- **GLR half: `GlrParser::parse` never panics.**  The engine model `Glr.parse` (every `unwrap` / `expect` / index of
    `glr/parser.rs` and `glr/gss.rs` is a `.panic site`, the nested LR layout parser included) reaches no panic site
    on a table passing the executable certificates `Cert.glr` (structural certificate with right-nulled reduce
    entries, nullable ranking, accessing symbols, `Cert.total`) and `Cert.glrLayout` (the layout automaton is covered
    and total; trivially true without a Layout rule) — any input, recognizers, lexer, partial flag, fuel. -/
theorem C15_glr_no_panic (env : Env) (hcert : Cert.glr env.g env.t = true)
    (hlay : Cert.glrLayout env.g env.t = true) (partialParse : Bool) (fuel : Nat) :
    ∀ site, Glr.parse env partialParse fuel ≠ .panic site :=
  Glr.parse_no_panic env hcert (Glr.layoutSafe_of_cert env hcert hlay) partialParse fuel

/-- non-vacuity: both certificates hold of the real LALR_RN table of `S: 'a' S A | EMPTY; A: 'a' | EMPTY` -/
example : Cert.glr Glr.Example.g Glr.Example.t = true ∧ Cert.glrLayout Glr.Example.g Glr.Example.t = true :=
  ⟨Glr.Example.certs.1, Glr.Example.certs.2.2⟩

end Rustemo.Props.C15
