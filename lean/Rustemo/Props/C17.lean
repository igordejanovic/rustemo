import Rustemo.Proofs.Cli
/-!
# C17 — parser generation is deterministic and the same through CLI and API

A Lean function is deterministic by construction, so the content is in what the model is allowed
*not* to depend on. Two places of the compiler could let something other than (grammar text,
settings, existing actions file) into the output:

* `Choice::make_choices_name_unique` iterates a `HashMap` (per-process random order). The model
  `Types.makeUnique` takes that order as an explicit parameter. The full statement — the result
  does not depend on it — is **false** of the current code (`C17_counterexample_hash_order_leaks`,
  reproduced with the real `rcomp`); it is proved under the exact side condition `clash cs = false`.
* `main` translates the command line into builder calls. `Cli.toSettings` transcribes `main` call
  by call; `Doc.settingsOf` is the documented meaning; they are equal for every command line.

That nothing else leaks (no other hash iteration, environment read, global toggle, clock) is Tie C:
the source inventory `inventory/c17.json`, re-extracted on every run. The byte equality across
processes, orders and CLI/API is checked differentially against the real `rcomp`.
-/
namespace Rustemo.Props.C17
open Rustemo Rustemo.Cfg Rustemo.Types

/-! ## CLI = API -/

/-- **Every command line denotes the documented settings.** For every environment (`OUT_DIR`,
`CARGO_MANIFEST_DIR`, `RUSTEMO_TRACE`) and every value of the `Cli` record (every flag, every enum
value, every optional, arbitrary strings for paths / input type / exclude list), the sequence of
builder calls `main` performs yields exactly the documented settings: each flag sets its setting,
`--noactions`, `--no-shifts-over-empty`, `--no-skip-ws` negate, GLR forces the `LALR_RN` table,
switches both shift preferences off and grammar order off unless given explicitly, `--force` is
explicit either way; and it panics exactly on the one combination the documentation excludes. -/
theorem C17_cli_maps_to_settings (env : Env) (cli : Cli) :
    Cli.toSettings env cli = Doc.settingsOf env cli :=
  toSettings_eq_settingsOf env cli

/-- non-vacuity: a command line exercising the GLR overrides and all three negated flags -/
example :
    Cli.toSettings {} { parserAlgo := .glr, tableType := .lalr, preferShifts := true, noSkipWs := true,
                        noactions := true, noShiftsOverEmpty := true, lexGrammarOrder := some true,
                        outdirRoot := some "out" }
      = .ok { Settings.new {} with
                parserAlgo := .glr, tableType := .lalrRn, preferShifts := false,
                preferShiftsOverEmpty := false, grammarOrder := true, skipWs := false, actions := false,
                force := false, forceExplicit := true, outDirRoot := some "out" } := by decide +kernel

/-- **The settings do not depend on which grammar is processed** nor on `-v`: two invocations that
differ only in the grammar path and verbosity configure the compiler identically. -/
theorem C17_settings_independent_of_grammar_path (env : Env) (cli : Cli) (path : String) (v : Nat) :
    Cli.toSettings env { cli with grammarFileOrDir := path, verbosity := v } = Cli.toSettings env cli := by
  rw [C17_cli_maps_to_settings, C17_cli_maps_to_settings]; rfl

example : Cli.toSettings {} { grammarFileOrDir := "a.rustemo", verbosity := 2 }
    = Cli.toSettings {} { grammarFileOrDir := "b.rustemo" } := by decide +kernel

/-- **Exactly which invocations panic** instead of producing a parser or a diagnostic:
(i) `--lexical-disamb-grammar-order=false` without `-p glr` (`settings.rs:303`);
(ii) a grammar FILE argument while an output root is in force (`-o`, `-a`, or ambient `OUT_DIR`)
and `CARGO_MANIFEST_DIR` is not set (`settings.rs:410`, `'root_dir' must be set!`).
Both are reachable from the command line (findings, reproduced with the real binary). -/
theorem C17_cli_panics_exactly (env : Env) (cli : Cli) (isFile : Bool) (site : PanicSite) :
    Cli.plan env cli isFile = .panic site ↔
      (site = .grammarOrderLR ∧ Doc.rejected cli = true) ∨
      (site = .rootDirUnset ∧ Doc.rejected cli = false ∧ isFile = true ∧ env.manifestDir = none ∧
        (cli.outdirRoot.isSome = true ∨ cli.outdirActionsRoot.isSome = true ∨ env.outDir.isSome = true)) := by
  unfold Cli.plan
  rw [toSettings_eq_settingsOf]
  unfold Doc.settingsOf
  cases hr : Doc.rejected cli
  · -- not rejected: only `process_grammar` on a file can still panic (`rootDirUnset`)
    cases isFile
    · simp [Res.bind]
    · cases hm : env.manifestDir <;>
        simp [Res.bind, processGrammarPanics_doc, hm, or_assoc]
      split <;> simp [*, @eq_comm _ site]
  · simpa [Res.bind] using eq_comm

/-- the three command lines below, run together: one kernel run matches the argument strings against the option
names once -/
theorem evaluated :
    Cli.run {} ["--lexical-disamb-grammar-order=false", "g.rustemo"] true = .panic .grammarOrderLR ∧
    Cli.run {} ["-o", "out", "g.rustemo"] true = .panic .rootDirUnset ∧
    Cli.run {} ["-o", "out", "-p", "glr", "--lexical-disamb-grammar-order=false", "grammars"] false
    = .plan { mode := .dir, settings := { Settings.new {} with
        parserAlgo := .glr, tableType := .lalrRn, preferShiftsOverEmpty := false, grammarOrder := false,
        force := false, forceExplicit := true, outDirRoot := some "out", rootDir := some "grammars" } } := by
  decide +kernel

/-- witness (i): `rcomp --lexical-disamb-grammar-order=false g.rustemo` -/
theorem C17_witness_panic_grammar_order :
    Cli.run {} ["--lexical-disamb-grammar-order=false", "g.rustemo"] true = .panic .grammarOrderLR :=
  evaluated.1

/-- witness (ii): `rcomp -o out g.rustemo` outside cargo -/
theorem C17_witness_panic_root_dir :
    Cli.run {} ["-o", "out", "g.rustemo"] true = .panic .rootDirUnset := evaluated.2.1

/-- the same command line on a directory is fine -/
example : Cli.run {} ["-o", "out", "-p", "glr", "--lexical-disamb-grammar-order=false", "grammars"] false
    = .plan { mode := .dir, settings := { Settings.new {} with
        parserAlgo := .glr, tableType := .lalrRn, preferShiftsOverEmpty := false, grammarOrder := false,
        force := false, forceExplicit := true, outDirRoot := some "out", rootDir := some "grammars" } } :=
  evaluated.2.2

/-! ## Order of `HashMap` iteration in `make_choices_name_unique` -/

/-- The full statement: the de-duplicated choice names do not depend on the order in which
`name_counts.iter()` yields the keys. -/
def C17_statement : Prop :=
  ∀ (cs σ τ : List String), KeyOrder σ cs → KeyOrder τ cs → makeUnique σ cs = makeUnique τ cs

/-- **Counterexample (finding).** Choices named `A, A, A1, A1` (grammar rule
`S: A | X A | A1 | Y A1;`): processing key `A` first renames the `A`s to `A1, A2`, so that key `A1`
then matches three choices. The two key orders give different enum variant names; the real `rcomp`
writes both outputs from run to run. -/
theorem C17_counterexample_hash_order_leaks :
    KeyOrder ["A", "A1"] ["A", "A", "A1", "A1"] ∧ KeyOrder ["A1", "A"] ["A", "A", "A1", "A1"] ∧
    makeUnique ["A", "A1"] ["A", "A", "A1", "A1"] = ["A11", "A2", "A12", "A13"] ∧
    makeUnique ["A1", "A"] ["A", "A", "A1", "A1"] = ["A1", "A2", "A11", "A12"] := by decide +kernel

theorem C17_statement_false : ¬ C17_statement := by
  intro h
  obtain ⟨hσ, hτ, eσ, eτ⟩ := C17_counterexample_hash_order_leaks
  have := h _ _ _ hσ hτ
  rw [eσ, eτ] at this
  exact absurd this (by decide)

/-- **Order independence, partial:** proved under the side condition `clash cs = false` — no
duplicated name followed by one of its occurrence indices equals another duplicated name. The
condition is exactly what the counterexample violates, is decidable, and is the class predicate
`DupChoiceNameSuffixClash` of the known finding. What is missing for the full statement is a fix
of the code (e.g. `notes/C17-fix-1.diff`, which computes `closedForm` without iterating the map). -/
theorem C17_unique_names_order_free_partial (cs σ τ : List String)
    (hσ : KeyOrder σ cs) (hτ : KeyOrder τ cs) (h : clash cs = false) :
    makeUnique σ cs = makeUnique τ cs := by
  have hnc := (clash_false_iff cs).mp h
  rw [makeUnique_eq_closedForm σ cs hσ hnc, makeUnique_eq_closedForm τ cs hτ hnc]

/-- non-vacuity: duplicated names that do need renaming, two different key orders -/
example : clash ["A", "B", "A", "Empty", "B", "A"] = false ∧
    KeyOrder ["B", "Empty", "A"] ["A", "B", "A", "Empty", "B", "A"] ∧
    KeyOrder ["A", "B", "Empty"] ["A", "B", "A", "Empty", "B", "A"] ∧
    makeUnique ["B", "Empty", "A"] ["A", "B", "A", "Empty", "B", "A"]
      = ["A1", "B1", "A2", "Empty", "B2", "A3"] := by decide +kernel

/-- **The order-free closed form** (append the occurrence index to every duplicated name, once) is
what every iteration order computes whenever the result is order independent at all; the proposed
fix computes it directly, so it changes no output that is deterministic today. -/
theorem C17_closed_form_agrees (cs σ : List String) (hσ : KeyOrder σ cs) (h : clash cs = false) :
    makeUnique σ cs = closedForm cs :=
  makeUnique_eq_closedForm σ cs hσ ((clash_false_iff cs).mp h)

example : closedForm ["A", "A", "A1", "A1"] = ["A1", "A2", "A11", "A12"] := by decide +kernel

end Rustemo.Props.C17
