import Rustemo.Proofs.Regen
import Rustemo.Proofs.RegenExample
/-!
# C18 — regenerating actions preserves user edits and only adds what is missing

`Regen.run` is the model of `generate_parser_actions`
(`Model/Regen.lean`), tied to the real compiler by the correspondence check of
`tools/props/c18.py` (real `Settings::process_grammar` on randomly edited actions files vs
`Regen.process`, item by item).

All theorems are universal over the existing file `e : List Item` — i.e. over every edit history —
over the generator's wish list `n` (i.e. over every grammar) and over the code variant `v`
(`asIs`: the code of `/repo` today, `fixed`: after `notes/C18-fix-1.diff`).  `v.Pre e n` is
`GroupClosed e n` for `asIs` and `True` for `fixed`: the current code meets the property exactly on
the files in which no nonterminal has lost its name-giving type while keeping an auxiliary type
(finding F17: `C18_counterexample_*`, `C18_statement_asIs_false`).  The statements about `/repo`
are the instances at `Regen.repoVariant`.
-/
namespace Rustemo.Props.C18
open Rustemo.Regen

/-- The full property, as one statement about a variant of the generator: for every grammar whose
    generated names are well formed and distinct, every header and every existing file, a non-forced
    regeneration writes a file that (1) starts with the existing items, token for token and in order,
    (2) continues with exactly the missing items in generation order, (3) has no duplicate name if the
    existing file had none, and (4) is a fixed point of regeneration. -/
def C18_statement (v : Variant) : Prop :=
  ∀ (hdr e : List Item) (n : List Group), NeededOk n → NoDupNames (allItems n) →
    ∃ r, run v hdr (.parsed e) n false true = .written r ∧
      r.take e.length = e ∧
      r.drop e.length = missing e n ∧
      (NoDupNames e → NoDupNames r) ∧
      run v hdr (.parsed r) n false true = .written r

theorem C18_regeneration_writes (v : Variant) (hdr e : List Item) (n : List Group) :
    run v hdr (.parsed e) n false true = .written (regen v e n) := rfl

/-- **Existing items are kept**: the written file starts with the existing file, item by item
    (kind, name and tokens), in the same order.  No hypothesis. -/
theorem C18_existing_preserved (v : Variant) (e : List Item) (n : List Group) :
    (regen v e n).take e.length = e := by
  simp [regen]

/-- **Exactly the missing items are appended**, in generation order. -/
theorem C18_appends_exactly_missing (v : Variant) (e : List Item) (n : List Group)
    (hok : NeededOk n) (hpre : v.Pre e n) :
    (regen v e n).drop e.length = missing e n := by
  simp [regen_eq v e n hok hpre]

/-- **Nothing that is appended was defined before** (in its namespace: types vs functions). -/
theorem C18_appended_fresh (v : Variant) (e : List Item) (n : List Group)
    (hok : NeededOk n) (hpre : v.Pre e n) :
    ∀ x ∈ (regen v e n).drop e.length, x.definedIn (typeNames e) (fnNames e) = false := by
  rw [C18_appends_exactly_missing v e n hok hpre]
  exact missing_fresh e n

/-- **No duplicates**: if neither the existing file nor the pristine generation defines a name twice,
    the written file does not either. -/
theorem C18_no_duplicates (v : Variant) (e : List Item) (n : List Group)
    (hok : NeededOk n) (hn : NoDupNames (allItems n)) (hpre : v.Pre e n) (he : NoDupNames e) :
    NoDupNames (regen v e n) :=
  regen_eq v e n hok hpre ▸ nodup_append_missing e n hn he

/-- **A second regeneration changes nothing** (needs no hypothesis on the existing file, and holds for
    the current code as well: the duplicates of F17 are produced once, not on every run). -/
theorem C18_idempotent (v : Variant) (hdr e : List Item) (n : List Group) (hok : NeededOk n) :
    run v hdr (.parsed (regen v e n)) n false true = .written (regen v e n) := by
  rw [C18_regeneration_writes, regen_idem v e n hok]

/-- **Forcing ignores the existing file** whatever it is (also when it does not parse), and gives
    what a run without any file gives. -/
theorem C18_force_ignores_existing (v : Variant) (hdr : List Item) (fs : FileState) (n : List Group)
    (force : Bool) :
    run v hdr fs n true true = .written (regen v hdr n) ∧
    run v hdr .absent n force true = .written (regen v hdr n) := by
  cases fs <;> cases force <;> simp [run, start, finish]

/-- The pristine file is the header followed by all generated items, provided no generated name is
    already defined by the header (`Input`, `Ctx`, `Token`).  This is the shape from which the
    harness reads off `n`. -/
theorem C18_pristine (v : Variant) (hdr : List Item) (n : List Group) (hok : NeededOk n)
    (hfree : ∀ x ∈ allItems n, x.definedIn (typeNames hdr) (fnNames hdr) = false) :
    regen v hdr n = hdr ++ allItems n := by
  rw [regen, gen_of_free v _ _ n hok hfree]

/-- A file `syn` cannot parse makes the non-forced run fail and leaves the file as it is. -/
theorem C18_unparsable_untouched (v : Variant) (hdr : List Item) (n : List Group) :
    run v hdr .unparsable n false true = .parseError ∧
    (run v hdr .unparsable n false true).after .unparsable = .unparsable := by
  simp [run, start, finish, Result.after]

theorem C18_actions_off_untouched (v : Variant) (hdr : List Item) (fs : FileState) (n : List Group)
    (force : Bool) :
    (run v hdr fs n force false).after fs = fs := by
  simp [run, Result.after]

/-! ## Settings: when is overwriting forced -/

/-- `Settings::new()` overwrites (`force: true`, settings.rs:146). -/
theorem C18_settings_default : (cfgOf []).force = true := rfl

/-- An explicit `.force(b)` decides, whatever came before and whatever non-`force` call follows. -/
theorem C18_settings_explicit_force (ops more : List SetOp) (b : Bool)
    (hmore : ∀ op ∈ more, op.isForce = false) :
    (cfgOf (ops ++ [.force b] ++ more)).force = b := by
  rw [cfgOf_append, cfgOf_append]
  exact (foldl_nonforce more (SetOp.apply (cfgOf ops) (.force b)) hmore).force rfl

/-- Without an explicit `force`, `.actions_in_source_tree()` / `.in_source_tree()` switch overwriting
    off: user edits are kept. -/
theorem C18_settings_source_tree (ops more : List SetOp) (op : SetOp)
    (hop : op = .actionsInSourceTree ∨ op = .inSourceTree)
    (hops : ∀ o ∈ ops, o.isForce = false) (hmore : ∀ o ∈ more, o.isForce = false) :
    (cfgOf (ops ++ [op] ++ more)).force = false := by
  rw [cfgOf_append, cfgOf_append]
  have hne : (cfgOf ops).forceExplicit = false := (foldl_nonforce ops {} hops).expl
  apply (foldl_nonforce more _ hmore).off
  rcases hop with rfl | rfl <;> simp [SetOp.apply, hne]

/-! ## The full statement: true of the fixed code, false of the code as it is (F17) -/

/-- Under `v.Pre` every clause of the statement holds (for `asIs` this is the partial result: the
    missing part is exactly the files that are not group-closed, see the counterexamples). -/
theorem C18_statement_partial (v : Variant) (hdr e : List Item) (n : List Group)
    (hok : NeededOk n) (hn : NoDupNames (allItems n)) (hpre : v.Pre e n) :
    ∃ r, run v hdr (.parsed e) n false true = .written r ∧
      r.take e.length = e ∧
      r.drop e.length = missing e n ∧
      (NoDupNames e → NoDupNames r) ∧
      run v hdr (.parsed r) n false true = .written r :=
  ⟨regen v e n, rfl, C18_existing_preserved v e n, C18_appends_exactly_missing v e n hok hpre,
    C18_no_duplicates v e n hok hn hpre, C18_idempotent v hdr e n hok⟩

/-- The proposed fix (`notes/C18-fix-1.diff`) satisfies the full statement. -/
theorem C18_statement_fixed : C18_statement .fixed :=
  fun hdr e n hok hn => C18_statement_partial .fixed hdr e n hok hn trivial

/-- The fix is conservative: on every group-closed file — in particular on every file in which each
    nonterminal either has all of its types or none, which is all the repository's test-suite and
    build scripts ever regenerate over — the fixed code writes exactly what the code as it is writes. -/
theorem C18_fix_conservative (e : List Item) (n : List Group) (hok : NeededOk n)
    (hc : GroupClosed e n) : regen .fixed e n = regen .asIs e n := by
  rw [regen_eq .fixed e n hok trivial, regen_eq .asIs e n hok hc]

/-- What holds of `/repo` now (instance at `repoVariant`; stays valid when the variant is switched). -/
theorem C18_repo (hdr e : List Item) (n : List Group)
    (hok : NeededOk n) (hn : NoDupNames (allItems n)) (hpre : repoVariant.Pre e n) :
    ∃ r, run repoVariant hdr (.parsed e) n false true = .written r ∧
      r.take e.length = e ∧
      r.drop e.length = missing e n ∧
      (NoDupNames e → NoDupNames r) ∧
      run repoVariant hdr (.parsed r) n false true = .written r :=
  C18_statement_partial repoVariant hdr e n hok hn hpre

/-- what is evaluated of the example files of `Proofs/RegenExample.lean` below, in one kernel run (the item names are strings:
each run pays for comparing them) -/
theorem evaluated :
    (NeededOk Example.needed ∧
     NoDupNames (allItems Example.needed) ∧
     NoDupNames Example.aliasDeleted ∧
     ¬ NoDupNames (regen .asIs Example.aliasDeleted Example.needed)) ∧
    (missing Example.aliasDeleted Example.needed = [Example.aAlias] ∧
     (regen .asIs Example.aliasDeleted Example.needed).drop Example.aliasDeleted.length
       = [Example.aNoO, Example.aAlias]) ∧
    (Variant.asIs.Pre Example.userEdited Example.needed ∧
     NoDupNames Example.userEdited ∧
     missing Example.userEdited Example.needed = [Example.numF, Example.aNoO, Example.aAlias]) ∧
    Variant.asIs.Pre Example.retyped Example.needed ∧
    missing Example.retyped Example.needed = [] ∧
    ∀ x ∈ allItems Example.needed,
      x.definedIn (typeNames Example.hdr) (fnNames Example.hdr) = false := by decide +kernel

/-- **F17, duplicates**: the existing file (only `type A = Option<ANoO>;` deleted from the pristine
    file) and the pristine generation have no duplicate names, yet the code as it is writes a file that
    defines `ANoO` twice. -/
theorem C18_counterexample_duplicates :
    NeededOk Example.needed ∧ NoDupNames (allItems Example.needed) ∧
    NoDupNames Example.aliasDeleted ∧
    ¬ NoDupNames (regen .asIs Example.aliasDeleted Example.needed) := evaluated.1

/-- **F17, not exactly the missing items**: the only missing item is the alias, the code as it is
    appends the struct as well. -/
theorem C18_counterexample_not_exactly_missing :
    missing Example.aliasDeleted Example.needed = [Example.aAlias] ∧
    (regen .asIs Example.aliasDeleted Example.needed).drop Example.aliasDeleted.length
      = [Example.aNoO, Example.aAlias] := evaluated.2.1

/-- The full statement is false of the code as it is. -/
theorem C18_statement_asIs_false : ¬ C18_statement .asIs := by
  intro h
  have ⟨hok, hn, he, hr⟩ := C18_counterexample_duplicates
  obtain ⟨r, hw, _, _, hnd, _⟩ := h Example.hdr Example.aliasDeleted Example.needed hok hn
  rw [C18_regeneration_writes] at hw
  injection hw with hw
  subst hw
  exact hr (hnd he)

/-- The same file under the fixed code: only the alias comes back. -/
theorem C18_fixed_on_counterexample :
    regen .fixed Example.aliasDeleted Example.needed = Example.aliasDeleted ++ [Example.aAlias] := by
  rw [regen_eq .fixed _ _ C18_counterexample_duplicates.1 trivial,
    C18_counterexample_not_exactly_missing.1]

/-- non-vacuity of `C18_appends_exactly_missing` / `C18_no_duplicates` / `C18_appended_fresh` for the
    code as it is: a heavily edited file (body rewritten, import and helper struct added, a terminal
    action and a whole type group deleted) satisfies all hypotheses, and three items are appended. -/
example : NeededOk Example.needed ∧ NoDupNames (allItems Example.needed) ∧
    Variant.asIs.Pre Example.userEdited Example.needed ∧ NoDupNames Example.userEdited ∧
    missing Example.userEdited Example.needed = [Example.numF, Example.aNoO, Example.aAlias] :=
  ⟨evaluated.1.1, evaluated.1.2.1, evaluated.2.2.1⟩

/-- non-vacuity: the tutorial-style edit (all types of `A` replaced by `type A = f32;`) is
    group-closed, and nothing is appended -/
example : Variant.asIs.Pre Example.retyped Example.needed ∧
    regen .asIs Example.retyped Example.needed = Example.retyped := by
  have hpre := evaluated.2.2.2.1
  exact ⟨hpre, by rw [regen_eq .asIs _ _ evaluated.1.1 hpre, evaluated.2.2.2.2.1, List.append_nil]⟩

/-- non-vacuity of `C18_pristine`: no generated name is defined by the header -/
example : ∀ x ∈ allItems Example.needed,
    x.definedIn (typeNames Example.hdr) (fnNames Example.hdr) = false := evaluated.2.2.2.2.2

/-- non-vacuity of `C18_idempotent` on the F17 file: the duplicate is produced once -/
example : regen .asIs (regen .asIs Example.aliasDeleted Example.needed) Example.needed
    = regen .asIs Example.aliasDeleted Example.needed :=
  regen_idem .asIs _ _ C18_counterexample_duplicates.1

/-- non-vacuity of the settings theorems: the chains used by `/repo/tests/build.rs` -/
example : (cfgOf [.force false, .actionsInSourceTree]).force = false ∧
    (cfgOf [.actionsInSourceTree]).force = false ∧
    (cfgOf [.force true, .actionsInSourceTree]).force = true ∧
    (cfgOf [.inSourceTree, .actions true]).force = false := by decide +kernel

end Rustemo.Props.C18
